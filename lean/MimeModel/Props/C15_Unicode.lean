import MimeModel.Lemmas.MediaTypeU
import MimeModel.Lemmas.MediaTypeUB
import MimeModel.Props.C15
/-
  C15 for ARBITRARY byte strings: `(*MIME).Is` / `EqualsAny` call `mime.ParseMediaType`, which
  trims *Unicode* white space, lower-cases with *Unicode* rules (U+212A -> k, U+0130 -> i are the only
  runes >= 0x80 that matter) and replaces invalid UTF-8 by U+FFFD.  `Mime.MTU.typeOfU` models the
  first return value for every byte string (compared with the real package by
  tools/mediatype_unicode_validation_test.go.txt); the theorems below lift C15 to it.
-/
namespace Mime.C15
open Mime Mime.Tree Mime.MT Mime.MTU

/-- model of `(*MIME).Is` on arbitrary bytes (mirror of `isM`) -/
def isMU (i : Info) (s : Bytes) : Bool := typeOfU s == typeOfU i.mime || i.aliases.contains (typeOfU s)
/-- model of `EqualsAny` on arbitrary bytes -/
def equalsAnyU (s : Bytes) (ms : List Bytes) : Bool := ms.any (fun m => typeOfU s == typeOfU m)

theorem typeOfU_ascii (v : Bytes) (h : ∀ b ∈ v, b < 0x80) : typeOfU v = typeOf v := by
  unfold typeOfU typeOf
  rw [parseU_ascii v h]

theorem errU_ascii (v : Bytes) (h : ∀ b ∈ v, b < 0x80) : errU v = (parse v).2.2 := by
  unfold errU
  rw [parseU_ascii v h]

theorem isMU_ascii (i : Info) (s : Bytes) (hi : ∀ b ∈ i.mime, b < 0x80) (hs : ∀ b ∈ s, b < 0x80) :
    isMU i s = isM i s := by
  unfold isMU isM
  rw [typeOfU_ascii s hs, typeOfU_ascii i.mime hi]

/-- **Unicode white space around the type is ignored**: `w1`, `w2` are arbitrary concatenations of
    the UTF-8 encodings of the 25 `unicode.IsSpace` runes (`spaceEncodings`: U+0009..U+000D, U+0020,
    U+0085, U+00A0, U+1680, U+2000..U+200A, U+2028, U+2029, U+202F, U+205F, U+3000), `t` is ANY byte
    string without `;` (valid UTF-8 or not), `rest` is empty or a parameter list -/
theorem typeOfU_trim_unicode (w1 t w2 rest : Bytes) (h1 : WS w1) (h2 : WS w2) (ht : ∀ c ∈ t, c ≠ 0x3B)
    (hrest : rest = [] ∨ ∃ r, rest = 0x3B :: r) : typeOfU (w1 ++ t ++ w2 ++ rest) = typeOfU (t ++ rest) := by
  unfold typeOfU
  rw [parseU_trim_unicode w1 t w2 rest h1 h2 ht hrest]

theorem errU_trim_unicode (w1 t w2 rest : Bytes) (h1 : WS w1) (h2 : WS w2) (ht : ∀ c ∈ t, c ≠ 0x3B)
    (hrest : rest = [] ∨ ∃ r, rest = 0x3B :: r) : errU (w1 ++ t ++ w2 ++ rest) = errU (t ++ rest) := by
  unfold errU
  rw [parseU_trim_unicode w1 t w2 rest h1 h2 ht hrest]

/-- **`E2 84 AA` (U+212A KELVIN SIGN) in front of the first `;` counts as `k`** — whatever
    surrounds it (`a` has no `;`; `a`, `b` arbitrary bytes otherwise) -/
theorem typeOfU_kelvin (a b : Bytes) (ha : ∀ c ∈ a, c ≠ 0x3B) :
    typeOfU (a ++ [0xE2, 0x84, 0xAA] ++ b) = typeOfU (a ++ [0x6B] ++ b) := by
  unfold typeOfU
  rw [parseU_kelvin a b ha]

/-- **`C4 B0` (U+0130) in front of the first `;` counts as `i`** -/
theorem typeOfU_idot (a b : Bytes) (ha : ∀ c ∈ a, c ≠ 0x3B) :
    typeOfU (a ++ [0xC4, 0xB0] ++ b) = typeOfU (a ++ [0x69] ++ b) := by
  unfold typeOfU
  rw [parseU_idot a b ha]

/-- **any other non-ASCII rune in the type part makes the result empty**: if decoding the part of
    `v` in front of the first `;` the way `for _, r := range` does (`runes`: every byte that does
    not start a shortest-form encoding of a scalar value yields U+FFFD) produces a rune `r >= 0x80`
    that is neither white space nor U+212A nor U+0130, then `ParseMediaType` returns
    `"", nil, "mime: …"` (one of the `checkMediaTypeDisposition` errors) -/
theorem typeOfU_nonascii_invalid (v : Bytes) (r : Nat) (hr : r ∈ runes (cutSemi v).1) (h80 : 0x80 ≤ r)
    (hk : r ≠ 0x212A) (hi : r ≠ 0x130) (hsp : isSpaceRune r = false) : typeOfU v = [] ∧ errU v = .noType := by
  unfold typeOfU errU
  rw [parseU_nonascii_invalid v r hr h80 hk hi hsp]
  exact ⟨rfl, rfl⟩

/-- a byte that occurs in no UTF-8 encoding at all (`C0`, `C1`, `F5`..`FF`) anywhere in front of the
    first `;` makes the result empty, whatever surrounds it.  (For continuation bytes and lead
    bytes it depends on the neighbours — `C2` followed by `A0` is a NBSP — and
    `typeOfU_nonascii_invalid` / `typeOfU_clean` are the precise statements.) -/
theorem typeOfU_invalid_byte (a b : Bytes) (c : Nat) (ha : ∀ x ∈ a, x ≠ 0x3B)
    (hc : c = 0xC0 ∨ c = 0xC1 ∨ 0xF5 ≤ c) : typeOfU (a ++ c :: b) = [] := by
  have hc3 : c ≠ 0x3B := by omega
  have hd : ∀ t, decode1 c t = (0xFFFD, t) := by
    intro t
    rcases decode1_spec c t with ⟨e, he, heq⟩ | ⟨_, h⟩
    · generalize (decode1 c t).1 = r at he
      cases he <;> cases (List.cons.inj heq).1 <;> omega
    · exact h
  have hcut : (cutSemi (a ++ c :: b)).1 = a ++ c :: (cutSemi b).1 := by
    rw [show a ++ c :: b = (a ++ [c]) ++ b from (List.append_cons ..),
      cutSemi_app2 (a ++ [c]) b (List.forall_mem_append.mpr ⟨ha, List.forall_mem_singleton.mpr hc3⟩), List.append_assoc]
    rfl
  refine (typeOfU_nonascii_invalid (a ++ c :: b) 0xFFFD ?_ (by decide) (by decide) (by decide) (by decide)).1
  rw [hcut]
  have hs : StartOK (c :: (cutSemi b).1) :=
    startOK_cons _ _ (Bool.eq_false_iff.mpr (fun h => by have := isCont_iff.mp h; omega))
  rw [runes_append' a _ hs, runes_cons, hd]
  simp

/-- byte-level converse of `typeOfU_nonascii_invalid`: whenever a media type comes back, the part of
    the argument in front of the first `;` consists only of ASCII bytes, `E2 84 AA`, `C4 B0` and
    encodings of white-space runes (`Clean`) -/
theorem typeOfU_clean (v : Bytes) (h : typeOfU v ≠ []) : Clean (cutSemi v).1 := parseU_clean v h

/-- `Is` depends on its argument only through the normalised type — for ALL byte strings -/
theorem is_by_type_U (i : Info) (s s' : Bytes) (h : typeOfU s = typeOfU s') : isMU i s = isMU i s' := by
  simp [isMU, h]

theorem equalsAny_by_type_U (s s' : Bytes) (ms : List Bytes) (h : typeOfU s = typeOfU s') :
    equalsAnyU s ms = equalsAnyU s' ms := by
  simp [equalsAnyU, h]

/-- `m.Is(s)` ⇔ the normalised `s` is m's type or one of its aliases, for every byte string `s`
    (for nodes whose own type is normalised) -/
theorem is_iff_U (i : Info) (hn : typeOfU i.mime = i.mime) (s : Bytes) :
    isMU i s = true ↔ typeOfU s = i.mime ∨ typeOfU s ∈ i.aliases := by
  simp [isMU, hn]

/-- `EqualsAny(s, ms...)` ⇔ some `m` has the same normalised type -/
theorem equalsAny_U (s : Bytes) (ms : List Bytes) :
    equalsAnyU s ms = true ↔ ∃ m ∈ ms, typeOfU s = typeOfU m := by
  simp [equalsAnyU]

theorem registered_asc (i : Info) (hi : i ∈ Gen.builtin.flatten) (n : Bytes) (hn : n ∈ i.mime :: i.aliases) :
    ∀ b ∈ n, b < 0x80 := by
  obtain ⟨maj, sub, hok⟩ := registered_ok i hi n hn
  intro b hb
  exact Nat.lt_succ_of_lt (checkType_lt n (checkType_ok n maj sub hok) b hb)

theorem registered_typeOfU (i : Info) (hi : i ∈ Gen.builtin.flatten) (n : Bytes) (hn : n ∈ i.mime :: i.aliases) :
    typeOfU n = n := by
  rw [typeOfU_ascii n (registered_asc i hi n hn), registered_typeOf i hi n hn]

/-- **C15 for all byte strings**: for a registered node, `Is(s)` holds exactly when the first result
    of `mime.ParseMediaType(s)` is the node's type or one of its aliases -/
theorem registered_is_iff_U (i : Info) (hi : i ∈ Gen.builtin.flatten) (s : Bytes) :
    isMU i s = true ↔ typeOfU s ∈ i.mime :: i.aliases := by
  rw [is_iff_U i (registered_typeOfU i hi i.mime (List.mem_cons_self ..)) s, List.mem_cons]

/-- on ASCII arguments the registered nodes answer as the ASCII model says -/
theorem registered_isMU_ascii (i : Info) (hi : i ∈ Gen.builtin.flatten) (s : Bytes) (hs : ∀ b ∈ s, b < 0x80) :
    isMU i s = isM i s :=
  isMU_ascii i s (registered_asc i hi i.mime (List.mem_cons_self ..)) hs

/-- **decorations, Unicode version**: for a registered type or alias `n`, any `t` whose normalised
    form (`normType`: decode, lower-case — including U+212A / U+0130 —, trim) is `n`, Unicode white
    space on both sides and any parameter list: the type that comes back is `n`, unless the
    parameter list has a duplicate (then `ParseMediaType` returns "" and an error) -/
theorem registered_decorated_U (i : Info) (hi : i ∈ Gen.builtin.flatten) (n : Bytes) (hn : n ∈ i.mime :: i.aliases)
    (t w1 w2 rest : Bytes) (ht : normType t = n) (hts : ∀ c ∈ t, c ≠ 0x3B) (h1 : WS w1) (h2 : WS w2)
    (hrest : rest = [] ∨ ∃ r, rest = 0x3B :: r) :
    typeOfU (w1 ++ t ++ w2 ++ rest) = n ∨ errU (w1 ++ t ++ w2 ++ rest) = .duplicate := by
  obtain ⟨maj, sub, hok⟩ := registered_ok i hi n hn
  have hct := checkType_ok n maj sub hok
  unfold typeOfU errU
  rw [parseU_trim_unicode w1 t w2 rest h1 h2 hts hrest, parseU_eq, cutSemi_split t rest hts hrest]
  simp only [ht]
  unfold parseCore
  simp only [hct, Bool.not_true, Bool.false_eq_true, ↓reduceIte]
  generalize parseParamsU semiOnlyU _ _ _ = e
  cases e with
  | none => left; rfl
  | invalidParam => left; rfl
  | noType => left; rfl
  | duplicate => right; rfl

-- "VİDEO/QUİCKTİME" (U+0130 three times, U+212A once) is video/quicktime
example : typeOfU [86, 196, 176, 68, 69, 79, 47, 81, 85, 196, 176, 67, 226, 132, 170, 84, 196, 176, 77, 69]
    = [118, 105, 100, 101, 111, 47, 113, 117, 105, 99, 107, 116, 105, 109, 101] := by decide +kernel
-- U+3000 "video/x-matros" U+212A "a" U+00A0 U+2003 `; codecs="a, b"` is video/x-matroska
example : typeOfU [227, 128, 128, 118, 105, 100, 101, 111, 47, 120, 45, 109, 97, 116, 114, 111, 115, 226, 132, 170, 97, 194, 160,
    226, 128, 131, 59, 32, 99, 111, 100, 101, 99, 115, 61, 34, 97, 44, 32, 98, 34]
    = [118, 105, 100, 101, 111, 47, 120, 45, 109, 97, 116, 114, 111, 115, 107, 97] := by decide +kernel
-- the QuickTime node `Is` "VİDEO/QUİCKTİME"
example : (Gen.builtin.lookup (fun j => j.mime == [118, 105, 100, 101, 111, 47, 113, 117, 105, 99, 107, 116, 105, 109, 101])).map
    (fun p => p.getLast?.map (fun j => isMU j [86, 196, 176, 68, 69, 79, 47, 81, 85, 196, 176, 67, 226, 132, 170, 84, 196, 176, 77, 69]))
    = some (some true) := by decide +kernel
-- "text/html" + U+00A0 (NBSP) is text/html
example : typeOfU [116, 101, 120, 116, 47, 104, 116, 109, 108, 194, 160] = [116, 101, 120, 116, 47, 104, 116, 109, 108] := by decide +kernel
-- "text/html" + U+200B (ZERO WIDTH SPACE: not white space): ""
example : typeOfU [116, 101, 120, 116, 47, 104, 116, 109, 108, 226, 128, 139] = [] := by decide +kernel
-- U+FEFF (BOM) + "text/html": ""
example : typeOfU [239, 187, 191, 116, 101, 120, 116, 47, 104, 116, 109, 108] = [] := by decide +kernel
-- "text/html" + U+180E (MONGOLIAN VOWEL SEPARATOR, white space until Unicode 6.3): ""
example : typeOfU [116, 101, 120, 116, 47, 104, 116, 109, 108, 225, 160, 142] = [] := by decide +kernel
-- a lone 0xFF: ""
example : typeOfU [0xFF] = [] ∧ errU [0xFF] = .noType := by decide +kernel
-- "text/html" + a truncated NBSP (C2): ""
example : typeOfU [116, 101, 120, 116, 47, 104, 116, 109, 108, 194] = [] := by decide +kernel
-- "text/html" + an overlong space (C0 A0): ""
example : typeOfU [116, 101, 120, 116, 47, 104, 116, 109, 108, 192, 160] = [] := by decide +kernel
-- "application/x-m" U+017F "-shortcut": LATIN SMALL LETTER LONG S is already lower case (only
-- `strings.EqualFold` / upper-casing would identify it with `s`): ""
example : typeOfU [97, 112, 112, 108, 105, 99, 97, 116, 105, 111, 110, 47, 120, 45, 109, 197, 191, 45, 115, 104, 111, 114, 116, 99, 117, 116]
    = [] := by decide +kernel
-- "appl" U+0131 "cation/json": dotless i stays dotless: ""
example : typeOfU [97, 112, 112, 108, 196, 177, 99, 97, 116, 105, 111, 110, 47, 106, 115, 111, 110] = [] := by decide +kernel
-- "text/" U+FF48 "tml" (full-width h): ""
example : typeOfU [116, 101, 120, 116, 47, 239, 189, 136, 116, 109, 108] = [] := by decide +kernel
-- "text/html" U+2028 ";" U+00A0 "charset": the type comes back with ErrInvalidMediaParameter
example : typeOfU [116, 101, 120, 116, 47, 104, 116, 109, 108, 226, 128, 168, 59, 194, 160, 99, 104, 97, 114, 115, 101, 116]
      = [116, 101, 120, 116, 47, 104, 116, 109, 108] ∧
    errU [116, 101, 120, 116, 47, 104, 116, 109, 108, 226, 128, 168, 59, 194, 160, 99, 104, 97, 114, 115, 101, 116] = .invalidParam := by decide +kernel
-- "text/html" U+2029 ";a=1;" U+2003 "A=2": duplicate parameter, ""
example : typeOfU [116, 101, 120, 116, 47, 104, 116, 109, 108, 226, 128, 169, 59, 97, 61, 49, 59, 226, 128, 131, 65, 61, 50] = [] ∧
    errU [116, 101, 120, 116, 47, 104, 116, 109, 108, 226, 128, 169, 59, 97, 61, 49, 59, 226, 128, 131, 65, 61, 50] = .duplicate := by decide +kernel
-- "text/html;" U+00A0 U+3000: a trailing semicolon followed by Unicode white space is fine
example : errU [116, 101, 120, 116, 47, 104, 116, 109, 108, 59, 194, 160, 227, 128, 128] = .none := by decide +kernel
-- "text/html;" U+200B: not white space, invalid parameter (the type still comes back)
example : typeOfU [116, 101, 120, 116, 47, 104, 116, 109, 108, 59, 226, 128, 139] = [116, 101, 120, 116, 47, 104, 116, 109, 108] ∧
    errU [116, 101, 120, 116, 47, 104, 116, 109, 108, 59, 226, 128, 139] = .invalidParam := by decide +kernel
-- "text/html;" U+212A "=1": attribute names are NOT Unicode-lower-cased into ASCII (the token ends at the first byte >= 0x80)
example : errU [116, 101, 120, 116, 47, 104, 116, 109, 108, 59, 226, 132, 170, 61, 49] = .invalidParam := by decide +kernel

/-- **the rune-level model is the literal transcription**: `typeOfB` follows Go's code byte by byte
    (`strings.ToLower` as `strings.Map` over the decoded runes, `strings.TrimSpace` with its ASCII fast paths and
    backward decoding, the parameter loop); it equals `typeOfU`, the model the theorems above speak of, on
    every byte string, valid UTF-8 or not (Lemmas/MediaTypeUB.lean) -/
theorem transcription_eq_model (v : Bytes) : MTU.typeOfB v = MTU.typeOfU v ∧ MTU.errB v = MTU.errU v :=
  ⟨MTU.typeOfB_eq_typeOfU v, MTU.errB_eq_errU v⟩

end Mime.C15
