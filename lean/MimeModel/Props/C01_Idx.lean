import MimeModel.Lemmas.Idx
import MimeModel.Gen.Writes
/-
  C01 for the hand-coded byte scanners outside the translated signature expressions: charset.go
  (FromBOM, FromPlain with its backwards loop over the last three bytes, latin, ascii,
  fromMetaElement, xmlEncoding, trimLWS), magic.go (trimLWS, trimRWS), text_csv.go (dropLastLine),
  text.go (scanLine, the loop of NdJSON, Text), archive.go (Tar, tarParseOctal, tarChksum).

  `Model/Idx.lean` transliterates each of them statement by statement with the Go index arithmetic:
  every index and slice expression goes through a checked primitive whose outcome `panic` means "the
  Go program would panic here"; every loop runs on explicit fuel with the separate outcome `fuel`.
  The theorems say: the outcome is always `ok`, and the value is the one the list model (used by all
  other properties) computes.  `AllBytes` is needed where Go indexes the 256-entry table with a byte.
-/
namespace Mime.C01
open Mime Mime.Charset Mime.Cust Mime.Idx Mime.IdxLemmas

theorem fromBOM_no_panic (content : Bytes) : fromBOMIdx content = .ok (fromBOM content) := fromBOMIdx_refines content
theorem ascii_no_panic (content : Bytes) : asciiIdx content = .ok (ascii content) := asciiIdx_refines content
theorem latin_no_panic (content : Bytes) (h : AllBytes content) : latinIdx content = .ok (latin content) := latinIdx_refines content h

/-- `FromPlain`: the backwards loop touches only `content[i]`, `content[i:]`, `content[:i]` with
    `len-4 < i < len`, `i ≥ 0` -/

theorem fromPlain_no_panic (content : Bytes) (h : AllBytes content) : fromPlainIdx content = .ok (fromPlain content) := by
  unfold fromPlainIdx fromPlain
  rw [length_beq_zero]
  cases hc : content.isEmpty
  case true => rfl
  · simp only [Bool.false_eq_true, if_false]
    rw [fromBOMIdx_refines]
    simp only [ok_bind]
    split
    · rfl
    · rw [stripLoop_fuel 4 (Nat.le_refl _)]
      simp only [ok_bind]
      rw [forRange_start, highBit_fold]
      simp only [ok_bind]
      rw [asciiIdx_refines, latinIdx_refines content h]
      simp only [ok_bind]
      have hv : ((if (stripPartial content).any (fun b => decide (b ≥ 0x80)) = true then
          (Step.ret true : Step Bool Bool) else Step.next false).val)
          = (stripPartial content).any (fun b => decide (b ≥ 0x80)) := by
        cases (stripPartial content).any (fun b => decide (b ≥ 0x80)) <;> rfl
      rw [hv]
      split
      · rfl
      · split <;> rfl

/-- `fromMetaElement`: the `for s != ""` loop terminates within `len(s)+1` iterations and its six
    slicing expressions are in range -/

theorem fromMetaElement_no_panic (s : Bytes) : fromMetaElementIdx (fuel := s.length + 1) s = .ok (fromMetaElement s) :=
  fromMetaElementIdx_fuel _ s (Nat.le_refl _)

theorem xmlEncoding_no_panic (s : Bytes) : xmlEncodingIdx s = .ok (xmlEncoding s) := by
  unfold xmlEncodingIdx xmlEncoding
  cases hix : indexOf kwEncodingEq s with
  | none => rfl
  | some idx =>
    have hb := indexOf_bound kwEncodingEq _ _ hix
    rw [kwEncodingEq_length] at hb ⊢
    simp only []
    rw [sliceFrom_le hb]
    simp only [ok_bind]
    generalize s.drop (idx + 9) = v
    cases v with
    | nil => rfl
    | cons q v1 =>
      simp only [length_beq_zero, List.isEmpty_cons, Bool.false_eq_true, if_false, elemAt_zero_cons, ok_bind]
      split
      · rfl
      · rw [sliceFrom_le (by simp)]
        simp only [ok_bind, List.drop_one, List.tail_cons]
        cases hq : indexByte q v1 with
        | none => rfl
        | some k =>
          have hk := indexByte_lt q v1 k hq
          simp only []
          rw [slice_le (by omega) (by simp; omega)]
          simp

theorem trimLWS_no_panic (inp : Bytes) : trimLWSIdx inp = .ok (trimLWS inp) := by
  unfold trimLWSIdx
  obtain ⟨j, h1, h2, h3⟩ := trimLWSLoop_spec inp (inp.length + 1) 0 (by omega) (by omega)
  rw [h1]
  simp only [ok_bind]
  rw [sliceFrom_le h2, h3]; rfl

theorem trimRWS_no_panic (inp : Bytes) : trimRWSIdx inp = .ok (trimRWS inp) := by
  unfold trimRWSIdx
  cases inp with
  | nil => rfl
  | cons a t =>
    have : ((a :: t).length : Int) - 1 = (t.length : Int) := by simp
    rw [this]
    obtain ⟨j, h1, h2, h3⟩ := trimRWSLoop_spec a t t.length ((a :: t).length + 1) (Nat.le_refl _) (by simp)
    rw [h1]
    simp only [ok_bind]
    have : (j : Int) + 1 = ((j + 1 : Nat) : Int) := by omega
    rw [this, sliceToI_ofNat, sliceTo_le (by simp; omega), h3]
    simp [trimRWS]

/-- `dropLastLine` on any examined header (the limit is a uint32, so the header is shorter than 4 GiB
    unless the limit is 0; the Go code compares `uint32(len(b))`) -/

theorem dropLastLine_no_panic (x : Bytes) (lim : Nat) (hl : lim < 4294967296) :
    dropLastLineIdx (header x lim) lim = .ok (dropLastLine (header x lim) lim) :=
  dropLastLineIdx_refines _ _ (header_small x lim hl)

theorem scanLine_no_panic (b : Bytes) : scanLineIdx b = .ok (scanLine b) := scanLineIdx_refines b

theorem ndjson_no_panic (x : Bytes) (lim : Nat) (hl : lim < 4294967296) :
    ndjsonIdx (header x lim) lim = .ok (ndjson (header x lim) lim) :=
  ndjsonIdx_refines (header_small x lim hl)

theorem text_no_panic (raw : Bytes) : textIdx raw = .ok (text raw) := by
  unfold textIdx text
  rw [fromBOMIdx_refines]
  simp only [ok_bind]
  split
  · rfl
  · rw [forRange_start, text_fold]
    simp only [ok_bind]
    cases raw.any binaryByte <;> rfl

/-- `Tar`: `raw[:512]`, `raw[:100]`, `raw[148:156]` are guarded by the length test -/
theorem tar_no_panic (raw : Bytes) (h : AllBytes raw) : tarIdx raw = .ok (tar raw) := by
  unfold tarIdx tar
  split
  · rfl
  · rename_i hlen
    rw [sliceTo_le (by omega)]
    simp only [ok_bind]
    have hbl : (raw.take 512).length = 512 := by simp; omega
    have hba := allBytes_take 512 h
    generalize raw.take 512 = blk at hbl hba
    rw [sliceTo_le (by omega)]
    simp only [ok_bind]
    split
    · rfl
    · rw [slice_le (by omega) (by omega)]
      simp only [ok_bind]
      rw [tarParseOctalIdx_refines (by simp; omega), tarChksumIdx_refines blk hba (by omega)]
      simp only [ok_bind, Mime.slice]
      cases tarParseOctal (List.drop 148 (List.take 156 blk)) with
      | none => rfl
      | some n =>
        simp only [optInt]
        have : ((n : Int) == -1) = false := by rw [beq_eq_false_iff_ne]; omega
        simp only [this, Bool.false_eq_true, if_false, pure_eq, natCast_beq]

/-- what `Model/Idx.lean` transliterates: per function, the index and slice expressions it may
    evaluate (as a set; the names of variables are written `_`, as the extractor writes them) -/
def modelledIndexSets : List (String × List String) := [
  ("charset.FromPlain", ["_[:_]", "_[_:]", "_[_]"]),
  ("charset.ascii", ["_[_]"]),
  ("charset.fromMetaElement", ["_[0]", "_[1:]", "_[:_]", "_[_+len(\"_\"):]"]),
  ("charset.latin", ["_[_]"]),
  ("charset.trimLWS", ["_[_:]", "_[_]"]),
  ("charset.xmlEncoding", ["_[0]", "_[1 : _+1]", "_[1:]", "_[_+len(_):]"]),
  ("magic.Tar", ["_[148:156]", "_[:100]", "_[:_]"]),
  ("magic.dropCR", ["_[0 : len(_)-1]", "_[len(_)-1]"]),
  ("magic.dropLastLine", ["_[:_]", "_[_]"]),
  ("magic.trimLWS", ["_[_:]", "_[_]"]),
  ("magic.trimRWS", ["_[:_+1]", "_[_]"])]

/-- **regenerated tie**: every index and slice expression of these functions in the current source is one of
    those `Model/Idx.lean` transliterates for that function (a set inclusion: dropped, repeated or moved
    expressions need no new reading; a new expression does) -/

theorem index_expressions_within_modelled :
    (Gen.Writes.indexSets.all fun fe =>
      match modelledIndexSets.lookup fe.1 with
      | some xs => fe.2.all (fun e => xs.contains e)
      | none => fe.2.isEmpty) = true := by decide +kernel

/- the checked primitives do panic when asked to (the model can express the failure it excludes) -/
example : elemAt [1, 2, 3] 3 = (Out.panic : Out Nat) := by decide +kernel
example : sliceFrom [1, 2, 3] 4 = (Out.panic : Out Bytes) := by decide +kernel

end Mime.C01
