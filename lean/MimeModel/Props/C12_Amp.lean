import MimeModel.Lemmas.HtmlUnescape
import MimeModel.Lemmas.OfString
/-
  C12, HTML clause, with character references modelled.  `Tokenizer.TagAttr` of x/net/html returns
  `unescape(convertNewlines(val), true)`; `Model/HtmlUnescape.lean` transcribes `unescape` / `unescapeEntity`
  of escape.go (tables regenerated from the x/net version /repo builds against, `Model/HtmlEntities.lean`),
  validated against the real tokenizer (tools/html_unescape_validation_test.go.txt).  The tokenizer model `startTagsFull` is total and the closed model of
  `Detect` uses it: only the declared label itself must be free of `&`.
-/
namespace Mime.C12
open Mime Mime.Charset Mime.HtmlTok Mime.HtmlEnt Mime.HtmlTokLemmas Mime.HtmlUnescapeLemmas

/-- without `&` a value is returned as it is (the fast path of `unescape`) -/
theorem unescape_noAmp (a : Bool) (b : Bytes) (h : b.contains 0x26 = false) : unescape a b = b :=
  HtmlUnescapeLemmas.unescape_noAmp a b h

/-- `&` in front of a byte that cannot start a reference stays `&` -/
theorem unescape_amp_only (a : Bool) (c : Nat) (rest : Bytes) (h1 : c ≠ 0x23) (h2 : isAlnum c = false) :
    unescape a (0x26 :: c :: rest) = 0x26 :: unescape a (c :: rest) :=
  HtmlUnescapeLemmas.unescape_amp_only a c rest h1 h2

/-- the total tokenizer model extends the partial one `startTags` -/
theorem startTagsFull_extends (c : Bytes) (ts : List Tag) (h : startTags c = some ts) : startTagsFull c = ts :=
  startTagsFull_of_startTags c ts h

/-- `FromHTML` reads three attribute values of `meta` tags and no others: references anywhere else
    (other attributes, other tags, keys, text) do not change its answer -/
theorem fromHTML_values_unescaped (c : Bytes)
    (h : ∀ t ∈ rawTags c, t.name = kMeta → ∀ kv ∈ t.attrs, readKey kv.1 = true → kv.2.contains 0x26 = false) :
    fromHTMLBytesFull c = Charset.fromHTML c ((rawTags c).map finishTag) :=
  HtmlUnescapeLemmas.fromHTML_values_unescaped c h

/-- C12 (HTML, `<meta charset>`), no side condition on the rest of the document: a `meta` tag
    after a prologue of other tags, carrying a `charset` attribute (any letter case, any quoting)
    whose label has no `&` and no CR, among attributes with inert keys and ARBITRARY values, in a
    document without BOM: `FromHTML` answers the normalised label, whatever the prologue, the other
    values and the rest of the document contain -/
theorem charset_value_unescaped (P nm ws0 : Bytes) (pre post : List AttrSrc)
    (cs : Bytes) (form : ValForm) (L sep rest : Bytes)
    (hP : Prologue P) (hnm : lowerASCII nm = kMeta)
    (hws : ∀ x ∈ ws0, isWS x = true) (hws0 : ws0 ≠ [])
    (hcs : lowerASCII cs = kwCharset)
    (hwf : attrsWf (pre ++ charsetAttr cs form L sep :: post))
    (hpre : ∀ a ∈ pre, inertKey a.key) (hpost : ∀ a ∈ post, inertKey a.key)
    (hL : L ≠ []) (hcr : ∀ c ∈ L, c ≠ 0x0D) (hamp : L.contains 0x26 = false)
    (hbom : fromBOM (P ++ tagText nm ws0 (pre ++ charsetAttr cs form L sep :: post) ++ rest) = csNone) :
    fromHTMLBytesFull (P ++ tagText nm ws0 (pre ++ charsetAttr cs form L sep :: post) ++ rest) = norm L :=
  HtmlUnescapeLemmas.charset_value_unescaped P nm ws0 pre post cs form L sep rest hP hnm hws hws0 hcs hwf hpre hpost hL hcr hamp hbom

/-- the plain form `P <meta charset=qLq> rest` with a token label -/
theorem charset_value_unescaped_simple (P nm cs : Bytes) (form : ValForm) (L rest : Bytes)
    (hP : Prologue P) (hnm : lowerASCII nm = kMeta) (hcs : lowerASCII cs = kwCharset)
    (hL : L ≠ []) (htok : ∀ c ∈ L, tokenChar c = true)
    (hbom : fromBOM (P ++ tagText nm [0x20] [charsetAttr cs form L []] ++ rest) = csNone) :
    fromHTMLBytesFull (P ++ tagText nm [0x20] [charsetAttr cs form L []] ++ rest) = norm L :=
  HtmlUnescapeLemmas.charset_value_unescaped_simple P nm cs form L rest hP hnm hcs hL htok hbom

/-- a label written with character references is the decoded label: `<meta charset="utf&#45;8">`
    declares utf-8 (the partial model `fromHTMLBytes` gives no answer here) -/
example : fromHTMLBytes (ofString "<meta charset=\"utf&#45;8\">") = none ∧
    fromHTMLBytesFull (ofString "<meta charset=\"utf&#45;8\">") = ofString "utf-8" := by
  repeat rw [ofString_ofList]
  decide +kernel

end Mime.C12
