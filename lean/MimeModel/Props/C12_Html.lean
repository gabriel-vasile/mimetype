import MimeModel.Lemmas.HtmlTok
import MimeModel.Lemmas.OfString
/-
  C12, HTML clause, at byte level: the start tags that Props/C12.lean takes as a parameter are
  computed by `HtmlTok.startTags`, the one-byte-per-step model of the x/net/html tokenizer
  (Model/HtmlTok.lean).  One deliberate exclusion: an attribute value containing `&` (character
  references) makes that model answer `none`; Props/C12_Amp.lean lifts it.  How the model was
  compared with the real tokenizer is told in DESIGN.md.
-/
namespace Mime.C12
open Mime Mime.Charset Mime.HtmlTok Mime.HtmlTokLemmas

/-- coverage of the model: every input without `&` is covered -/
theorem html_model_covers (doc : Bytes) (h : ∀ c ∈ doc, c ≠ 0x26) : startTags doc ≠ none := by
  have e : (rawTags doc).any hasAmp = false :=
    List.any_eq_false.mpr fun t ht => Bool.not_eq_true _ ▸ run_inv (I := (stAmp · = false)) good_step doc h .data rfl t ht
  rw [startTags, e]
  exact nofun

/-- the general form: the `charset` attribute anywhere among inert attributes of the first `meta` -/
theorem html_meta_charset_general (P nm ws0 : Bytes) (pre post : List AttrSrc)
    (cs : Bytes) (form : ValForm) (L sep rest : Bytes)
    (hP : Prologue P) (hnm : lowerASCII nm = kMeta)
    (hws : ∀ x ∈ ws0, isWS x = true) (hws0 : ws0 ≠ [])
    (hcs : lowerASCII cs = kwCharset)
    (hwf : attrsWf (pre ++ charsetAttr cs form L sep :: post))
    (hpre : ∀ a ∈ pre, inertKey a.key) (hpost : ∀ a ∈ post, inertKey a.key)
    (hL : L ≠ []) (hcr : ∀ c ∈ L, c ≠ 0x0D)
    (hbom : fromBOM (P ++ tagText nm ws0 (pre ++ charsetAttr cs form L sep :: post) ++ rest) = csNone)
    (hcov : startTags (P ++ tagText nm ws0 (pre ++ charsetAttr cs form L sep :: post) ++ rest) ≠ none) :
    fromHTMLBytes (P ++ tagText nm ws0 (pre ++ charsetAttr cs form L sep :: post) ++ rest) = some (norm L) := by
  refine fromHTMLBytes_meta_decides P nm ws0 rest (norm L) hP hnm hws (fun h => absurd h hws0) hwf ?_
    (norm_ne_nil L hL) hbom hcov
  intro more
  have hparsed : (parsed (pre ++ charsetAttr cs form L sep :: post)).map (fun kv => (kv.1, convNL kv.2)) =
      (parsed pre).map (fun kv => (kv.1, convNL kv.2)) ++ (kwCharset, L) ::
        (parsed post).map (fun kv => (kv.1, convNL kv.2)) := by
    simp [parsed, charsetAttr, hcs, convNL_id L hcr]
  simp only [finishTag, hparsed]
  exact C12.meta_charset_anywhere L _ _ _ (inert_finished pre hpre) (inert_finished post hpost)

/-- **C12 (HTML `<meta charset>`, byte level)**: `doc = P <meta charset=qLq> rest` — `P` a prologue of
    text, comments, a doctype and other (non-raw-text, non-meta) start and end tags; `meta` / `charset`
    in any letter case; any of the three quoting styles; `L` a non-empty label of token characters;
    no byte-order mark; no `&` in `P` and `rest`: `FromHTML` reports the label in lower case
    (utf-8 for utf-16 labels), whatever follows -/
theorem html_meta_charset_bytes (P nm cs : Bytes) (form : ValForm) (L rest : Bytes)
    (hP : Prologue P) (hnm : lowerASCII nm = kMeta) (hcs : lowerASCII cs = kwCharset)
    (hL : L ≠ []) (htok : ∀ c ∈ L, tokenChar c = true)
    (hbom : fromBOM (P ++ tagText nm [0x20] [charsetAttr cs form L []] ++ rest) = csNone)
    (hamp : ∀ c ∈ P ++ rest, c ≠ 0x26) :
    fromHTMLBytes (P ++ tagText nm [0x20] [charsetAttr cs form L []] ++ rest) = some (norm L) := by
  have hcsl := letters_of_lower cs kwCharset hcs kwCharset_lower
  have hnml := letters_of_lower nm kMeta hnm kMeta_lower
  have key : ∀ l : Bytes, (∀ c ∈ l, c ≠ 0x26) ↔ l.all (· != 0x26) = true := by
    intro l; simp [List.all_eq_true]
  have hcov : startTags (P ++ tagText nm [0x20] ([] ++ charsetAttr cs form L [] :: []) ++ rest) ≠ none := by
    apply html_model_covers
    have h1 : P.all (· != 0x26) = true := (key P).mp (fun c hc => hamp c (List.mem_append_left _ hc))
    have h2 : rest.all (· != 0x26) = true := (key rest).mp (fun c hc => hamp c (List.mem_append_right _ hc))
    have h3 : nm.all (· != 0x26) = true := (key nm).mp (fun c hc => isLetter_ne_amp (hnml c hc))
    have h4 : cs.all (· != 0x26) = true := (key cs).mp (fun c hc => isLetter_ne_amp (hcsl c hc))
    have h5 : L.all (· != 0x26) = true := (key L).mp fun c hc => by
      obtain ⟨_, _, _, _, hamp⟩ := tokenChar_spec (htok c hc)
      exact hamp
    rw [key]
    cases form <;>
    · simp only [tagText, attrsText, AttrSrc.text, AttrSrc.valText, charsetAttr, List.nil_append, List.append_nil,
        List.all_append, List.all_cons, List.all_nil, Bool.and_eq_true, Bool.and_true, h1, h2, h3, h4, h5]
      decide
  exact html_meta_charset_general P nm [0x20] [] [] cs form L [] rest hP hnm (by decide) (by decide) hcs
    (charsetAttr_wf cs form L hcs hL htok)
    (fun _ h => nomatch h) (fun _ h => nomatch h) hL (fun c hc e => absurd (e ▸ (tokenChar_spec (htok c hc)).1) (by decide))
    hbom hcov

/-- `html_meta_charset_bytes` applies: `<!--x--><MeTa CHARSET='Latin1'>…` -/
example (rest : Bytes) (h : ∀ c ∈ rest, c ≠ 0x26) :
    fromHTMLBytes (commentText [0x78] ++ tagText [77, 101, 84, 97] [0x20] [charsetAttr [67, 72, 65, 82, 83, 69, 84] .sq [76, 97, 116, 105, 110, 49] []] ++ rest)
      = some [108, 97, 116, 105, 110, 49] := by
  have hP : Prologue (commentText [0x78] ++ []) := .comment _ _ rfl .nil
  exact html_meta_charset_bytes (commentText [0x78]) [77, 101, 84, 97] [67, 72, 65, 82, 83, 69, 84] .sq [76, 97, 116, 105, 110, 49] rest
    (List.append_nil (commentText [0x78]) ▸ hP) (by decide +kernel) (by decide +kernel) (by decide) (by decide +kernel) (fromBOM_lt _)
    (fun c hc => (List.mem_append.mp hc).elim ((by decide +kernel : ∀ c ∈ commentText [0x78], c ≠ 0x26) c) (h c))

/-- the `http-equiv=Content-Type` pragma, in either attribute order -/
theorem html_pragma_bytes (P nm ws0 : Bytes) (a1 a2 : AttrSrc) (post : List AttrSrc) (rest : Bytes)
    (hP : Prologue P) (hnm : lowerASCII nm = kMeta)
    (hws : ∀ x ∈ ws0, isWS x = true) (hws0 : ws0 ≠ [])
    (hk : (lowerASCII a1.key = kHttpEquiv ∧ lowerASCII a2.key = kContent ∧
            lowerASCII a1.val = kContentType ∧ fromMetaElement (lowerASCII a2.val) ≠ [] ∧
            (∀ c ∈ a1.val, c ≠ 0x0D) ∧ (∀ c ∈ a2.val, c ≠ 0x0D)))
    (hwf : attrsWf (a1 :: a2 :: post) ∧ attrsWf (a2 :: a1 :: post))
    (hpost : ∀ a ∈ post, inertKey a.key) :
    (fromBOM (P ++ tagText nm ws0 (a1 :: a2 :: post) ++ rest) = csNone →
     startTags (P ++ tagText nm ws0 (a1 :: a2 :: post) ++ rest) ≠ none →
     fromHTMLBytes (P ++ tagText nm ws0 (a1 :: a2 :: post) ++ rest) =
       some (C12.finalLabel (fromMetaElement (lowerASCII a2.val)))) ∧
    (fromBOM (P ++ tagText nm ws0 (a2 :: a1 :: post) ++ rest) = csNone →
     startTags (P ++ tagText nm ws0 (a2 :: a1 :: post) ++ rest) ≠ none →
     fromHTMLBytes (P ++ tagText nm ws0 (a2 :: a1 :: post) ++ rest) =
       some (C12.finalLabel (fromMetaElement (lowerASCII a2.val)))) := by
  obtain ⟨hk1, hk2, hv1, hv2, hc1, hc2⟩ := hk
  have hne := C12.finalLabel_ne hv2
  have hpr := fun ts => C12.meta_pragma a1.val a2.val ((parsed post).map (fun kv => (kv.1, convNL kv.2))) ts hv1 hv2
    (inert_finished post hpost)
  constructor
  · intro hbom hcov
    refine fromHTMLBytes_meta_decides P nm ws0 rest _ hP hnm hws (fun h => absurd h hws0) hwf.1 ?_ hne hbom hcov
    intro more
    simp only [finishTag, parsed, List.map_cons, hk1, hk2, convNL_id _ hc1, convNL_id _ hc2]
    exact (hpr more).1
  · intro hbom hcov
    refine fromHTMLBytes_meta_decides P nm ws0 rest _ hP hnm hws (fun h => absurd h hws0) hwf.2 ?_ hne hbom hcov
    intro more
    simp only [finishTag, parsed, List.map_cons, hk1, hk2, convNL_id _ hc1, convNL_id _ hc2]
    exact (hpr more).2

/-- "scripts containing fake metas": a `<meta …>` spelled inside `<script>…</script>` is no tag -/
theorem html_script_hides_meta (nm ws0 : Bytes) (as : List AttrSrc) (body cnm cws rest : Bytes)
    (hnm : lowerASCII nm = kScript) (hws : ∀ x ∈ ws0, isWS x = true) (hws0 : ws0 = [] → as = [])
    (hwf : attrsWf as) (hbody : scriptBodyOk body = true)
    (hcnm : lowerASCII cnm = kScript) (hcws : ∀ x ∈ cws, isWS x = true) :
    rawTags (tagText nm ws0 as ++ body ++ endTagText cnm cws ++ rest) =
      { name := kScript, attrs := parsed as } :: rawTags rest :=
  script_hides_meta nm ws0 as body cnm cws rest hnm hws hws0 hwf hbody hcnm hcws

/-- a `<meta …>` spelled inside title, style, textarea, iframe, noembed, noframes, noscript or xmp is no tag -/
theorem html_rawtext_hides_meta (tag nm ws0 : Bytes) (as : List AttrSrc) (body cnm cws rest : Bytes)
    (htag : tag ∈ rawNames)
    (hnm : lowerASCII nm = tag) (hws : ∀ x ∈ ws0, isWS x = true) (hws0 : ws0 = [] → as = [])
    (hwf : attrsWf as) (hbody : rawBodyOk tag body = true)
    (hcnm : lowerASCII cnm = tag) (hcws : ∀ x ∈ cws, isWS x = true) :
    rawTags (tagText nm ws0 as ++ body ++ endTagText cnm cws ++ rest) =
      { name := tag, attrs := parsed as } :: rawTags rest :=
  rawtext_hides_meta tag nm ws0 as body cnm cws rest htag hnm hws hws0 hwf hbody hcnm hcws

/-- a `<meta …>` spelled inside a comment is no tag -/
theorem html_comment_hides_meta (c rest : Bytes) (h : commentBodyOk c = true) :
    rawTags (commentText c ++ rest) = rawTags rest := run_comment c rest h

/-- truncation: the tags reported for a cut header are a prefix of the tags of the whole document -/
theorem html_truncation (a b : Bytes) : ∃ more, rawTags (a ++ b) = rawTags a ++ more := run_prefix a b .data

/-- a start tag cut off before its `>` is not reported -/
theorem html_no_tag_without_gt (w : Bytes) (h : ∀ c ∈ w, c ≠ 0x3E) (st : St) : run st w = [] :=
  List.eq_nil_iff_forall_not_mem.mpr fun t =>
    run_inv (I := fun _ => True) (Q := fun _ => False)
      (fun st c _ hc => ⟨trivial, fun _ ht => nomatch (step_emits_on_gt st c hc).symm.trans ht⟩) w h st trivial t

/- a comment with a fake meta, then the real one in mixed case with single quotes -/
example : fromHTMLBytes (ofString "<!--<meta charset=fake>--><MeTa CHARSET='Latin1'><body>x") = some (ofString "latin1") := by
  rw [ofString_ofList, ofString_ofList]
  decide +kernel

end Mime.C12
