import MimeModel.Props.C19
import MimeModel.Lemmas.DetectPath
/-
  C19 through `Detect` (limit 0): when the zip walk finds the marker of docx / xlsx / pptx / jar,
  the reported leaf is that format with application/zip as its parent and the root above —
  unless a format consulted before it accepts (regenerated lists: xpm, 7z before zip; the zip
  children in front of the format).
-/
namespace Mime.C19
open Mime Mime.Cust Mime.Tree Mime.WalkPath Mime.DetectPath

def isNamed (n : String) (t : Tree Info) : Bool := t.info.name == n

def zipNode : Tree Info := (Gen.builtin.children.find? (isNamed "zip")).getD Gen.builtin
def zipChild (n : String) : Tree Info := (zipNode.children.find? (isNamed n)).getD Gen.builtin
def zipPath (n : String) : List (Tree Info → Bool) := [isNamed "zip", isNamed n]

theorem zip_found : Gen.builtin.children.find? (isNamed "zip") = some zipNode :=
  found _ (by decide +kernel)

theorem child_found (n : String) (h : (zipNode.children.find? (isNamed n)).isSome = true) :
    zipNode.children.find? (isNamed n) = some (zipChild n) :=
  found _ h

/-- regenerated: the four marker formats, their checks (marker and the OOXML first-entry rule) and
    that they are leaves -/
theorem child_facts :
    (zipChild "docx").info.det = .expr (.prim (.zipContains [119, 111, 114, 100, 47] true)) ∧ (zipChild "docx").children = [] ∧
    (zipChild "xlsx").info.det = .expr (.prim (.zipContains [120, 108, 47] true)) ∧ (zipChild "xlsx").children = [] ∧
    (zipChild "pptx").info.det = .expr (.prim (.zipContains [112, 112, 116, 47] true)) ∧ (zipChild "pptx").children = [] ∧
    (zipChild "jar").info.det = .expr (.prim (.zipContains C19Base.kManifest false)) ∧ (zipChild "jar").children = [] := by
  decide +kernel

/-- regenerated: what is consulted before zip at the root, and before each format below zip -/
theorem zip_rivals :
    (Gen.builtin.children.takeWhile (fun x => !isNamed "zip" x)).map (·.info.name) = ["xpm", "sevenZ"] ∧
    (zipNode.children.takeWhile (fun x => !isNamed "xlsx" x)).map (·.info.name) = [] ∧
    (zipNode.children.takeWhile (fun x => !isNamed "docx" x)).map (·.info.name) = ["xlsx"] ∧
    (zipNode.children.takeWhile (fun x => !isNamed "pptx" x)).map (·.info.name) = ["xlsx", "docx"] ∧
    (zipNode.children.takeWhile (fun x => !isNamed "jar" x)).map (·.info.name) = ["xlsx", "docx", "pptx", "epub", "odt", "ods", "odp", "odg", "odf", "odc", "sxc", "apk"] := by
  decide +kernel

/-- the `Zip` check (regenerated expression) accepts everything that starts with a local header -/
theorem zip_accepts (ext : Ext) (r : Bytes) (lim : Nat) :
    accepts ext (pk34 ++ r) lim zipNode.info = true := by
  have hd : zipNode.info.det = Gen.d_Zip := by decide +kernel
  unfold accepts Cust.detEval
  rw [hd]
  simp [Gen.d_Zip, Det.evalWith, BExp.eval, IExp.eval, Cmp.eval, pk34, getB]

theorem accepts_zipContains (ext : Ext) (raw : Bytes) (lim : Nat) (i : Info) (sig : Bytes) (mso : Bool)
    (hd : i.det = .expr (.prim (.zipContains sig mso))) :
    accepts ext raw lim i = (zipContains raw sig mso == some true) := by
  unfold accepts Cust.detEval
  rw [hd]
  simp [Det.evalWith, BExp.eval, Prim.eval]

theorem child_detected (ext : Ext) (r : Bytes) (n : String) {sig : Bytes} (mso : Bool)
    (hfound : zipNode.children.find? (isNamed n) = some (zipChild n))
    (hdet : (zipChild n).info.det = .expr (.prim (.zipContains sig mso))) (hleaf : (zipChild n).children = [])
    (h : zipContains (pk34 ++ r) sig mso = some true) :
    (detect ext Gen.builtin (pk34 ++ r) 0).chain = [(zipChild n).info, zipNode.info, Gen.builtin.info] ∨
    (∃ d ∈ rivals (zipPath n) Gen.builtin, accepts ext (pk34 ++ r) 0 d.info = true) := by
  have hhdr : header (pk34 ++ r) 0 = pk34 ++ r := rfl
  have hacc : accepts ext (pk34 ++ r) 0 (zipChild n).info = true := by
    rw [accepts_zipContains ext _ 0 _ sig mso hdet, h]
    rfl
  have hp : pathNodes (zipPath n) Gen.builtin = [zipNode, zipChild n] := by
    rw [zipPath, pathNodes_step zip_found, pathNodes_step hfound]
    rfl
  refine (detect_along_childless ext Gen.builtin (pk34 ++ r) 0 (zipPath n) (zipChild n) ?_ ?_ hleaf).imp
    (fun h => ?_) (fun h => hhdr ▸ h)
  · rw [zipPath, descend_step zip_found, descend_step hfound]
    rfl
  · rw [hp, hhdr]
    exact List.forall_mem_cons.2 ⟨zip_accepts ext r 0, List.forall_mem_singleton.2 hacc⟩
  · rw [h.1, hp]
    rfl

/-- **docx through `Detect`**: the `word/` marker found by the zip walk (e.g. under the layout
    hypotheses of `layout_forward`) ⇒ reported as docx below application/zip, unless xpm, 7z or
    xlsx accept -/
theorem docx_detected (ext : Ext) (r : Bytes) (h : zipContains (pk34 ++ r) [119, 111, 114, 100, 47] true = some true) :
    (detect ext Gen.builtin (pk34 ++ r) 0).chain = [(zipChild "docx").info, zipNode.info, Gen.builtin.info] ∨
    (∃ d ∈ rivals (zipPath "docx") Gen.builtin, accepts ext (pk34 ++ r) 0 d.info = true) := by
  obtain ⟨hdet, hchildless, _⟩ := child_facts
  exact child_detected ext r "docx" true (child_found _ (by decide +kernel)) hdet hchildless h

theorem xlsx_detected (ext : Ext) (r : Bytes) (h : zipContains (pk34 ++ r) [120, 108, 47] true = some true) :
    (detect ext Gen.builtin (pk34 ++ r) 0).chain = [(zipChild "xlsx").info, zipNode.info, Gen.builtin.info] ∨
    (∃ d ∈ rivals (zipPath "xlsx") Gen.builtin, accepts ext (pk34 ++ r) 0 d.info = true) := by
  obtain ⟨_, _, hdet, hchildless, _⟩ := child_facts
  exact child_detected ext r "xlsx" true (child_found _ (by decide +kernel)) hdet hchildless h

theorem pptx_detected (ext : Ext) (r : Bytes) (h : zipContains (pk34 ++ r) [112, 112, 116, 47] true = some true) :
    (detect ext Gen.builtin (pk34 ++ r) 0).chain = [(zipChild "pptx").info, zipNode.info, Gen.builtin.info] ∨
    (∃ d ∈ rivals (zipPath "pptx") Gen.builtin, accepts ext (pk34 ++ r) 0 d.info = true) := by
  obtain ⟨_, _, _, _, hdet, hchildless, _⟩ := child_facts
  exact child_detected ext r "pptx" true (child_found _ (by decide +kernel)) hdet hchildless h

theorem jar_detected (ext : Ext) (r : Bytes) (h : zipContains (pk34 ++ r) C19Base.kManifest false = some true) :
    (detect ext Gen.builtin (pk34 ++ r) 0).chain = [(zipChild "jar").info, zipNode.info, Gen.builtin.info] ∨
    (∃ d ∈ rivals (zipPath "jar") Gen.builtin, accepts ext (pk34 ++ r) 0 d.info = true) := by
  obtain ⟨_, _, _, _, _, _, hdet, hchildless⟩ := child_facts
  exact child_detected ext r "jar" false (child_found _ (by decide +kernel)) hdet hchildless h

end Mime.C19
