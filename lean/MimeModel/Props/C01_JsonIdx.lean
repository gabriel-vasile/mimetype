import MimeModel.Lemmas.JsonIdx
import MimeModel.Gen.Writes
/-
  C01 for the JSON scanner: `Model/JsonIdx.lean` transliterates internal/json/parser.go statement
  by statement with the Go index arithmetic (the cursor `n`, `b[n]`, `b[n:]`, `b[n:n+keyLen-1]`,
  `b[n:n+valLen]`, `qs[queryMatched]`, the path-stack pops `p.currPath[:len(p.currPath)-1]`), the
  `complete` flag and Go's return conventions; every index and slice goes through a checked
  primitive (`panic` = the Go program would panic), every loop and the recursion run on explicit
  fuel (`fuel` = did not finish).  `parseIdx_refines`: for every query list, cap and input the
  outcome is `ok` with exactly the result of the list model `Json.parseWith` that all other JSON
  theorems are about.  So: no index or slice of the scanner is ever out of range (the path stack is
  never popped when empty), and the scanner terminates within `2·len + 4` levels of fuel.
-/
namespace Mime.C01
open Mime Mime.Json Mime.JsonIdxLemmas

/-- **the JSON scanner never panics, terminates, and computes what the list model computes** -/
theorem json_scanner_refines (qs : List Gen.Json.Query) (cap : Nat) (raw : Bytes) :
    JsonIdx.parseIdx qs cap raw = .ok (Json.parseWith PState.fresh cap qs raw) :=
  parseIdx_refines qs cap raw

/-- the Go scanner never indexes or slices out of range (nor pops an empty path stack) -/
theorem json_scanner_no_panic (qs : List Gen.Json.Query) (cap : Nat) (raw : Bytes) :
    JsonIdx.parseIdx qs cap raw ≠ .panic := by
  rw [parseIdx_refines]; intro h; cases h

/-- every loop and the recursion of the Go scanner end within the stated fuel: `len b + 1`
    iterations for the byte loops, `2·len raw + 4` for the loops and calls of the containers -/
theorem json_scanner_terminates (qs : List Gen.Json.Query) (cap : Nat) (raw : Bytes) :
    JsonIdx.parseIdx qs cap raw ≠ .fuel := by
  rw [parseIdx_refines]; intro h; cases h

set_option maxRecDepth 8000 in
/-- per function of parser.go, the index and slice expressions known to be in range (as a set; the names of
    variables are written `_`, as the extractor writes them): those `Model/JsonIdx.lean` transliterates, and for
    `LooksLikeObjectOrArray`, `Parse` and `reset`, which it does not model, the ones its header argues about -/
def modelledJsonIndexSets : List (String × List String) := [
  ("json.LooksLikeObjectOrArray", ["_[_]"]),
  ("json.Parse", ["_[_]"]),
  ("json.consumeAny", ["_[_:]", "_[_]"]),
  ("json.consumeArray", ["_.currPath[:len(_.currPath)-1]", "_[_:]", "_[_]"]),
  ("json.consumeConst", ["_[_]"]),
  ("json.consumeNumber", ["_[0]", "_[1:]"]),
  ("json.consumeObject", ["_.currPath[:len(_.currPath)-1]", "_[_ : _+_-1]", "_[_ : _+_]", "_[_:]", "_[_]"]),
  ("json.consumeSpace", ["_[0]", "_[1:]"]),
  ("json.consumeString", ["_[_:]", "_[_]"]),
  ("json.eq", ["_[_]"]),
  ("json.queryPathMatch", ["_[_]"]),
  ("json.reset", ["_.currPath[0:0]"])]

/-- every index / slice expression of `found` is one the model knows for that function; a function the model
    does not know must not index at all -/
def withinModelled (modelled found : List (String × List String)) : Bool :=
  found.all fun fe =>
    match modelled.lookup fe.1 with
    | some xs => fe.2.all (fun e => xs.contains e)
    | none => fe.2.isEmpty

/-- **regenerated tie**: every index and slice expression of every function of parser.go in the current source
    is one of those `Model/JsonIdx.lean` transliterates for that function.  (A set inclusion, not an equality: an
    expression that was dropped, repeated or moved — `len(b[n:]) > 0` rewritten as `n < len(b)` — needs no new
    reading; a new expression, or any indexing in a new function, does.) -/
theorem json_index_expressions_within_modelled :
    withinModelled modelledJsonIndexSets Gen.Writes.indexSetsJson = true := by decide +kernel

end Mime.C01
