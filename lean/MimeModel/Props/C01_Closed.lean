import MimeModel.Model.Closed
import MimeModel.Props.C01
/-
  The model of `Detect` over the current tree is *closed*: its result does not depend on the
  oracle for unmodelled signature checks, because there is none left.
-/
namespace Mime.C01
open Mime Mime.Cust

/-- regenerated: every signature check of the tree is of a kind that has a model -/
theorem every_check_modelled :
    Gen.builtin.flatten.all (fun i => match i.det with
      | .custom c => (customModel c).isSome
      | _ => true) = true := by decide +kernel

theorem custEval_closed (e1 e2 : Custom → Bytes → Nat → Bool) (c : Custom) (h : (customModel c).isSome = true) :
    custEval e1 c = custEval e2 c := by
  funext raw lim
  unfold custEval
  cases hm : customModel c with
  | none => rw [hm] at h; cases h
  | some f => rfl

theorem detEval_closed (e1 e2 : Custom → Bytes → Nat → Bool) (d : Det)
    (h : match d with | .custom c => (customModel c).isSome = true | _ => True) (raw : Bytes) (lim : Nat) :
    detEval e1 d raw lim = detEval e2 d raw lim := by
  unfold detEval
  cases d with
  | custom c => simp only [Det.evalWith]; rw [custEval_closed e1 e2 c h]
  | _ => rfl

/-- **the verdict of every node of the current tree is independent of the oracle for unmodelled checks** -/
theorem accepts_closed (ext ext' : Ext) (i : Info) (hi : i ∈ Gen.builtin.flatten) (h : Bytes) (lim : Nat) :
    accepts ext h lim i = accepts ext' h lim i := by
  unfold accepts
  have hall := every_check_modelled
  rw [List.all_eq_true] at hall
  have := hall i hi
  rw [detEval_closed ext.cust ext'.cust i.det (by
    cases hd : i.det with
    | custom c => simp only [hd] at this; exact this
    | _ => trivial) h lim]

end Mime.C01
