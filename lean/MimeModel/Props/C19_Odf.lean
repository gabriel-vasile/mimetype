import MimeModel.Lemmas.C19Odf
/-
  C19, the OpenDocument / EPUB clause, from the zip layout (Spec/Zip.lean), through `Detect`
  (limit 0): "one whose first entry is the stored 'mimetype' file naming an OpenDocument or EPUB
  type is reported as that type … every such verdict has application/zip as its parent."

  `StoredMimetype e ty`: the entry `e` is well-formed, named `mimetype`, has no extra field and its
  (stored) data begin with `ty`.  Nothing is asked of the other entries or of the tail: tree.go
  consults the OpenDocument nodes before apk and jar (known_findings.txt, C19), and every
  detector consulted before the format rejects such an archive by proof (xpm, 7z: a prefix that is
  not `PK`; xlsx, docx, pptx: the first entry is not one of their bookkeeping parts; epub and the
  earlier OpenDocument nodes: a different string at offset 30).
-/
namespace Mime.C19
open Mime Mime.Spec.Zip Mime.ZipOdf Mime.C19Odf

/-- regenerated: the order of the zip children — OOXML, EPUB, OpenDocument, then apk before jar -/
theorem zip_children_order : zipNode.children.map (·.info.name) =
    ["xlsx", "docx", "pptx", "epub", "odt", "ods", "odp", "odg", "odf", "odc", "sxc", "apk", "jar"] :=
  C19Odf.zip_children_order

/-- regenerated: each of the twelve nodes tests offset 30 for `mimetype` followed by its own
    registered type — the obligation a rewrite of these detectors has to keep -/
theorem odf_dets : ∀ t ∈ odfNodes, t.info.det = .expr (.and (.lenGe 31) (.prefixAt 30 (ofString "mimetype" ++ t.info.mime))) :=
  C19Odf.odf_dets

/-- they are the nodes of these names (no lookup fell through to its default) -/
theorem odf_names : odfNodes.map (·.info.name) = ["epub", "odt", "ott", "ods", "ots", "odp", "otp", "odg", "otg", "odf", "odc", "sxc"] := by
  decide +kernel

/-- the layout: in an archive whose first entry is the stored `mimetype` file, `mimetype` and the
    type sit at offset 30 -/
theorem mimetype_at_30 {e : Entry} {ty : Bytes} (h : StoredMimetype e ty) (es : List Entry) (tail : Bytes) :
    hasPrefix ((archive (e :: es) tail).drop 30) (ofString "mimetype" ++ ty) = true ∧
    31 ≤ (archive (e :: es) tail).length := ZipOdf.mimetype_at_30 h es tail

/-- **EPUB**: reported as application/epub+zip below application/zip, unconditionally -/
theorem epub_detected (ext : Ext) (e : Entry) (es : List Entry) (tail : Bytes)
    (h : StoredMimetype e (ofString "application/epub+zip")) :
    (detect ext Gen.builtin (archive (e :: es) tail) 0).chain =
      [(zipChild "epub").info, zipNode.info, Gen.builtin.info] := C19Odf.epub_detected ext e es tail h

/-- **OpenDocument documents** (odt ods odp odg odf odc, and sxc): reported as that type below
    application/zip when the file's content is exactly the type (stored, no descriptor, another
    entry follows: the next byte is `P`, not the `-` of `…-template`) -/
theorem odf_reported (ext : Ext) (n : String) (hn : n ∈ odfDocs) (e : Entry) (es : List Entry)
    (tail : Bytes) (h : StoredMimetype e (zipChild n).info.mime)
    (hdata : e.data = (zipChild n).info.mime) (hdesc : e.desc = []) (hes : es ≠ []) :
    (detect ext Gen.builtin (archive (e :: es) tail) 0).chain =
      [(zipChild n).info, zipNode.info, Gen.builtin.info] :=
  C19Odf.odf_reported ext n hn e es tail h hdata hdesc hes

/-- the same with the side condition in its general form: the bytes at offset 30 do not go on to
    spell a template's type -/
theorem odf_detected (ext : Ext) (n : String) (hn : n ∈ odfDocs) (e : Entry) (es : List Entry)
    (tail : Bytes) (h : StoredMimetype e (zipChild n).info.mime)
    (hkids : ∀ c ∈ (zipChild n).children,
      hasPrefix ((archive (e :: es) tail).drop 30) (ofString "mimetype" ++ c.info.mime) = false) :
    (detect ext Gen.builtin (archive (e :: es) tail) 0).chain =
      [(zipChild n).info, zipNode.info, Gen.builtin.info] :=
  C19Odf.odf_detected ext n hn e es tail h hkids

/-- **OpenDocument templates** (ott ots otp otg): reported as the template type, below its
    document type, below application/zip -/
theorem template_reported (ext : Ext) (d t : String) (hdt : (d, t) ∈ odfTemplates) (e : Entry)
    (es : List Entry) (tail : Bytes) (h : StoredMimetype e (tplChild d t).info.mime) :
    (detect ext Gen.builtin (archive (e :: es) tail) 0).chain =
      [(tplChild d t).info, (zipChild d).info, zipNode.info, Gen.builtin.info] :=
  C19Odf.template_reported ext d t hdt e es tail h

/-- the OOXML checks reject an archive whose first entry is the `mimetype` file (proved, not assumed) -/
theorem ooxml_rejects (e : Entry) (es : List Entry) (tail sig : Bytes) (hwf : e.WF)
    (hname : e.name = ofString "mimetype") (hsig : sig ∈ ooxmlMarkers) :
    zipContains (archive (e :: es) tail) sig true = some false :=
  C19Odf.ooxml_rejects e es tail sig hwf hname hsig

/-- parent clause: the node above is application/zip, the root application/octet-stream -/
theorem zip_parent : zipNode.info.mime = ofString "application/zip" ∧ Gen.builtin.info.mime = ofString "application/octet-stream" :=
  C19Odf.zip_parent

end Mime.C19
