import MimeModel.Gen.Writes
import MimeModel.Model.Detect
import MimeModel.Gen.Tree
import MimeModel.Lemmas.JsonForward
import MimeModel.Lemmas.JsonFuel
import MimeModel.Lemmas.JsonClean
import MimeModel.Lemmas.DetectText
import MimeModel.Lemmas.DetectTie
/-
  C08 — well-formed JSON is recognised, whole or truncated.

  "Well-formed" is the reference RFC 8259 recogniser `Spec.J.doc true` (Spec/Json.lean):
  white space, one object or array, white space; it also returns the syntax tree, whose
  nesting depth is `Spec.J.depth`.
-/
namespace Mime.C08
open Mime Mime.Json Mime.Spec Mime.JsonLeaf Mime.JsonForward Mime.JsonPrefix

/-- regenerated facts about tree.go: `application/json` is a child of `text/plain`, tried
    after html, svg, xml, php and the shebang languages; its detector is `JSON` -/
theorem tree_facts :
    ((Gen.builtin.children.filter (fun c => c.info.name == "text")).map
      (fun c => (c.children.map (·.info.name)).take 9)) =
      [["html", "svg", "xml", "php", "js", "lua", "perl", "python", "json"]] ∧
    (Gen.builtin.flatten.filter (fun i => i.name == "json")).map (·.det) = [.custom .json] := by
  decide +kernel

theorem looksLike_of_firstNonWs (b : Bytes) (c : Nat) (h : J.firstNonWs b = some c)
    (hc : c = 0x7B ∨ c = 0x5B) : looksLikeObjectOrArray b = true := by
  induction b with
  | nil => simp [J.firstNonWs, J.skipWs] at h
  | cons x xs ih =>
    simp only [looksLikeObjectOrArray, isSpace_eq_ws]
    simp only [J.firstNonWs, J.skipWs] at h
    split
    · rename_i hw
      simp only [hw, ↓reduceIte] at h
      exact ih h
    · rename_i hw
      simp only [hw, Bool.false_eq_true, ↓reduceIte, List.head?_cons, Option.some.injEq] at h
      subst h
      rcases hc with rfl | rfl <;> simp

theorem finishAny_flags (t : Nat) (res : Option Bytes × PState) :
    (finishAny true 0 t res).2.firstToken = t ∧ (finishAny true 0 t res).2.querySatisfied = true := by
  obtain ⟨rv, s2⟩ := res
  simp only [finishAny]
  cases rv with
  | none => simp [PState.setQ, PState.setFirst]
  | some r => simp [consumeSpace_spec, PState.setQ, PState.setFirst, PState.bump]

theorem top_flags (cap fuel : Nat) (b : Bytes) (s : PState) (c : Nat) (cs : Bytes) (hsk : J.skipWs b = c :: cs)
    (hcap : (cap != 0 && decide (0 > cap)) = false) :
    (consumeAny [] cap (fuel + 1) 0 b s).2.firstToken = (classify c).tok ∧
    (consumeAny [] cap (fuel + 1) 0 b s).2.querySatisfied = true := by
  have hcs := consumeSpace_spec b (s.enter 0)
  rw [hsk] at hcs
  simp only [consumeAny, hcap, Bool.false_eq_true, ↓reduceIte, hcs, List.isEmpty_nil]
  exact finishAny_flags _ _

theorem doc_inv (D : Bytes) (v : J.JVal) (hdoc : J.doc true D = some v) :
    ∃ c cs r, J.skipWs D = c :: cs ∧ (c = 0x7B ∨ c = 0x5B) ∧
      J.value true (J.fuelFor D) D = .ok v r ∧ J.skipWs r = [] := by
  unfold J.doc J.firstNonWs at hdoc
  rcases hsk : J.skipWs D with _ | ⟨c, cs⟩
  · rw [hsk] at hdoc; cases hdoc
  · rw [hsk] at hdoc
    dsimp only [List.head?] at hdoc
    by_cases hc : (c != 0x7B && c != 0x5B) = true
    · rw [if_pos hc] at hdoc; cases hdoc
    · rw [if_neg hc] at hdoc
      have hc' : c = 0x7B ∨ c = 0x5B := by
        by_cases h1 : c = 0x7B
        · exact Or.inl h1
        · by_cases h2 : c = 0x5B
          · exact Or.inr h2
          · exact absurd (by simp [h1, h2]) hc
      cases hval : J.value true (J.fuelFor D) D with
      | more => rw [hval] at hdoc; cases hdoc
      | bad => rw [hval] at hdoc; cases hdoc
      | ok v' r =>
        rw [hval] at hdoc
        dsimp only at hdoc
        by_cases hws : (J.skipWs r).isEmpty = true
        · rw [if_pos hws] at hdoc; cases hdoc
          exact ⟨c, cs, r, rfl, hc', rfl, List.isEmpty_iff.mp hws⟩
        · rw [if_neg hws] at hdoc; cases hdoc

theorem looksLike_of_skipWs (b : Bytes) (c : Nat) (cs : Bytes) (h : J.skipWs b = c :: cs)
    (hc : c = 0x7B ∨ c = 0x5B) : looksLikeObjectOrArray b = true :=
  looksLike_of_firstNonWs b c (by simp [J.firstNonWs, h]) hc

/-- the helper's verdict from the scanner's run (the converse of `C09.helper_inv`, for the plain-JSON query):
    an opening bracket in front, and the run consumed everything (whole input) or inspected everything (cut) -/
theorem jsonHelper_of_run (raw : Bytes) (lim c : Nat) (cs : Bytes) (hsk : J.skipWs raw = c :: cs) (hc : c = 0x7B ∨ c = 0x5B)
    (hrun : if (lim == 0 || decide (raw.length < lim)) = true
      then (consumeAny Gen.Json.q_json Gen.Json.maxRecursion (fuelFor raw) 0 raw PState.fresh.reset).1 = some []
      else (consumeAny Gen.Json.q_json Gen.Json.maxRecursion (fuelFor raw) 0 raw PState.fresh.reset).2.ib = raw.length ∧
        0 < raw.length) :
    jsonHelper raw lim Gen.Json.q_json (tokObject ||| tokArray) = true := by
  have hlook := looksLike_of_skipWs raw c cs hsk hc
  have hflags : (consumeAny Gen.Json.q_json Gen.Json.maxRecursion (fuelFor raw) 0 raw PState.fresh.reset).2.firstToken = (classify c).tok ∧
      (consumeAny Gen.Json.q_json Gen.Json.maxRecursion (fuelFor raw) 0 raw PState.fresh.reset).2.querySatisfied = true :=
    top_flags Gen.Json.maxRecursion (2 * raw.length + 3) raw PState.fresh.reset c cs hsk (by decide)
  have htok : ((classify c).tok &&& (tokObject ||| tokArray) == 0) = false := by
    rcases hc with rfl | rfl <;> decide
  unfold jsonHelper parse parseWith
  rw [hlook]
  generalize consumeAny Gen.Json.q_json Gen.Json.maxRecursion (fuelFor raw) 0 raw PState.fresh.reset = res at hrun hflags
  obtain ⟨rv, s'⟩ := res
  obtain ⟨ht, hqs⟩ := hflags
  dsimp only at ht hqs hrun ⊢
  rw [hqs, ht, htok]
  by_cases hcond : (lim == 0 || decide (raw.length < lim)) = true
  · rw [if_pos hcond] at hrun
    rw [hcond, hrun]
    simp
  · rw [if_neg hcond] at hrun
    rw [Bool.eq_false_iff.mpr hcond, hrun.1]
    simpa using hrun.2

/-- the scanner's run on a whole RFC 8259 document, under any query: everything consumed, every byte counted -/
theorem run_on_doc_any (qs : List Gen.Json.Query) (D : Bytes) (v : J.JVal) (hdoc : J.doc true D = some v)
    (hdepth : J.depth v ≤ Gen.Json.maxRecursion) :
    ∃ s', consumeAny qs Gen.Json.maxRecursion (J.fuelFor D) 0 D PState.fresh.reset = (some [], s') ∧ s'.ib = D.length := by
  obtain ⟨c, cs, r, hsk, hc, hval, hr⟩ := doc_inv D v hdoc
  obtain ⟨f1, f2, _⟩ := (forward_all qs Gen.Json.maxRecursion (J.fuelFor D)).1 0 D v r PState.fresh.reset hval
    (delim_of_ws_only r (by rw [hr]; rfl)) (Or.inr (by omega))
  rw [hr] at f1 f2
  generalize consumeAny qs Gen.Json.maxRecursion (J.fuelFor D) 0 D PState.fresh.reset = res at f1 f2
  obtain ⟨o, s'⟩ := res
  cases f1
  exact ⟨s', rfl, by rw [f2]; exact Nat.zero_add _⟩

theorem run_on_doc (D : Bytes) (v : J.JVal) (hdoc : J.doc true D = some v) (hdepth : J.depth v ≤ Gen.Json.maxRecursion) :
    ∃ s', consumeAny Gen.Json.q_json Gen.Json.maxRecursion (J.fuelFor D) 0 D PState.fresh.reset = (some [], s') ∧
      s'.ib = D.length :=
  run_on_doc_any Gen.Json.q_json D v hdoc hdepth

/-- on a cut of a document the scanner, with the fuel `parse` supplies, inspects every byte (any query) -/
theorem inspected_cut (qs : List Gen.Json.Query) (D : Bytes) (v : J.JVal) (lim : Nat) (hdoc : J.doc true D = some v)
    (hdepth : J.depth v ≤ Gen.Json.maxRecursion) (hlim : lim ≤ D.length) :
    (consumeAny qs Gen.Json.maxRecursion (fuelFor (D.take lim)) 0 (D.take lim) PState.fresh.reset).2.ib = lim := by
  obtain ⟨s', hrun, hib⟩ := run_on_doc_any qs D v hdoc hdepth
  have hlenP : (D.take lim).length = lim := by rw [List.length_take]; exact Nat.min_eq_left hlim
  rw [consumeAny_fuel qs Gen.Json.maxRecursion 0 (D.take lim) PState.fresh.reset (fuelFor (D.take lim)) (J.fuelFor D)
    (by rw [fuelFor]; omega) (by rw [J.fuelFor, hlenP]; omega)]
  obtain ⟨_, _, l3⟩ := (prefix_all qs Gen.Json.maxRecursion (J.fuelFor D)).1 0 D PState.fresh.reset [] s' hrun
  rw [List.length_nil, Nat.sub_zero] at l3
  by_cases hk : lim < D.length
  · rw [((l3 lim).1 hk).1]; exact Nat.zero_add _
  · rw [(l3 lim).2 (Nat.le_of_not_lt hk), hib]; omega

/-- **C08 (whole)**: every RFC 8259 object or array document of nesting depth at most the cap
    is accepted when examined in full (limit 0, or shorter than the limit) -/
theorem strict_accepts_whole (D : Bytes) (v : J.JVal) (lim : Nat)
    (hdoc : J.doc true D = some v) (hdepth : J.depth v ≤ Gen.Json.maxRecursion)
    (hwhole : lim = 0 ∨ D.length < lim) :
    jsonHelper D lim Gen.Json.q_json (tokObject ||| tokArray) = true := by
  obtain ⟨c, cs, r, hsk, hc, _, _⟩ := doc_inv D v hdoc
  obtain ⟨s', hrun, _⟩ := run_on_doc D v hdoc hdepth
  refine jsonHelper_of_run D lim c cs hsk hc ?_
  rw [if_pos (by rcases hwhole with h | h <;> simp [h])]
  change (consumeAny Gen.Json.q_json Gen.Json.maxRecursion (J.fuelFor D) 0 D PState.fresh.reset).1 = some []
  rw [hrun]

/-- **C08 (truncated)**: when only the first `lim` bytes of an RFC 8259 document are examined
    (`lim` no larger than the document, and past the opening bracket), they are accepted:
    wherever the cut falls -/
theorem strict_accepts_truncated (D : Bytes) (v : J.JVal) (lim : Nat)
    (hdoc : J.doc true D = some v) (hdepth : J.depth v ≤ Gen.Json.maxRecursion)
    (hopen : D.length - (J.skipWs D).length < lim) (hlim : lim ≤ D.length) :
    jsonHelper (D.take lim) lim Gen.Json.q_json (tokObject ||| tokArray) = true := by
  obtain ⟨c, cs, r, hsk, hc, _, _⟩ := doc_inv D v hdoc
  -- the cut keeps the opening bracket
  obtain ⟨j, hj⟩ : ∃ j, lim - (D.length - (J.skipWs D).length) = j + 1 :=
    ⟨lim - (D.length - (J.skipWs D).length) - 1, by omega⟩
  have hskP : J.skipWs (D.take lim) = c :: cs.take j := by
    rw [((skipWs_take D lim).2 (Nat.le_of_lt hopen)).1, hj, hsk]; rfl
  have hlenP : (D.take lim).length = lim := by rw [List.length_take]; exact Nat.min_eq_left hlim
  refine jsonHelper_of_run (D.take lim) lim c _ hskP hc ?_
  rw [hlenP, if_neg (by simp; omega)]
  exact ⟨inspected_cut Gen.Json.q_json D v lim hdoc hdepth hlim, by omega⟩

/-- **C08**: an RFC 8259 document of depth at most the cap is accepted at every read limit
    past its opening bracket: `raw` is what the reader hands over, the document itself or
    its first `lim` bytes -/
theorem strict_accepts (D : Bytes) (v : J.JVal) (lim : Nat)
    (hdoc : J.doc true D = some v) (hdepth : J.depth v ≤ Gen.Json.maxRecursion)
    (hopen : lim = 0 ∨ D.length - (J.skipWs D).length < lim) :
    jsonHelper (if lim = 0 then D else D.take lim) lim Gen.Json.q_json (tokObject ||| tokArray) = true := by
  by_cases h0 : lim = 0
  · simp only [h0, ↓reduceIte]
    exact strict_accepts_whole D v 0 hdoc hdepth (Or.inl rfl)
  · simp only [h0, ↓reduceIte]
    by_cases hl : lim ≤ D.length
    · exact strict_accepts_truncated D v lim hdoc hdepth (by omega) hl
    · rw [List.take_of_length_le (by omega)]
      exact strict_accepts_whole D v lim hdoc hdepth (Or.inr (by omega))

/- non-vacuity: a document with every kind of token -/
example : (J.doc true [0x7B, 0x22, 0x61, 0x22, 0x3A, 0x5B, 0x31, 0x2C, 0x74, 0x72, 0x75, 0x65, 0x5D, 0x7D]).isSome = true := by
  decide

section
open Mime.Tree Mime.JsonClean

theorem json_priority :
    (textNode.children.takeWhile (fun x => !isNamed "json" x)).map (·.info.name) =
      ["html", "svg", "xml", "php", "js", "lua", "perl", "python"] :=
  builtin_nodes.2.2.2

theorem accepts_json (ext : Ext) (h : Bytes) (lim : Nat) {i : Info} (hd : i.det = .custom .json) :
    accepts ext h lim i = jsonHelper h lim Gen.Json.q_json (tokObject ||| tokArray) :=
  DetectPath.accepts_custom_total ext h lim i .json _ hd rfl

theorem text_of_good {x : Bytes} (h : GoodL x) : Cust.text x = true := by
  unfold Cust.text
  split
  · rfl
  · have : x.any Cust.binaryByte = false := by
      rw [List.any_eq_false]
      intro c hc
      simp [good_not_binary c (h c hc)]
    simp [this]

theorem goodL_take (x : Bytes) (h : GoodL x) (k : Nat) : GoodL (x.take k) :=
  fun c hc => h c (List.mem_of_mem_take hc)


/-- **C08 through `Detect`**: for every RFC 8259 object/array document of depth within the cap, every
    limit past the opening bracket and every behaviour of the unmodelled detectors, the path
    reported by the walk over the built-in tree passes through `application/json` (so the result
    is json or one of its sub-types) — unless a format with priority accepts the same header: a
    child of the root in front of `text/plain`, or one of html, svg, xml, php and the shebang
    languages in front of json -/
theorem detect_json (ext : Ext) (D : Bytes) (v : J.JVal) (lim : Nat)
    (hdoc : J.doc true D = some v) (hdepth : J.depth v ≤ Gen.Json.maxRecursion)
    (hopen : lim = 0 ∨ D.length - (J.skipWs D).length < lim) :
    jsonNode.info ∈ (detect ext Gen.builtin D lim).chain ∨
    (∃ d ∈ Gen.builtin.children.takeWhile (fun x => !isNamed "text" x), accepts ext (header D lim) lim d.info = true) ∨
    (∃ d ∈ textNode.children.takeWhile (fun x => !isNamed "json" x), accepts ext (header D lim) lim d.info = true) := by
  have hhdr : header D lim = if lim = 0 then D else D.take lim := rfl
  have hgood : GoodL (header D lim) := by
    rw [hhdr]
    split
    · exact doc_good D v hdoc
    · exact goodL_take D (doc_good D v hdoc) lim
  have hacc_json : accepts ext (header D lim) lim jsonNode.info = true := by
    rw [accepts_json ext _ lim node_dets.2, hhdr]
    exact strict_accepts D v lim hdoc hdepth hopen
  -- the walk goes root → text → json unless a sibling in front of one of them accepts
  rcases WalkPath.walk_reaches (accepts ext (header D lim) lim) [isNamed "text", isNamed "json"] Gen.builtin jsonNode
      (DetectText.descend_text json_found)
      (DetectText.accepted_text ext _ lim json_found (text_of_good hgood) hacc_json) with h | ⟨d, hd, ha⟩
  · exact Or.inl (List.mem_reverse.2 h)
  · rw [DetectText.rivals_text json_found] at hd
    exact Or.inr ((List.mem_append.1 hd).imp (fun h => ⟨d, h, ha⟩) (fun h => ⟨d, h, ha⟩))

end

/-- regenerated tie: the pooled parser is handed back only in a `defer`, after `Parse` has read its
    results out of it (otherwise a concurrent detection could reset it in between and a valid document
    would be judged by another parse's flags) -/
theorem tie_pool_put_deferred :
    Gen.Writes.poolCalls = ["magic.newReader:readerPool.Get:direct", "magic.sv:readerPool.Put:deferred",
      "json.Parse:parserPool.Get:direct", "json.Parse:parserPool.Put:deferred"] := by decide +kernel

/-- regenerated tie: `Detect` / `DetectReader` load the limit once, atomically (see Lemmas/DetectTie.lean) -/
theorem tie_single_limit : Mime.DetectTie.SingleLimit := Mime.DetectTie.single_limit

end Mime.C08
