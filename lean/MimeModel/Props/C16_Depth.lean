import MimeModel.Lemmas.JsonDepth
/-
  C16, second sentence: "inputs nested beyond the cap are simply not reported as JSON".
  Lemmas/JsonDepth.lean: a simulation between the scanner and the reference grammar that tracks
  depth: whenever the scanner succeeds at level `lvl`, the syntax tree of what it
  read has `lvl + depth ≤ cap + 1` (tight: `[[]]` is accepted at cap 1, `[[[]]]` is not).
-/
namespace Mime.C16
open Mime Mime.Json Mime.Spec Mime.JsonDepth

/-- every fully examined input that one of the four JSON detectors reports is a (relaxed) document
    whose nesting depth is at most cap + 1 -/
theorem reported_depth_le (raw : Bytes) (lim : Nat) (qs : List Gen.Json.Query) (w : Nat)
    (h : jsonHelper raw lim qs w = true) (hw : lim = 0 ∨ raw.length < lim) :
    ∃ v, J.doc false raw = some v ∧ J.depth v ≤ Gen.Json.maxRecursion + 1 :=
  JsonDepth.reported_depth_le _ maxRecursion_ne_zero raw lim qs w h hw

/-- **C16**: a document nested deeper than the cap is not reported as JSON — at any limit, by any of
    the four detectors -/
theorem over_cap_never_reported (raw : Bytes) (lim : Nat) (qs : List Gen.Json.Query) (w : Nat) (v : J.JVal)
    (hdoc : J.doc false raw = some v) (hdeep : Gen.Json.maxRecursion + 1 < J.depth v) :
    jsonHelper raw lim qs w = false :=
  JsonDepth.over_cap_never_reported _ maxRecursion_ne_zero raw lim qs w v hdoc hdeep

/-- the same for an arbitrary non-zero cap (the scanner is generic in it) -/
theorem over_cap_never_reported_cap (cap : Nat) (hc : cap ≠ 0) (raw : Bytes) (lim : Nat) (qs : List Gen.Json.Query) (w : Nat)
    (v : J.JVal) (hdoc : J.doc false raw = some v) (hdeep : cap + 1 < J.depth v) :
    jsonHelperCap cap raw lim qs w = false :=
  JsonDepth.over_cap_never_reported cap hc raw lim qs w v hdoc hdeep

/-- "millions of nested brackets": the tower `[`ⁿ `]`ⁿ is not reported once n exceeds cap + 1 —
    for EVERY n, i.e. any input size, and every limit -/
theorem bracket_tower_not_reported (n : Nat) (hn : Gen.Json.maxRecursion + 1 < n) (lim : Nat)
    (qs : List Gen.Json.Query) (w : Nat) :
    jsonHelper (List.replicate n 0x5B ++ List.replicate n 0x5D) lim qs w = false :=
  tower_not_reported maxRecursion_ne_zero n hn lim qs w

/-- the same for `{"k":` towers around `{}` -/
theorem object_tower_not_reported (n : Nat) (hn : Gen.Json.maxRecursion < n) (lim : Nat)
    (qs : List Gen.Json.Query) (w : Nat) :
    jsonHelper ((List.replicate n okey).flatten ++ [0x7B, 0x7D] ++ List.replicate n 0x7D) lim qs w = false :=
  otower_not_reported maxRecursion_ne_zero n hn lim qs w

/- tightness at cap 1: depth 2 is reported, depth 3 is not -/
example : jsonHelperCap 1 [0x5B, 0x5B, 0x5D, 0x5D] 0 Gen.Json.q_json (tokObject ||| tokArray) = true := by decide +kernel
example : jsonHelperCap 1 [0x5B, 0x5B, 0x5B, 0x5D, 0x5D, 0x5D] 0 Gen.Json.q_json (tokObject ||| tokArray) = false := by decide +kernel

end Mime.C16
