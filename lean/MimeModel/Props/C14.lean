import MimeModel.Props.C03
/-
  C14 — extensions take priority, stay inside their parent, disturb nothing else.
  Generic in the tree, in the verdict function and in the extension nodes.
  `Tree.extendAt e path T` is the model of `Extend` on the node reached by `path`.
-/
namespace Mime.C14
open Mime Mime.Tree
variable {α : Type}

/-- **shape**: `Extend` on a node puts the new sub-format in front of the existing ones
    and changes nothing else of that node -/
theorem extend_shape_here (e : Tree α) (a : α) (cs : List (Tree α)) :
    extendAt e [] (.node a cs) = some (.node a (e :: cs)) := by rw [extendAt]

/-- `Extend` deeper in the tree rewrites exactly one child and keeps the node's payload
    and the order of its children -/
theorem extend_shape_below (e : Tree α) (a : α) (i : Nat) (is : List Nat) (cs : List (Tree α)) (T' : Tree α)
    (h : extendAt e (i :: is) (.node a cs) = some T') :
    ∃ cs', T' = .node a cs' ∧ extendAtList e i is cs = some cs' ∧ cs'.length = cs.length := by
  simp only [extendAt, Option.map_eq_some_iff] at h
  obtain ⟨cs', h1, h2⟩ := h
  refine ⟨cs', h2.symm, h1, ?_⟩
  clear h2
  induction cs generalizing i cs' with
  | nil => simp [extendAtList] at h1
  | cons c cs ih =>
    cases i with
    | zero =>
      simp only [extendAtList, Option.map_eq_some_iff] at h1
      obtain ⟨c', _, hc⟩ := h1
      subst hc; simp
    | succ i =>
      simp only [extendAtList, Option.map_eq_some_iff] at h1
      obtain ⟨r, hr, hc⟩ := h1
      subst hc; simp [ih i r hr]

theorem extend_info :
    (∀ (is : List Nat) (e T T' : Tree α), extendAt e is T = some T' → T'.info = T.info) := by
  intro is e T T' h
  cases T with
  | node a cs =>
    cases is with
    | nil => simp [extendAt] at h; subst h; rfl
    | cons i is =>
      simp only [extendAt, Option.map_eq_some_iff] at h
      obtain ⟨cs', _, h2⟩ := h
      subst h2; rfl

/-- **non-interference (one call)**: an extension whose detector rejects the header
    changes nothing, wherever it was attached -/
theorem extend_miss (acc : α → Bool) (e : Tree α) (he : acc e.info = false) :
    ∀ (is : List Nat) (T T' : Tree α), extendAt e is T = some T' → walk acc T' = walk acc T := by
  intro is
  induction is with
  | nil =>
    intro T T' h
    cases T with
    | node a cs =>
      simp [extendAt] at h; subst h
      simp [walk, walkList, he]
  | cons i is ih =>
    intro T T' h
    cases T with
    | node a cs =>
      simp only [extendAt, Option.map_eq_some_iff] at h
      obtain ⟨cs', h1, h2⟩ := h
      subst h2
      simp only [walk]
      congr 1
      clear a
      induction cs generalizing i cs' with
      | nil => simp [extendAtList] at h1
      | cons c cs ihc =>
        cases i with
        | zero =>
          simp only [extendAtList, Option.map_eq_some_iff] at h1
          obtain ⟨c', hc', hcs⟩ := h1
          subst hcs
          simp only [walkList, extend_info is e c c' hc', ih c c' hc']
        | succ i =>
          simp only [extendAtList, Option.map_eq_some_iff] at h1
          obtain ⟨r, hr, hcs⟩ := h1
          subst hcs
          simp only [walkList, ihc i r hr]

/-- a sequence of Extend calls: (path, new leaf node) pairs applied left to right -/
def applyAll : List (List Nat × α) → Tree α → Option (Tree α)
  | [], T => some T
  | (is, a) :: ops, T =>
    match extendAt (.node a []) is T with
    | none => none
    | some T' => applyAll ops T'

/-- **non-interference (any history)**: after any sequence of Extend calls — on the root,
    on built-ins at any depth, on earlier extensions — an input that every extension
    detector rejects is classified exactly as before the calls -/
theorem extend_miss_all (acc : α → Bool) (ops : List (List Nat × α)) (T T' : Tree α)
    (hrej : ∀ op ∈ ops, acc op.2 = false) (h : applyAll ops T = some T') :
    walk acc T' = walk acc T := by
  induction ops generalizing T with
  | nil => simp [applyAll] at h; subst h; rfl
  | cons op ops ih =>
    obtain ⟨is, a⟩ := op
    simp only [applyAll] at h
    cases h1 : extendAt (.node a []) is T with
    | none => simp [h1] at h
    | some T1 =>
      simp only [h1] at h
      rw [ih T1 (fun o ho => hrej o (List.mem_cons_of_mem _ ho)) h]
      exact extend_miss acc (.node a []) (by simpa [info] using hrej (is, a) (List.mem_cons_self ..)) is T T1 h1

/-- `is` is the path actually walked: at every level the named child is the first one,
    in order, whose detector accepts -/
def OnWalk (acc : α → Bool) : List Nat → Tree α → Prop
  | [], _ => True
  | i :: is, .node _ cs =>
    ∃ pre c post, cs = pre ++ c :: post ∧ pre.length = i ∧ (∀ d ∈ pre, acc d.info = false) ∧
      acc c.info = true ∧ OnWalk acc is c

theorem extendAtList_at (e : Tree α) (pre : List (Tree α)) (c : Tree α) (post : List (Tree α)) (is : List Nat) (cs' : List (Tree α))
    (h : extendAtList e pre.length is (pre ++ c :: post) = some cs') :
    ∃ c', extendAt e is c = some c' ∧ cs' = pre ++ c' :: post := by
  induction pre generalizing cs' with
  | nil =>
    simp only [List.length_nil, List.nil_append, extendAtList, Option.map_eq_some_iff] at h
    obtain ⟨c', h1, h2⟩ := h
    exact ⟨c', h1, by simp [h2]⟩
  | cons d ds ih =>
    simp only [List.length_cons, List.cons_append, extendAtList, Option.map_eq_some_iff] at h
    obtain ⟨r, h1, h2⟩ := h
    obtain ⟨c', hc, hr⟩ := ih r h1
    exact ⟨c', hc, by simp [← h2, hr]⟩

/-- **priority / hit**: if the walk reaches the node an extension was attached to and
    the extension's detector accepts the header, the result is classified under the
    extension — in front of every older sibling — with the parent's chain as ancestors:
    the walked path of the extended tree is the old path down to the extended node
    (`anc`, a prefix of the old path), followed by the walk inside the extension -/
theorem extend_hit_path (acc : α → Bool) (e : Tree α) (he : acc e.info = true) :
    ∀ (is : List Nat) (T T' : Tree α), OnWalk acc is T → extendAt e is T = some T' →
      ∃ anc : List α, anc.length = is.length + 1 ∧ anc.head? = some T.info ∧
        walk acc T' = anc ++ walk acc e ∧ anc <+: walk acc T := by
  intro is
  induction is with
  | nil =>
    intro T T' _ h
    cases T with
    | node a cs =>
      simp [extendAt] at h; subst h
      refine ⟨[a], rfl, rfl, ?_, ?_⟩
      · simp [walk, walkList, he]
      · simp [walk]
  | cons i is ih =>
    intro T T' hw h
    cases T with
    | node a cs =>
      simp only [OnWalk] at hw
      obtain ⟨pre, c, post, hcs, hlen, hpre, hc, hrest⟩ := hw
      subst hcs
      simp only [extendAt, Option.map_eq_some_iff] at h
      obtain ⟨cs', h1, h2⟩ := h
      subst h2
      rw [← hlen] at h1
      obtain ⟨c', hc', hcs'⟩ := extendAtList_at e pre c post is cs' h1
      subst hcs'
      obtain ⟨anc, hal, hah, hwk, hpf⟩ := ih c c' hrest hc'
      have hinfo : c'.info = c.info := extend_info is e c c' hc'
      refine ⟨a :: anc, by simp [hal], rfl, ?_, ?_⟩
      · rw [walk_eq, walkList_skip acc pre c' post hpre (by rw [hinfo]; exact hc), hwk]; rfl
      · rw [walk_eq, walkList_skip acc pre c post hpre hc]
        exact List.cons_prefix_cons.mpr ⟨rfl, hpf⟩

/-- **lookup keeps old names**: attaching a node that does not carry the looked-up name
    leaves every lookup result unchanged (same node, same ancestors) -/
theorem lookup_old (p : α → Bool) (e : Tree α) (he : lookup p e = none) :
    ∀ (is : List Nat) (T T' : Tree α), extendAt e is T = some T' → lookup p T' = lookup p T := by
  intro is
  induction is with
  | nil =>
    intro T T' h
    cases T with
    | node a cs =>
      simp [extendAt] at h; subst h
      simp [lookup, lookupList, he]
  | cons i is ih =>
    intro T T' h
    cases T with
    | node a cs =>
      simp only [extendAt, Option.map_eq_some_iff] at h
      obtain ⟨cs', h1, h2⟩ := h
      subst h2
      simp only [lookup]
      have : lookupList p cs' = lookupList p cs := by
        clear a
        induction cs generalizing i cs' with
        | nil => simp [extendAtList] at h1
        | cons c cs ihc =>
          cases i with
          | zero =>
            simp only [extendAtList, Option.map_eq_some_iff] at h1
            obtain ⟨c', hc', hcs⟩ := h1
            subst hcs
            simp only [lookupList, ih c c' hc']
          | succ i =>
            simp only [extendAtList, Option.map_eq_some_iff] at h1
            obtain ⟨r, hr, hcs⟩ := h1
            subst hcs
            simp only [lookupList, ihc i r hr]
      rw [this]

/-- **lookup finds the extension**: a name carried by no node of the old tree resolves,
    after `Extend`, to the new node — whose parent (the entry before it in the returned
    ancestor list) is the node it was registered on -/
theorem lookup_new_here (p : α → Bool) (a b : α) (cs : List (Tree α))
    (hfresh : lookup p (.node a cs) = none) (hb : p b = true) :
    lookup p (.node a (.node b [] :: cs)) = some [a, b] := by
  have ha : p a = false := by
    cases hp : p a with
    | false => rfl
    | true => simp [lookup, hp] at hfresh
  simp [lookup, lookupList, ha, hb]

example : extendAt (.node 9 []) [1] (.node 1 [.node 2 [], .node 4 [.node 6 []]])
    = some (.node 1 [.node 2 [], .node 4 [.node 9 [], .node 6 []]]) := rfl
example : OnWalk (fun n => n % 2 == 0) [1] (.node 1 [.node 3 [], .node 4 [.node 6 []]]) := by
  refine ⟨[.node 3 []], .node 4 [.node 6 []], [], rfl, rfl, ?_, rfl, trivial⟩
  intro d hd; simp at hd; subst hd; rfl

end Mime.C14
