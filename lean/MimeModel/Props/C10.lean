import MimeModel.Lemmas.C10Base
import MimeModel.Lemmas.JsonTrunc
/-
  C10 — JSON sub-types are decided by top-level members, wherever they appear.

  Whole documents: the verdicts of GeoJSON / HAR / GLTF on an RFC 8259 document examined in full are
  `isGeo` / `isHar` / `isGltf` of its syntax tree (Spec/Json.lean), for every layout, member order and
  sibling content.  Truncated headers: when the deciding member lies inside the first `lim` bytes (the
  byte-level grammar `Decided` of Lemmas/JsonTrunc.lean), the sub-type is still reported wherever the
  cut falls after it — with one caveat that the real code shares: a deciding value that is a *number*
  must be followed by a delimiter (`{"log":{"version":01e+x` is not HAR).
-/
namespace Mime.C10
open Mime Mime.Json Mime.Gen.Json Mime.Spec Mime.JsonQuery Mime.JsonTrunc

/-- regenerated facts: the sub-types are the children of `json` in the priority order
    geojson, har, gltf, with the detectors GeoJSON, HAR, GLTF -/
theorem tree_facts :
    (Gen.builtin.flatten.filter (fun i => i.name == "geoJSON" || i.name == "har" || i.name == "gltf")).map
      (fun i => (i.name, i.det)) = [("geoJSON", .custom .geojson), ("har", .custom .har), ("gltf", .custom .gltf)] :=
  C10Base.tree_facts

/-- regenerated facts: the queries of parser.go are the ones the property names -/
theorem query_facts :
    q_geo.map (·.path) = [[[116, 121, 112, 101]]] ∧ (q_geo.map (fun q => q.vals.length)) = [9] ∧
    q_har.map (·.path) = [[[108, 111, 103], [118, 101, 114, 115, 105, 111, 110]],
                          [[108, 111, 103], [99, 114, 101, 97, 116, 111, 114]],
                          [[108, 111, 103], [101, 110, 116, 114, 105, 101, 115]]] ∧
    q_har.all (fun q => q.vals.isEmpty) = true ∧
    q_gltf = [{ path := [[97, 115, 115, 101, 116], [118, 101, 114, 115, 105, 111, 110]],
                vals := [[34, 49, 46, 48, 34], [34, 50, 46, 48, 34]] }] :=
  C10Base.query_facts

/-- the regenerated queries, evaluated on a syntax tree, are the three specifications -/
theorem geo_spec (v : J.JVal) : qsatV q_geo [] v = J.isGeo v := C10Base.geo_spec v
theorem har_spec (v : J.JVal) : qsatV q_har [] v = J.isHar v := C10Base.har_spec v
theorem gltf_spec (v : J.JVal) : qsatV q_gltf [] v = J.isGltf v := C10Base.gltf_spec v

/-- **C10 (whole documents)**, for any non-empty list of queries with quoted values -/
theorem helper_whole (qs : List Gen.Json.Query) (hne : qs.isEmpty = false) (hq : ValsQuoted qs) (D : Bytes) (v : J.JVal) (lim : Nat)
    (hdoc : J.doc true D = some v) (hdepth : J.depth v ≤ maxRecursion) (hwhole : lim = 0 ∨ D.length < lim) :
    jsonHelper D lim qs tokObject = (C10Base.isObj v && qsatV qs [] v) :=
  C10Base.helper_whole qs hne hq D v lim hdoc hdepth hwhole

/-- **C10 (whole documents)**: the verdicts of the three sub-type detectors on a whole RFC 8259
    document are the three specifications evaluated on its syntax tree -/
theorem subtypes_whole (D : Bytes) (v : J.JVal) (lim : Nat)
    (hdoc : J.doc true D = some v) (hdepth : J.depth v ≤ maxRecursion) (hwhole : lim = 0 ∨ D.length < lim) :
    jsonHelper D lim q_geo tokObject = J.isGeo v ∧
    jsonHelper D lim q_har tokObject = J.isHar v ∧
    jsonHelper D lim q_gltf tokObject = J.isGltf v :=
  C10Base.subtypes_whole D v lim hdoc hdepth hwhole

/-- the satisfied-query flag is never reset during a run, whatever the input -/
theorem flag_monotone (qs : List Gen.Json.Query) (cap : Nat) (f lvl : Nat) (b : Bytes) (s : PState)
    (h : s.querySatisfied = true) : (consumeAny qs cap f lvl b s).2.querySatisfied = true :=
  (flag_mono qs cap f).1 lvl b s h

/-- **C10 (truncated headers)**, for any non-empty list of queries with quoted values: the
    first `lim` bytes of an RFC 8259 document (depth within the cap) start, after white space,
    with `{`, and the member that decides a query lies inside them ⇒ the detector answers yes -/
theorem subtype_truncated (qs : List Gen.Json.Query) (hne : qs.isEmpty = false) (hq : ValsQuoted qs)
    (D : Bytes) (v : J.JVal) (lim : Nat) (b : Bytes) (n : Nat)
    (hdoc : J.doc true D = some v) (hdepth : J.depth v ≤ maxRecursion)
    (hlim : lim ≤ D.length) (hlim0 : lim ≠ 0)
    (hopen : J.skipWs (D.take lim) = 0x7B :: b)
    (hdec : Decided qs n [] b) (hn : n < maxRecursion) :
    jsonHelper (D.take lim) lim qs tokObject = true :=
  JsonTrunc.subtype_truncated qs hne hq D v lim b n hdoc hdepth hlim hlim0 hopen hdec hn

/-- **GeoJSON, truncated**: complete members, then `"type" : "<one of the nine names>"`, then anything -/
theorem geo_truncated (D : Bytes) (v : J.JVal) (lim : Nat) (b b' name r2 : Bytes) (n : Nat)
    (hdoc : J.doc true D = some v) (hdepth : J.depth v ≤ maxRecursion) (hlim : lim ≤ D.length) (hlim0 : lim ≠ 0)
    (hopen : J.skipWs (D.take lim) = 0x7B :: b) (hn : n < maxRecursion)
    (hm : Members n b b') (ht : IsMember b' (ofString "type") (.str name) r2) (hname : name ∈ J.geoNames) :
    jsonHelper (D.take lim) lim q_geo tokObject = true :=
  JsonTrunc.geo_truncated D v lim b n hdoc hdepth hlim hlim0 hopen (decided_geo n b b' name r2 hm ht hname) hn

/-- **glTF, truncated**: complete members, `"asset" : {`, complete members, `"version" : "1.0"|"2.0"`, then anything -/
theorem gltf_truncated (D : Bytes) (v : J.JVal) (lim : Nat) (b b1 b2 b3 ver r2 : Bytes) (n : Nat)
    (hdoc : J.doc true D = some v) (hdepth : J.depth v ≤ maxRecursion) (hlim : lim ≤ D.length) (hlim0 : lim ≠ 0)
    (hopen : J.skipWs (D.take lim) = 0x7B :: b) (hn : n + 1 < maxRecursion)
    (hm : Members (n + 1) b b1) (ho : OpensObject b1 (ofString "asset") b2) (hm2 : Members n b2 b3)
    (ht : IsMember b3 (ofString "version") (.str ver) r2) (hver : ver = ofString "1.0" ∨ ver = ofString "2.0") :
    jsonHelper (D.take lim) lim q_gltf tokObject = true :=
  JsonTrunc.gltf_truncated D v lim b (n + 1) hdoc hdepth hlim hlim0 hopen
    (decided_gltf n b b1 b2 b3 ver r2 hm ho hm2 ht hver) hn

/-- **HAR, truncated**: complete members, `"log" : {`, complete members, a member named `version`,
    `creator` or `entries` with a complete value (a number: followed by a delimiter), then anything -/
theorem har_truncated (D : Bytes) (v : J.JVal) (lim : Nat) (b b1 b2 b3 key : Bytes) (w : J.JVal) (r2 : Bytes) (n : Nat)
    (hdoc : J.doc true D = some v) (hdepth : J.depth v ≤ maxRecursion) (hlim : lim ≤ D.length) (hlim0 : lim ≠ 0)
    (hopen : J.skipWs (D.take lim) = 0x7B :: b) (hn : n + 1 < maxRecursion)
    (hm : Members (n + 1) b b1) (ho : OpensObject b1 (ofString "log") b2) (hm2 : Members n b2 b3)
    (ht : IsMember b3 key w r2)
    (hkey : key = ofString "version" ∨ key = ofString "creator" ∨ key = ofString "entries")
    (hdep : J.depth w ≤ n) (hnum : w = .num → JsonLeaf.Delim r2) :
    jsonHelper (D.take lim) lim q_har tokObject = true :=
  JsonTrunc.har_truncated D v lim b (n + 1) hdoc hdepth hlim hlim0 hopen
    (decided_har n b b1 b2 b3 key w r2 hm ho hm2 ht hkey hdep hnum) hn

/- non-vacuity: a GeoJSON header cut inside a later member; the deciding member is preceded by a
   non-empty array (the input shape of defect D3) -/
example : jsonHelper
    [0x7B, 0x22, 0x61, 0x22, 0x3A, 0x5B, 0x31, 0x5D, 0x2C, 0x22, 0x74, 0x79, 0x70, 0x65, 0x22, 0x3A, 0x22, 0x46, 0x65, 0x61,
     0x74, 0x75, 0x72, 0x65, 0x22, 0x2C, 0x22, 0x67] 28 q_geo tokObject = true := by decide

/-- regenerated tie: `Detect` / `DetectReader` load the limit once, atomically (see Lemmas/DetectTie.lean) -/
theorem tie_single_limit : Mime.DetectTie.SingleLimit := Mime.DetectTie.single_limit

end Mime.C10
