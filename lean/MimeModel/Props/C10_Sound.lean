import MimeModel.Lemmas.OfString
import MimeModel.Props.C10
import MimeModel.Props.C09_Detect
import MimeModel.Lemmas.DetectSound
import MimeModel.Lemmas.WalkLeaf
import MimeModel.Model.Closed
/-
  C10, the "only if" half of "reported as GeoJSON / HAR / glTF exactly when …", through `Detect`.
  Here the leaf is *given*, so no hypothesis about the formats in front of application/json is
  needed: for an RFC 8259 document examined in full, the geoJSON leaf ⇒ isGeo, the har leaf ⇒
  isHar ∧ ¬ isGeo, the gltf leaf ⇒ isGltf ∧ ¬ isGeo ∧ ¬ isHar, the json leaf ⇒ none of the three;
  and these four are the only nodes of the JSON family.  First-match order is read off the leaf
  (`Tree.detect_leaf`) and decided over the tables `Tree.kids` / `Tree.older` of `Gen.builtin`.
-/
namespace Mime.C10
open Mime Mime.Json Mime.Gen.Json Mime.Spec Mime.Tree Mime.DetectSound Mime.DetectPath
open Mime.C09 (mimeJson mimeGeoJson mimeGltfJson JsonFamily)

def extJson : Bytes := [46, 106, 115, 111, 110]
def extHar : Bytes := [46, 104, 97, 114]

example : extJson = ofString ".json" ∧ extHar = ofString ".har" := by
  repeat rw [ofString_ofList]
  decide +kernel

/- the four nodes of the JSON family, identified by what a caller sees: type and extension -/
def isGeoNode (i : Info) : Bool := i.mime == mimeGeoJson
def isHarNode (i : Info) : Bool := i.mime == mimeJson && i.ext == extHar
def isGltfNode (i : Info) : Bool := i.mime == mimeGltfJson
def isJsonNode (i : Info) : Bool := i.mime == mimeJson && i.ext == extJson

def hasDet (c : Custom) (l : List Info) : Bool := l.any (fun d => decide (d.det = .custom c))

/-- **regenerated facts** about tree.go:
    each of the four identifications picks exactly one node, with its detector;
    every node of the JSON family is one of the four; the root is none -/
theorem subtype_nodes :
    (Gen.builtin.flatten.filter isGeoNode).map (fun i => (i.name, i.det)) = [("geoJSON", .custom .geojson)] ∧
    (Gen.builtin.flatten.filter isHarNode).map (fun i => (i.name, i.det)) = [("har", .custom .har)] ∧
    (Gen.builtin.flatten.filter isGltfNode).map (fun i => (i.name, i.det)) = [("gltf", .custom .gltf)] ∧
    (Gen.builtin.flatten.filter isJsonNode).map (fun i => (i.name, i.det)) = [("json", .custom .json)] ∧
    Gen.builtin.flatten.all (fun i => !C09.isFamilyMime i.mime ||
      (isGeoNode i || isHarNode i || isGltfNode i || isJsonNode i)) = true ∧
    (isGeoNode Gen.builtin.info || isHarNode Gen.builtin.info || isGltfNode Gen.builtin.info ||
      isJsonNode Gen.builtin.info) = false := by
  decide +kernel

theorem det_of_node {P : Info → Bool} {n : String} {d : Det}
    (h : (Gen.builtin.flatten.filter P).map (fun i => (i.name, i.det)) = [(n, d)])
    {i : Info} (hi : i ∈ Gen.builtin.flatten) (hP : P i = true) : i.det = d := by
  have hm : (i.name, i.det) ∈ (Gen.builtin.flatten.filter P).map (fun i => (i.name, i.det)) :=
    List.mem_map.2 ⟨i, List.mem_filter.2 ⟨hi, hP⟩, rfl⟩
  rw [h, List.mem_singleton] at hm
  exact (Prod.mk.inj hm).2

/-- **regenerated facts** about tree.go: whatever is the har node has a GeoJSON-checked node among
    its older siblings; the gltf node a GeoJSON-checked and a HAR-checked one; the json node has
    children checked by all three -/
theorem subtype_order :
    (older Gen.builtin).all (fun p => !isHarNode p.1 || hasDet .geojson p.2) = true ∧
    (older Gen.builtin).all (fun p => !isGltfNode p.1 || (hasDet .geojson p.2 && hasDet .har p.2)) = true ∧
    (kids Gen.builtin).all (fun p => !isJsonNode p.1 ||
      (hasDet .geojson p.2 && hasDet .har p.2 && hasDet .gltf p.2)) = true := by
  decide +kernel

theorem refused_of_hasDet (ext : Ext) (h : Bytes) (lim : Nat) (c : Custom) {g : Bytes → Nat → Bool}
    (hm : Cust.customModel c = some (fun raw lim => some (g raw lim))) (l : List Info)
    (hl : hasDet c l = true) (hrej : ∀ d ∈ l, accepts ext h lim d = false) : g h lim = false := by
  obtain ⟨d, hd, hdet⟩ := List.any_eq_true.1 hl
  rw [← accepts_custom_total ext h lim d c g (of_decide_eq_true hdet) hm]
  exact hrej d hd

/-- the verdicts behind a reported leaf, in terms of the three checks on the examined header, for
    every input and limit (no assumption that the input is JSON): read off first-match order -/
theorem leaf_checks (ext : Ext) (x : Bytes) (lim : Nat) (leaf : Info)
    (hleaf : (detect ext Gen.builtin x lim).chain.head? = some leaf) :
    (isGeoNode leaf = true → jsonHelper (header x lim) lim q_geo tokObject = true) ∧
    (isHarNode leaf = true → jsonHelper (header x lim) lim q_har tokObject = true ∧
      jsonHelper (header x lim) lim q_geo tokObject = false) ∧
    (isGltfNode leaf = true → jsonHelper (header x lim) lim q_gltf tokObject = true ∧
      jsonHelper (header x lim) lim q_geo tokObject = false ∧
      jsonHelper (header x lim) lim q_har tokObject = false) ∧
    (isJsonNode leaf = true → jsonHelper (header x lim) lim q_geo tokObject = false ∧
      jsonHelper (header x lim) lim q_har tokObject = false ∧
      jsonHelper (header x lim) lim q_gltf tokObject = false) := by
  have hmem := (chain_cases ext Gen.builtin x lim leaf (List.mem_of_mem_head? hleaf)).1
  obtain ⟨⟨cs, hk, hkrej⟩, hcase⟩ := detect_leaf ext Gen.builtin x lim leaf hleaf
  obtain ⟨oh, ot, kj⟩ := subtype_order
  obtain ⟨ng, nh, nt, _, _, hroot⟩ := subtype_nodes
  rw [List.all_eq_true] at oh ot kj
  have hnr : (isGeoNode leaf || isHarNode leaf || isGltfNode leaf || isJsonNode leaf) = true →
      ∃ pre, (leaf, pre) ∈ older Gen.builtin ∧
        (∀ d ∈ pre, accepts ext (header x lim) lim d = false) ∧ accepts ext (header x lim) lim leaf = true := by
    intro h4
    rcases hcase with he | h
    · rw [he, hroot] at h4; cases h4
    · exact h
  refine ⟨fun hn => ?_, fun hn => ?_, fun hn => ?_, fun hn => ?_⟩
  · obtain ⟨_, _, _, hacc⟩ := hnr (by simp [hn])
    rwa [accepts_custom_total ext _ lim leaf .geojson _ (det_of_node ng hmem hn) rfl] at hacc
  · obtain ⟨pre, ho, hrej, hacc⟩ := hnr (by simp [hn])
    have hpre : hasDet .geojson pre = true := by simpa [hn] using oh _ ho
    rw [accepts_custom_total ext _ lim leaf .har _ (det_of_node nh hmem hn) rfl] at hacc
    exact ⟨hacc, refused_of_hasDet ext (header x lim) lim .geojson rfl pre hpre hrej⟩
  · obtain ⟨pre, ho, hrej, hacc⟩ := hnr (by simp [hn])
    have hpre : hasDet .geojson pre = true ∧ hasDet .har pre = true := by simpa [hn] using ot _ ho
    rw [accepts_custom_total ext _ lim leaf .gltf _ (det_of_node nt hmem hn) rfl] at hacc
    exact ⟨hacc, refused_of_hasDet ext (header x lim) lim .geojson rfl pre hpre.1 hrej,
      refused_of_hasDet ext (header x lim) lim .har rfl pre hpre.2 hrej⟩
  · have hcs : (hasDet .geojson cs = true ∧ hasDet .har cs = true) ∧ hasDet .gltf cs = true := by
      simpa [hn] using kj _ hk
    exact ⟨refused_of_hasDet ext (header x lim) lim .geojson rfl cs hcs.1.1 hkrej,
      refused_of_hasDet ext (header x lim) lim .har rfl cs hcs.1.2 hkrej,
      refused_of_hasDet ext (header x lim) lim .gltf rfl cs hcs.2 hkrej⟩

/-- **C10 through `Detect`, "only if"** (whole documents): for an RFC 8259 document examined in
    full, the reported leaf determines the specifications on its syntax tree:
    the geoJSON node ⇒ isGeo; the har node ⇒ isHar and not isGeo; the gltf node ⇒ isGltf and
    neither isGeo nor isHar; the json node itself ⇒ none of the three.  For every `ext`; no
    hypothesis about the formats consulted before application/json. -/
theorem subtype_verdict_sound (ext : Ext) (D : Bytes) (v : J.JVal) (lim : Nat)
    (hdoc : J.doc true D = some v) (hdepth : J.depth v ≤ maxRecursion) (hwhole : lim = 0 ∨ D.length < lim)
    (leaf : Info) (hleaf : (detect ext Gen.builtin D lim).chain.head? = some leaf) :
    (isGeoNode leaf = true → J.isGeo v = true) ∧
    (isHarNode leaf = true → J.isHar v = true ∧ J.isGeo v = false) ∧
    (isGltfNode leaf = true → J.isGltf v = true ∧ J.isGeo v = false ∧ J.isHar v = false) ∧
    (isJsonNode leaf = true → J.isGeo v = false ∧ J.isHar v = false ∧ J.isGltf v = false) := by
  have h := leaf_checks ext D lim leaf hleaf
  rw [header_whole D lim (hwhole.imp_right Nat.le_of_lt)] at h
  obtain ⟨sg, sh, st⟩ := subtypes_whole D v lim hdoc hdepth hwhole
  rw [sg, sh, st] at h
  exact h

/-- the headline clause in the caller's terms: reported as application/geo+json ⇒ GeoJSON -/
theorem geojson_verdict_sound (ext : Ext) (D : Bytes) (v : J.JVal) (lim : Nat)
    (hdoc : J.doc true D = some v) (hdepth : J.depth v ≤ maxRecursion) (hwhole : lim = 0 ∨ D.length < lim)
    (leaf : Info) (hleaf : (detect ext Gen.builtin D lim).chain.head? = some leaf)
    (hm : leaf.mime = mimeGeoJson) : J.isGeo v = true :=
  (subtype_verdict_sound ext D v lim hdoc hdepth hwhole leaf hleaf).1 (by simp [isGeoNode, hm])

theorem gltf_verdict_sound (ext : Ext) (D : Bytes) (v : J.JVal) (lim : Nat)
    (hdoc : J.doc true D = some v) (hdepth : J.depth v ≤ maxRecursion) (hwhole : lim = 0 ∨ D.length < lim)
    (leaf : Info) (hleaf : (detect ext Gen.builtin D lim).chain.head? = some leaf)
    (hm : leaf.mime = mimeGltfJson) : J.isGltf v = true ∧ J.isGeo v = false ∧ J.isHar v = false :=
  (subtype_verdict_sound ext D v lim hdoc hdepth hwhole leaf hleaf).2.2.1 (by simp [isGltfNode, hm])

theorem har_verdict_sound (ext : Ext) (D : Bytes) (v : J.JVal) (lim : Nat)
    (hdoc : J.doc true D = some v) (hdepth : J.depth v ≤ maxRecursion) (hwhole : lim = 0 ∨ D.length < lim)
    (leaf : Info) (hleaf : (detect ext Gen.builtin D lim).chain.head? = some leaf)
    (hm : leaf.mime = mimeJson) (he : leaf.ext = extHar) : J.isHar v = true ∧ J.isGeo v = false :=
  (subtype_verdict_sound ext D v lim hdoc hdepth hwhole leaf hleaf).2.1 (by simp [isHarNode, hm, he])

theorem family_leaf_cases (ext : Ext) (x : Bytes) (lim : Nat) (leaf : Info)
    (hleaf : (detect ext Gen.builtin x lim).chain.head? = some leaf) (hm : JsonFamily leaf.mime) :
    isGeoNode leaf = true ∨ isHarNode leaf = true ∨ isGltfNode leaf = true ∨ isJsonNode leaf = true := by
  have hmem := (chain_cases ext Gen.builtin x lim leaf (List.mem_of_mem_head? hleaf)).1
  obtain ⟨_, _, _, _, hall, _⟩ := subtype_nodes
  rw [List.all_eq_true] at hall
  have := hall leaf hmem
  simpa [C09.isFamilyMime_of _ hm, or_assoc] using this

theorem bool_clash {b : Bool} (h1 : b = true) (h2 : b = false) : False :=
  Bool.false_ne_true (h2.symm.trans h1)

/-- **"exactly when"** (whole documents, leaf of the JSON family): among the reports of the JSON
    family, the leaf is the geoJSON node exactly when isGeo, the har node exactly when isHar and
    not isGeo, the gltf node exactly when isGltf and neither, the json node exactly when none -/
theorem subtype_verdict_iff (ext : Ext) (D : Bytes) (v : J.JVal) (lim : Nat)
    (hdoc : J.doc true D = some v) (hdepth : J.depth v ≤ maxRecursion) (hwhole : lim = 0 ∨ D.length < lim)
    (leaf : Info) (hleaf : (detect ext Gen.builtin D lim).chain.head? = some leaf) (hm : JsonFamily leaf.mime) :
    (isGeoNode leaf = true ↔ J.isGeo v = true) ∧
    (isHarNode leaf = true ↔ (J.isHar v = true ∧ J.isGeo v = false)) ∧
    (isGltfNode leaf = true ↔ (J.isGltf v = true ∧ J.isGeo v = false ∧ J.isHar v = false)) ∧
    (isJsonNode leaf = true ↔ (J.isGeo v = false ∧ J.isHar v = false ∧ J.isGltf v = false)) := by
  obtain ⟨s1, s2, s3, s4⟩ := subtype_verdict_sound ext D v lim hdoc hdepth hwhole leaf hleaf
  have hc := family_leaf_cases ext D lim leaf hleaf hm
  refine ⟨⟨s1, fun h => ?_⟩, ⟨s2, fun h => ?_⟩, ⟨s3, fun h => ?_⟩, ⟨s4, fun h => ?_⟩⟩
  · rcases hc with c | c | c | c
    · exact c
    · exact (bool_clash h (s2 c).2).elim
    · exact (bool_clash h (s3 c).2.1).elim
    · exact (bool_clash h (s4 c).1).elim
  · rcases hc with c | c | c | c
    · exact (bool_clash (s1 c) h.2).elim
    · exact c
    · exact (bool_clash h.1 (s3 c).2.2).elim
    · exact (bool_clash h.1 (s4 c).2.1).elim
  · rcases hc with c | c | c | c
    · exact (bool_clash (s1 c) h.2.1).elim
    · exact (bool_clash (s2 c).1 h.2.2).elim
    · exact c
    · exact (bool_clash h.1 (s4 c).2.2).elim
  · rcases hc with c | c | c | c
    · exact (bool_clash (s1 c) h.1).elim
    · exact (bool_clash (s2 c).1 h.2.1).elim
    · exact (bool_clash (s3 c).1 h.2.2).elim
    · exact c

/- The same about `Closed.detect`, the model with no external parameter left: what
   `mimetype.Detect` computes on the built-in tree. -/

theorem closed_subtype_verdict_sound (D : Bytes) (v : J.JVal) (lim : Nat)
    (hdoc : J.doc true D = some v) (hdepth : J.depth v ≤ maxRecursion) (hwhole : lim = 0 ∨ D.length < lim)
    (leaf : Info) (hleaf : (Closed.detect D lim).chain.head? = some leaf) :
    (isGeoNode leaf = true → J.isGeo v = true) ∧
    (isHarNode leaf = true → J.isHar v = true ∧ J.isGeo v = false) ∧
    (isGltfNode leaf = true → J.isGltf v = true ∧ J.isGeo v = false ∧ J.isHar v = false) ∧
    (isJsonNode leaf = true → J.isGeo v = false ∧ J.isHar v = false ∧ J.isGltf v = false) :=
  subtype_verdict_sound Closed.ext D v lim hdoc hdepth hwhole leaf hleaf

theorem closed_geojson_verdict_sound (D : Bytes) (v : J.JVal) (lim : Nat)
    (hdoc : J.doc true D = some v) (hdepth : J.depth v ≤ maxRecursion) (hwhole : lim = 0 ∨ D.length < lim)
    (leaf : Info) (hleaf : (Closed.detect D lim).chain.head? = some leaf)
    (hm : leaf.mime = mimeGeoJson) : J.isGeo v = true :=
  geojson_verdict_sound Closed.ext D v lim hdoc hdepth hwhole leaf hleaf hm

/-- `{"type":"Point"}` -/
def exGeo : Bytes := ofString "{\"type\":\"Point\"}"
/-- `{"log":{"version":1}}` -/
def exHar : Bytes := ofString "{\"log\":{\"version\":1}}"
/-- `{"asset":{"version":"2.0"}}` -/
def exGltf : Bytes := ofString "{\"asset\":{\"version\":\"2.0\"}}"
/-- both: `{"log":{"version":1},"type":"Point"}` — GeoJSON wins, wherever the member stands -/
def exBoth : Bytes := ofString "{\"log\":{\"version\":1},\"type\":\"Point\"}"

example : (Closed.detectChain exGeo 0).head? = some (mimeGeoJson, ofString ".geojson") := by
  rw [exGeo]
  repeat rw [ofString_ofList]
  decide +kernel
example : (Closed.detectChain exHar 0).head? = some (mimeJson, extHar) := by
  rw [exHar, ofString_ofList]
  decide +kernel
example : (Closed.detectChain exGltf 0).head? = some (mimeGltfJson, ofString ".gltf") := by
  rw [exGltf]
  repeat rw [ofString_ofList]
  decide +kernel
example : (Closed.detectChain exBoth 0).head? = some (mimeGeoJson, ofString ".geojson") := by
  rw [exBoth]
  repeat rw [ofString_ofList]
  decide +kernel
example : (Closed.detectChain (ofString "{\"type\":\"point\"}") 0).head? = some (mimeJson, extJson) := by
  rw [ofString_ofList]
  decide +kernel

/-- the hypotheses hold of the examples, and the specifications say what the theorem concludes -/
example : (J.doc true exHar).map (fun v => (decide (J.depth v ≤ maxRecursion), J.isHar v, J.isGeo v)) =
    some (true, true, false) := by
  rw [exHar, ofString_ofList]
  decide +kernel
example : (J.doc true exBoth).map (fun v => (decide (J.depth v ≤ maxRecursion), J.isHar v, J.isGeo v)) =
    some (true, true, true) := by
  rw [exBoth, ofString_ofList]
  decide +kernel

end Mime.C10
