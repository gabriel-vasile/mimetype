import MimeModel.Lemmas.DetectXml
import MimeModel.Props.C12_Xml
import MimeModel.Lemmas.DetectText
import MimeModel.Lemmas.OfString
/-
  C12, XML clause, through `Detect` with the closed model (no oracle):

    doc = lead <?xml version=q1.0q S encoding=qLq tail ?> rest

  (`lead` white space, `q` either quote, `S` XML white space, `L` a non-empty label of token
  characters, `tail` white space or a standalone pseudo-attribute), free of binary-data bytes and
  examined at least up to the end of the declaration.  Then one of three things happens:

    1. the reported leaf is the `xml` node (text/xml) and the charset parameter is `L` in lower case;
    2. one of the 13 children of the `xml` node (rss, atom, x3d, kml, xliff, collada, gml, gpx, tcx,
       amf, threemf, xfdf, owl2 — all leaves with an `xml(...)` check) accepts the header: it is the
       reported leaf and no charset parameter is attached;
    3. one of FOUR formats consulted before `xml` accepts the header: tar, dcm, mobi (root level:
       checksum at offset 148, `DICM` at offset 128, `BOOKMOBI` at offset 60 — all possible in the part
       of the document the hypotheses leave free) or svg (`<svg` anywhere in the header).
       The other 94 formats consulted before `xml` (93 root formats, html) are discharged by proof
       (`Lemmas/DetectXml.lean`: a static analysis of their regenerated checks, sound for every
       header of this shape, evaluated on the regenerated tree by `decide`).
-/
namespace Mime.C12
open Mime Mime.Charset Mime.XmlTok Mime.XmlTokLemmas Mime.HtmlTokLemmas Mime.Tree Mime.WalkPath Mime.Cust
open Mime.DetectXml

def xmlNode : Tree Info := (C08.textNode.children.find? (isNamed "xml")).getD Gen.builtin
def xmlPath : List (Tree Info → Bool) := [isNamed "text", isNamed "xml"]

theorem xml_found : C08.textNode.children.find? (isNamed "xml") = some xmlNode :=
  DetectPath.found _ (by decide +kernel)

def sigXML : Bytes := [60, 63, 88, 77, 76]          -- "<?XML", as in the regenerated table
def kSvg : Bytes := [60, 115, 118, 103]             -- "<svg"

/-- regenerated: the `xml` node is a child of text/plain, of type text/xml, its check is the `markup`
    combinator over the single signature `<?XML` (case-insensitive, after an optional UTF-8 BOM and
    white space, followed by a space or `>`); the text children consulted before it are html
    (`markup` over the HTML tag table) and svg (`<svg` anywhere in the header) -/
theorem xml_node_facts :
    xmlNode.info.name = "xml" ∧ xmlNode.info.mime = mimeTextXml ∧ xmlNode.info.det = .markup [sigXML] ∧
    (C08.textNode.children.takeWhile (fun x => !isNamed "xml" x)).map (fun c => (c.info.name, c.info.det)) =
      [("html", Gen.d_HTML), ("svg", .expr (.containsAll kSvg))] ∧
    (∃ sigs, Gen.d_HTML = .markup sigs) := by
  have h : xmlNode.info.name = "xml" ∧ xmlNode.info.mime = mimeTextXml ∧ xmlNode.info.det = .markup [sigXML] ∧
      (C08.textNode.children.takeWhile (fun x => !isNamed "xml" x)).map (fun c => (c.info.name, c.info.det)) =
        [("html", Gen.d_HTML), ("svg", .expr (.containsAll kSvg))] := by decide +kernel
  exact ⟨h.1, h.2.1, h.2.2.1, h.2.2.2, _, rfl⟩

/-- regenerated: the children of the `xml` node, in the order in which they are consulted; all are
    leaves, their checks are `xml(...)` combinators (local name and/or namespace within the first
    512 bytes after white space) and none of their types gets a charset parameter -/
theorem xml_children :
    xmlNode.children.map (fun c => (c.info.name, c.info.det, c.children.length)) =
      [("rss", Gen.d_Rss, 0), ("atom", Gen.d_Atom, 0), ("x3d", Gen.d_X3d, 0), ("kml", Gen.d_Kml, 0),
       ("xliff", Gen.d_Xliff, 0), ("collada", Gen.d_Collada, 0), ("gml", Gen.d_Gml, 0),
       ("gpx", Gen.d_Gpx, 0), ("tcx", Gen.d_Tcx, 0), ("amf", Gen.d_Amf, 0),
       ("threemf", Gen.d_Threemf, 0), ("xfdf", Gen.d_Xfdf, 0), ("owl2", Gen.d_Owl2, 0)] ∧
    xmlNode.children.all (fun c => match c.info.det with | .xml _ => true | _ => false) = true ∧
    xmlNode.children.all (fun c => c.children.isEmpty) = true ∧
    xmlNode.children.all (fun c => !(c.info.mime == mimeTextPlain) && !(c.info.mime == mimeTextHtml) &&
      !(c.info.mime == mimeTextXml)) = true := by
  decide +kernel

/-- the formats consulted before `xml` that the analysis of `Lemmas/DetectXml.lean` does NOT discharge -/
def xmlRivalsLeft : List String := ["tar", "dcm", "mobi", "svg"]

/-- regenerated: 98 formats are consulted before `xml` (96 root formats in front of text/plain,
    then html and svg); the checks of all but tar, dcm, mobi and svg are rejected by the analysis -/
theorem xml_rivals :
    (rivals xmlPath Gen.builtin).length = 98 ∧
    ((rivals xmlPath Gen.builtin).filter (fun d => !rejD d.info.det)).map (·.info.name) = xmlRivalsLeft := by
  decide +kernel

theorem xml_rivals_named : ∀ d ∈ rivals xmlPath Gen.builtin, rejD d.info.det = false →
    d.info.name ∈ xmlRivalsLeft := by
  intro d hd hr
  have h := xml_rivals.2
  have : d ∈ (rivals xmlPath Gen.builtin).filter (fun d => !rejD d.info.det) := by
    simp [List.mem_filter, hd, hr]
  rw [← h]
  exact List.mem_map_of_mem this

/-- the document of `xml_declared_bytes` -/
def xmlDoc (lead S L tail rest : Bytes) (q : Nat) : Bytes :=
  lead ++ prologStart ++ [0x20] ++ kwVersionEq ++ [q] ++ v10 ++ [q] ++ S ++
    kwEncodingEq ++ [q] ++ L ++ [q] ++ tail ++ piEnd ++ rest

theorem xml_accepts_of_trim (ext : Ext) {raw : Bytes} (r : Bytes) (lim : Nat)
    (h : trimLWS raw = prologStart ++ 0x20 :: r) : accepts ext raw lim xmlNode.info = true := by
  have hbom : hasPrefix raw utf8BOM = false :=
    hasPrefix_first_of_trim (r := 0x3F :: 0x78 :: 0x6D :: 0x6C :: 0x20 :: r) (by rw [h]; rfl) 0xEF _ (by decide)
  unfold accepts Cust.detEval
  obtain ⟨_, _, hdet, _⟩ := xml_node_facts
  rw [hdet]
  simp only [Det.evalWith, hbom, Bool.false_eq_true, ↓reduceIte, h]
  simp [prologStart, sigXML, anyG, markupCheck, ciMatch, getB]
  rw [if_neg (by omega)]

theorem xmlDoc_trim (lead S L tail rest : Bytes) (q : Nat) (hlead : ∀ c ∈ lead, isWS c = true) :
    ∃ r, trimLWS (xmlDoc lead S L tail rest q) = prologStart ++ 0x20 :: r :=
  ⟨declInst q S L tail ++ (piEnd ++ rest), by
    rw [xmlDoc, declDoc_eq, trimLWS_lead lead 0x3C _ hlead (by decide)]; rfl⟩

/-- the `XML` check accepts the document (only `lead` matters: the white space the detector
    skips is exactly the white space `trimLWS` of the charset code strips — both packages define
    `isWS` as TAB, LF, FF, CR, SP; the detector additionally skips a UTF-8 BOM in front of it) -/
theorem xml_accepts (ext : Ext) (lead S L tail rest : Bytes) (q lim : Nat)
    (hlead : ∀ c ∈ lead, isWS c = true) :
    accepts ext (xmlDoc lead S L tail rest q) lim xmlNode.info = true := by
  obtain ⟨r, hr⟩ := xmlDoc_trim lead S L tail rest q hlead
  exact xml_accepts_of_trim ext r lim hr

theorem isWS_inA {c : Nat} (h : isWS c = true) : inA c = true := by
  simp [isWS] at h
  rcases h with (((rfl | rfl) | rfl) | rfl) | rfl <;> decide

theorem isXmlSpace_inA {c : Nat} (h : isXmlSpace c = true) : inA c = true := by
  simp [isXmlSpace] at h
  rcases h with ((rfl | rfl) | rfl) | rfl <;> decide

theorem fromBOM_of_trim {raw r : Bytes} (hr : trimLWS raw = 0x3C :: r) : fromBOM raw = csNone := by
  obtain ⟨c, tl, rfl, hc⟩ := head_of_trim hr
  apply fromBOM_head
  simp [isF, isWS] at hc
  omega

theorem text_no_binary {raw r : Bytes} (hr : trimLWS raw = 0x3C :: r) (ht : Cust.text raw = true) :
    ∀ c ∈ raw, okB c = true := by
  unfold Cust.text at ht
  rw [fromBOM_of_trim hr] at ht
  simp only [bne_self_eq_false, Bool.false_eq_true, ↓reduceIte, Bool.not_eq_true', List.any_eq_false] at ht
  intro c hc
  simpa [okB] using ht c hc

/-- the start of the document up to the opening quote of the label: at least 29 bytes, all of them
    white space or bytes of `<?xml version="1.0"'encoding=` -/
def xmlFront (lead S : Bytes) (q : Nat) : Bytes :=
  lead ++ prologStart ++ [0x20] ++ kwVersionEq ++ [q] ++ v10 ++ [q] ++ S ++ kwEncodingEq ++ [q]

theorem xmlFront_facts (lead S : Bytes) (q : Nat) (hlead : ∀ c ∈ lead, isWS c = true)
    (hq : q = 0x22 ∨ q = 0x27) (hS : ∀ c ∈ S, isXmlSpace c = true) :
    win ≤ (xmlFront lead S q).length ∧ ∀ c ∈ xmlFront lead S q, inA c = true := by
  constructor
  · simp only [xmlFront, prologStart, kwVersionEq, v10, kwEncodingEq, win, List.length_append, List.length_cons,
      List.length_nil]; omega
  · have hq' : inA q = true := by rcases hq with rfl | rfl <;> decide
    have hl : lead.all inA = true := List.all_eq_true.mpr fun c hc => isWS_inA (hlead c hc)
    have hs : S.all inA = true := List.all_eq_true.mpr fun c hc => isXmlSpace_inA (hS c hc)
    have hall : (xmlFront lead S q).all inA = true := by
      simp only [xmlFront, List.all_append, List.all_cons, List.all_nil, hl, hs, hq', Bool.and_true, Bool.true_and]
      decide
    exact fun c hc => List.all_eq_true.mp hall c hc

theorem xmlDoc_like (lead S L tail rest : Bytes) (q : Nat) (hlead : ∀ c ∈ lead, isWS c = true)
    (hq : q = 0x22 ∨ q = 0x27) (hS : ∀ c ∈ S, isXmlSpace c = true)
    (htext : Cust.text (xmlDoc lead S L tail rest q) = true) : XmlLike (xmlDoc lead S L tail rest q) := by
  obtain ⟨r, hr⟩ := xmlDoc_trim lead S L tail rest q hlead
  have hr' : trimLWS (xmlDoc lead S L tail rest q) = 0x3C :: 0x3F :: (0x78 :: 0x6D :: 0x6C :: 0x20 :: r) := by
    rw [hr]; rfl
  refine ⟨⟨_, hr'⟩, ?_, text_no_binary hr' htext⟩
  obtain ⟨hlen, hall⟩ := xmlFront_facts lead S q hlead hq hS
  intro i c hi hget
  have e : xmlDoc lead S L tail rest q = xmlFront lead S q ++ (L ++ [q] ++ tail ++ piEnd ++ rest) := by
    simp [xmlDoc, xmlFront, List.append_assoc]
  rw [e, List.getElem?_append_left (by omega)] at hget
  exact hall c (List.mem_of_getElem? hget)

theorem xml_children_leaves : ∀ c ∈ xmlNode.children, c.children = [] := by
  obtain ⟨_, _, h, _⟩ := xml_children
  rw [List.all_eq_true] at h
  intro c hc
  simpa using h c hc

theorem xml_children_no_charset (ext : Ext) (h : Bytes) : ∀ c ∈ xmlNode.children,
    charsetFor ext c.info.mime h = [] := by
  obtain ⟨_, _, _, hh⟩ := xml_children
  rw [List.all_eq_true] at hh
  intro c hc
  have := hh c hc
  simp only [Bool.and_eq_true, Bool.not_eq_true'] at this
  obtain ⟨⟨h1, h2⟩, h3⟩ := this
  simp [charsetFor, h1, h2, h3]

theorem detect_of_last (ext : Ext) (T : Tree Info) (x : Bytes) (lim : Nat) (i : Info)
    (h : (walk (accepts ext (header x lim) lim) T).getLast? = some i) :
    (Mime.detect ext T x lim).chain.head? = some i ∧
    (Mime.detect ext T x lim).charset = charsetFor ext i.mime (header x lim) := by
  have hleaf : (Mime.detect ext T x lim).chain.head? = some i := by
    rw [DetectSound.chain_eq, List.head?_reverse]; exact h
  exact ⟨hleaf, DetectSound.charset_of_leaf ext T x lim i hleaf⟩

theorem charsetFor_xml (h : Bytes) : charsetFor Closed.ext mimeTextXml h = fromXMLBytes h := by
  unfold charsetFor
  rw [if_neg (by decide), if_neg (by decide), if_pos (by decide)]
  rfl

/-- what `Detect` may answer on an XML document with a declared encoding `L`: text/xml with `charset = L` in
    lower case; or a child of the `xml` node, without charset parameter; or a rival not excluded by the analysis -/
def XmlOutcome (x : Bytes) (lim : Nat) (L : Bytes) : Prop :=
  ((Mime.detect Closed.ext Gen.builtin x lim).chain.head? = some xmlNode.info ∧
    (Mime.detect Closed.ext Gen.builtin x lim).charset = lowerASCII L ∧
    ∀ c ∈ xmlNode.children, accepts Closed.ext (header x lim) lim c.info = false) ∨
  (∃ c ∈ xmlNode.children, accepts Closed.ext (header x lim) lim c.info = true ∧
    (Mime.detect Closed.ext Gen.builtin x lim).chain.head? = some c.info ∧
    (Mime.detect Closed.ext Gen.builtin x lim).charset = []) ∨
  (∃ d ∈ rivals xmlPath Gen.builtin, d.info.name ∈ xmlRivalsLeft ∧
    accepts Closed.ext (header x lim) lim d.info = true)

theorem xml_outcome_of_header (x : Bytes) (lim : Nat) (lead S L tail rest : Bytes) (q : Nat)
    (hlead : ∀ c ∈ lead, isWS c = true) (hq : q = 0x22 ∨ q = 0x27)
    (hS : ∀ c ∈ S, isXmlSpace c = true)
    (hL : ∀ c ∈ L, MT.isTokenChar c = true ∧ c ≠ 0x27) (hne : L ≠ []) (ht : TailForm tail)
    (hh : header x lim = xmlDoc lead S L tail rest q)
    (htext : Cust.text (header x lim) = true) : XmlOutcome x lim L := by
  have hx : XmlLike (header x lim) := by
    rw [hh] at htext ⊢; exact xmlDoc_like lead S L tail rest q hlead hq hS htext
  have hcs : charsetFor Closed.ext xmlNode.info.mime (header x lim) = lowerASCII L := by
    obtain ⟨_, hmime, _⟩ := xml_node_facts
    rw [hmime, charsetFor_xml, hh]
    exact (xml_declared_bytes lead S L tail rest q hlead hq hS hL hne ht).1
  have hacc_xml : accepts Closed.ext (header x lim) lim xmlNode.info = true := by
    rw [hh]; exact xml_accepts Closed.ext lead S L tail rest q lim hlead
  rcases walk_along (accepts Closed.ext (header x lim) lim) xmlPath Gen.builtin xmlNode
      (DetectText.descend_text xml_found)
      (DetectText.accepted_text Closed.ext _ lim xml_found htext hacc_xml) with hw | ⟨d, hd, hda⟩
  · -- below the `xml` node: its children are leaves, the first that accepts (if any) ends the walk
    rw [walk_unfold _ xmlNode, walkList_eq_find] at hw
    cases hf : xmlNode.children.find? (fun c => accepts Closed.ext (header x lim) lim c.info) with
    | none =>
      obtain ⟨h1, h2⟩ := detect_of_last Closed.ext Gen.builtin x lim xmlNode.info (by rw [hw, hf]; simp)
      exact Or.inl ⟨h1, h2.trans hcs, fun c hc => Bool.eq_false_iff.mpr (List.find?_eq_none.mp hf c hc)⟩
    | some c =>
      have hc := List.mem_of_find?_eq_some hf
      obtain ⟨h1, h2⟩ := detect_of_last Closed.ext Gen.builtin x lim c.info
        (by rw [hw, hf, Option.elim, walk_unfold _ c, xml_children_leaves c hc, walkList]; simp)
      exact Or.inr (Or.inl ⟨c, hc, (List.find?_eq_some_iff_append.mp hf).1, h1, h2.trans (xml_children_no_charset Closed.ext _ c hc)⟩)
  · refine Or.inr (Or.inr ⟨d, hd, xml_rivals_named d hd ?_, hda⟩)
    cases hr : rejD d.info.det with
    | false => rfl
    | true => exact absurd (beq_iff_eq.mp hda) (rejD_sound hx Closed.ext.cust d.info.det lim hr)

/-- C12 through `Detect`, XML clause (closed model): the document
    `lead <?xml version=q1.0q S encoding=qLq tail ?> rest`, free of binary-data bytes, examined in full:
    the result is text/xml with `charset = L` lower-cased — unless a child of the `xml` node accepts
    (then that child is reported, without charset parameter) or tar, dcm, mobi or svg accepts -/
theorem xml_charset_detected (lead S L tail rest : Bytes) (q lim : Nat)
    (hlead : ∀ c ∈ lead, isWS c = true) (hq : q = 0x22 ∨ q = 0x27)
    (hS : ∀ c ∈ S, isXmlSpace c = true)
    (hL : ∀ c ∈ L, MT.isTokenChar c = true ∧ c ≠ 0x27) (hne : L ≠ []) (ht : TailForm tail)
    (htext : Cust.text (xmlDoc lead S L tail rest q) = true)
    (hwhole : lim = 0 ∨ (xmlDoc lead S L tail rest q).length < lim) :
    let doc := xmlDoc lead S L tail rest q
    ((Mime.detect Closed.ext Gen.builtin doc lim).chain.head? = some xmlNode.info ∧
      (Mime.detect Closed.ext Gen.builtin doc lim).charset = lowerASCII L ∧
      ∀ c ∈ xmlNode.children, accepts Closed.ext doc lim c.info = false) ∨
    (∃ c ∈ xmlNode.children, accepts Closed.ext doc lim c.info = true ∧
      (Mime.detect Closed.ext Gen.builtin doc lim).chain.head? = some c.info ∧
      (Mime.detect Closed.ext Gen.builtin doc lim).charset = []) ∨
    (∃ d ∈ rivals xmlPath Gen.builtin, d.info.name ∈ xmlRivalsLeft ∧
      accepts Closed.ext doc lim d.info = true) := by
  intro doc
  have hhdr : header doc lim = doc := DetectSound.header_whole doc lim (hwhole.imp_right Nat.le_of_lt)
  have := xml_outcome_of_header doc lim lead S L tail rest q hlead hq hS hL hne ht hhdr (by rw [hhdr]; exact htext)
  unfold XmlOutcome at this
  rw [hhdr] at this
  exact this

/-- length of white space + declaration -/
def declEnd (lead S L tail : Bytes) (q : Nat) : Nat := (xmlDoc lead S L tail [] q).length

theorem xmlDoc_append (lead S L tail rest : Bytes) (q : Nat) :
    xmlDoc lead S L tail rest q = xmlDoc lead S L tail [] q ++ rest := by
  unfold xmlDoc; rw [List.append_nil]

/-- C12 through `Detect`, XML clause, with a read limit that does not cut the declaration
    (`lim = 0`, or `lim` at least the length of white space + declaration): the examined header
    `header doc lim` is free of binary-data bytes; same three outcomes, the verdicts being those on the
    examined header -/
theorem xml_charset_detected_lim (lead S L tail rest : Bytes) (q lim : Nat)
    (hlead : ∀ c ∈ lead, isWS c = true) (hq : q = 0x22 ∨ q = 0x27)
    (hS : ∀ c ∈ S, isXmlSpace c = true)
    (hL : ∀ c ∈ L, MT.isTokenChar c = true ∧ c ≠ 0x27) (hne : L ≠ []) (ht : TailForm tail)
    (hlim : lim = 0 ∨ declEnd lead S L tail q ≤ lim)
    (htext : Cust.text (header (xmlDoc lead S L tail rest q) lim) = true) :
    let doc := xmlDoc lead S L tail rest q
    ((Mime.detect Closed.ext Gen.builtin doc lim).chain.head? = some xmlNode.info ∧
      (Mime.detect Closed.ext Gen.builtin doc lim).charset = lowerASCII L ∧
      ∀ c ∈ xmlNode.children, accepts Closed.ext (header doc lim) lim c.info = false) ∨
    (∃ c ∈ xmlNode.children, accepts Closed.ext (header doc lim) lim c.info = true ∧
      (Mime.detect Closed.ext Gen.builtin doc lim).chain.head? = some c.info ∧
      (Mime.detect Closed.ext Gen.builtin doc lim).charset = []) ∨
    (∃ d ∈ rivals xmlPath Gen.builtin, d.info.name ∈ xmlRivalsLeft ∧
      accepts Closed.ext (header doc lim) lim d.info = true) := by
  intro doc
  obtain ⟨rest', hr⟩ := DetectSound.header_keeps_prefix (xmlDoc lead S L tail [] q) rest lim hlim
  rw [← xmlDoc_append, ← xmlDoc_append] at hr
  exact xml_outcome_of_header doc lim lead S L tail rest' q hlead hq hS hL hne ht hr htext

/-- mime type of the reported leaf and charset parameter -/
def leafOf (x : Bytes) (lim : Nat) : Option Bytes × Bytes :=
  ((Closed.detect x lim).chain.head?.map (·.mime), (Closed.detect x lim).charset)

def declIso : String := "<?xml version=\"1.0\" encoding=\"ISO-8859-2\"?>"

/- `<?xml version="1.0" encoding="ISO-8859-2"?><a/>` → text/xml; charset=iso-8859-2 -/
example : leafOf (ofString (declIso ++ "<a/>")) 0 = (some mimeTextXml, ofString "iso-8859-2") := by
  simp only [declIso, String.reduceAppend]
  repeat rw [ofString_ofList]
  decide +kernel
example : ofString (declIso ++ "<a/>") = xmlDoc [] [0x20] (ofString "ISO-8859-2") [] (ofString "<a/>") 0x22 := by
  simp only [declIso, String.reduceAppend]
  repeat rw [ofString_ofList]
  decide +kernel

/- the same with leading `\n  ` -/
example : leafOf (ofString ("\n  " ++ declIso ++ "<a/>")) 0 = (some mimeTextXml, ofString "iso-8859-2") := by
  simp only [declIso, String.reduceAppend]
  repeat rw [ofString_ofList]
  decide +kernel
example : ofString ("\n  " ++ declIso ++ "<a/>") =
    xmlDoc [0x0A, 0x20, 0x20] [0x20] (ofString "ISO-8859-2") [] (ofString "<a/>") 0x22 := by
  simp only [declIso, String.reduceAppend]
  repeat rw [ofString_ofList]
  decide +kernel

/- single quotes and a standalone pseudo-attribute -/
example : leafOf (ofString "<?xml version='1.0' encoding='koi8-r' standalone='yes'?>\n<root/>") 0 =
    (some mimeTextXml, ofString "koi8-r") := by
  repeat rw [ofString_ofList]
  decide +kernel
example : ofString "<?xml version='1.0' encoding='koi8-r' standalone='yes'?>\n<root/>" =
    xmlDoc [] [0x20] (ofString "koi8-r") ([0x20] ++ kwStandaloneEq ++ [0x27] ++ vYes ++ [0x27] ++ [])
      (ofString "\n<root/>") 0x27 := by
  repeat rw [ofString_ofList]
  decide +kernel
example : TailForm ([0x20] ++ kwStandaloneEq ++ [0x27] ++ vYes ++ [0x27] ++ []) :=
  .standalone [0x20] [] vYes 0x27 (by decide) (by decide) (Or.inr rfl) (Or.inl rfl)

/- second outcome: a child of the `xml` node accepts — application/rss+xml, no charset parameter -/
example : leafOf (ofString "<?xml version=\"1.0\" encoding=\"utf-8\"?><rss>") 0 =
    (some (ofString "application/rss+xml"), []) := by
  repeat rw [ofString_ofList]
  decide +kernel

/- third outcome: two of the four remaining rivals accepting a document of this shape: svg, and mobi
   (`BOOKMOBI` at offset 60) -/
example : leafOf (ofString (declIso ++ "<svg/>")) 0 = (some (ofString "image/svg+xml"), []) := by
  simp only [declIso, String.reduceAppend]
  repeat rw [ofString_ofList]
  decide +kernel
example : leafOf (ofString (declIso ++ "<!-- xxxxxxxxxxxxBOOKMOBI -->")) 0 =
    (some (ofString "application/x-mobipocket-ebook"), []) := by
  simp only [declIso, String.reduceAppend]
  repeat rw [ofString_ofList]
  decide +kernel

/- with a limit behind the declaration the label is still reported (`xml_charset_detected_lim`):
   the two-byte character is cut in half by the limit -/
example : leafOf (ofString declIso ++ [0xC5, 0x91]) 44 = (some mimeTextXml, ofString "iso-8859-2") := by
  simp only [declIso, String.reduceAppend]
  repeat rw [ofString_ofList]
  decide +kernel

/- what the hypotheses exclude.
   A limit INSIDE the declaration: the `XML` check needs only `<?xml `, the decoder reaches the end of
   the header before `?>`, the declaration is lost and the bytes are sniffed:
   text/xml; charset=utf-8 for a document that declares ISO-8859-2 -/
example : leafOf (ofString (declIso ++ "<a/>")) 20 = (some mimeTextXml, ofString "utf-8") := by
  simp only [declIso, String.reduceAppend]
  repeat rw [ofString_ofList]
  decide +kernel

/- a TAB (or line break) instead of the space after `<?xml` — legal XML — is not text/xml at all:
   `markupCheck` wants a space or `>` after the signature -/
example : leafOf (ofString "<?xml\tversion=\"1.0\" encoding=\"ISO-8859-2\"?><a/>") 0 =
    (some mimeTextPlain, ofString "utf-8") := by
  repeat rw [ofString_ofList]
  decide +kernel

/- the one difference between what the detector skips and what the charset code strips: a UTF-8 BOM.
   `markup` skips it, `fromXML` does not (the decoder then sees character data, not a declaration), and
   `FromPlain` answers from the BOM: text/xml; charset=utf-8, the declared label is ignored -/
example : leafOf ([0xEF, 0xBB, 0xBF] ++ ofString (declIso ++ "<a/>")) 0 = (some mimeTextXml, ofString "utf-8") := by
  simp only [declIso, String.reduceAppend]
  repeat rw [ofString_ofList]
  decide +kernel

end Mime.C12
