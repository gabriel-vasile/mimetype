import MimeModel.Model.Reader
import MimeModel.Model.Detect
/-
  C05 — bytes, reader and file entry points agree; reads stop at the limit; errors surface.
  Quantified over every reader script: any chunking (including zero-length reads), data
  returned together with EOF, an injected sentinel error at any offset.
-/
namespace Mime.C05
open Mime Mime.Reader

theorem read_le (s : Script) (st : RState) (k : Nat) : (Reader.read s st k).1 ≤ k := by
  unfold Reader.read
  split
  · simp
  · split
    · simp
    · simp only [readD]; omega

theorem readFullLoop_le (s : Script) (l : Nat) : ∀ (fuel : Nat) (st : RState) (n : Nat), n ≤ l →
    (readFullLoop s fuel st n l).1 ≤ l := by
  intro fuel
  induction fuel with
  | zero => intro st n h; simpa [readFullLoop] using h
  | succ f ih =>
    intro st n h
    simp only [readFullLoop]
    split
    · exact h
    · rename_i hn
      have hk := read_le s st (l - n)
      split
      · rename_i d e st' heq
        have : d ≤ l - n := by rw [heq] at hk; exact hk
        simp; omega
      · rename_i d st' heq
        have : d ≤ l - n := by rw [heq] at hk; exact hk
        exact ih st' (n + d) (by omega)

/-- **reads stop at the limit**: with a limit, `DetectReader` (`io.ReadFull` into a `limit`-sized
    buffer) never takes more than `limit` bytes from the reader, for every script -/
theorem reader_consumes_le (s : Script) (lim : Nat) (h : lim ≠ 0) :
    (detectReaderInput s lim).2 ≤ lim := by
  unfold detectReaderInput
  have h0 : (lim == 0) = false := by simpa using h
  simp only [h0, Bool.false_eq_true, ↓reduceIte]
  have hle : (readFull s lim).1 ≤ lim := by
    unfold readFull
    have := readFullLoop_le s lim (s.chunks.length + s.content.length + 2) { pos := 0, chunks := s.chunks } 0 (Nat.zero_le _)
    generalize readFullLoop s _ _ 0 lim = r at this
    obtain ⟨n, e⟩ := r
    simp only
    split <;> simpa using this
  generalize readFull s lim = r at hle
  obtain ⟨n, e⟩ := r
  cases e with
  | none => simpa using hle
  | some e => cases e <;> simpa using hle

/-- the script delivers its data up to offset `H` (the end of the data, or the failure offset) and
    answers every `Read` at `H` with `e` -/
structure Stops (s : Script) (H : Nat) (e : RErr) : Prop where
  le : H ≤ s.content.length
  avail : ∀ pos, pos < H → avail s pos = H - pos
  clear : ∀ pos, pos < H → s.errAt ≠ some pos
  stop : ∀ (st : RState) (k : Nat), st.pos = H → Reader.read s st k = (0, some e, st)
  eof : H = s.content.length → e = .eof

theorem stops_noerr (s : Script) (hs : s.errAt = none) : Stops s s.content.length .eof where
  le := Nat.le_refl _
  avail := fun pos _ => by simp [Reader.avail, hs]
  clear := fun pos _ => by simp [hs]
  stop := fun st k hp => by unfold Reader.read; simp [hs, hp]
  eof := fun _ => rfl

theorem stops_err (s : Script) (k : Nat) (hs : s.errAt = some k) (hk : k < s.content.length) : Stops s k .sentinel where
  le := Nat.le_of_lt hk
  avail := fun pos hp => by
    simp only [Reader.avail, hs]
    rw [if_pos (by omega)]
    omega
  clear := fun pos hp => by rw [hs]; simp; omega
  stop := fun st n hp => by unfold Reader.read; simp [hs, hp]
  eof := fun h => by omega

/-- one `Read` below `H` delivers `d ≤ k` bytes without passing `H`, reports an error only on reaching
    `H`, and lowers the measure (chunks left + bytes to `H`) on which the two loops below recurse -/
theorem read_below (s : Script) (H : Nat) (e : RErr) (h : Stops s H e) (st : RState) (k : Nat) (hk : 0 < k)
    (hp : st.pos < H) :
    ∃ d st', (Reader.read s st k = (d, none, st') ∨ (Reader.read s st k = (d, some e, st') ∧ st'.pos = H)) ∧
      st'.pos = st.pos + d ∧ st'.pos ≤ H ∧ d ≤ k ∧
      st'.chunks.length + (H - st'.pos) < st.chunks.length + (H - st.pos) := by
  have hH := h.le
  have hav := h.avail st.pos hp
  have hd1 : readD s st k ≤ k := by simp only [readD]; omega
  have hd2 : readD s st k ≤ H - st.pos := by simp only [readD, hav]; omega
  have hmeas : (chunkOf st k).2.length + (H - (st.pos + readD s st k)) < st.chunks.length + (H - st.pos) := by
    cases hc : st.chunks with
    | nil =>
      have : readD s st k = min k (H - st.pos) := by simp [readD, chunkOf, hc, hav]
      simp only [chunkOf, hc, List.length_nil]; omega
    | cons c cs => simp only [chunkOf, hc, List.length_cons]; omega
  unfold Reader.read
  have h1 : (s.errAt == some st.pos) = false := by simpa using h.clear st.pos hp
  have h2 : ¬ (st.pos ≥ s.content.length) := by omega
  simp only [h1, Bool.false_eq_true, ↓reduceIte, h2]
  by_cases hc : (s.eofWithData && decide (readD s st k > 0) && (st.pos + readD s st k == s.content.length) &&
      (s.errAt != some (st.pos + readD s st k))) = true
  · have hend : st.pos + readD s st k = s.content.length := by
      simp only [Bool.and_eq_true, beq_iff_eq] at hc; exact hc.1.2
    have hHe : H = s.content.length := by omega
    refine ⟨readD s st k, { pos := st.pos + readD s st k, chunks := (chunkOf st k).2 }, Or.inr ⟨?_, ?_⟩, rfl, ?_, hd1, hmeas⟩
    · simp only [hc, ↓reduceIte, h.eof hHe]
    · simp only; omega
    · simp only; omega
  · refine ⟨readD s st k, { pos := st.pos + readD s st k, chunks := (chunkOf st k).2 }, Or.inl ?_, rfl, ?_, hd1, hmeas⟩
    · simp only [hc, Bool.false_eq_true, ↓reduceIte]
    · simp only; omega

theorem readFullLoop_stops (s : Script) (H : Nat) (e : RErr) (h : Stops s H e) (l : Nat) :
    ∀ (fuel : Nat) (st : RState), st.pos ≤ H → st.pos ≤ l → st.chunks.length + (H - st.pos) + 2 ≤ fuel →
      ∃ r, readFullLoop s fuel st st.pos l = (min l H, r) ∧ (H < l → r = some e) ∧ (r = none ∨ r = some e) := by
  intro fuel
  induction fuel with
  | zero => intro st _ _ h; omega
  | succ f ih =>
    intro st hp hl hf
    simp only [readFullLoop]
    by_cases hn : st.pos ≥ l
    · rw [if_pos hn]
      exact ⟨none, by rw [show min l H = st.pos by omega], fun _ => by omega, Or.inl rfl⟩
    rw [if_neg hn]
    by_cases hend : st.pos = H
    · rw [h.stop st _ hend]
      exact ⟨some e, by rw [show min l H = st.pos + 0 by omega], fun _ => rfl, Or.inr rfl⟩
    · obtain ⟨d, st', hr, hpos, hle, hdk, hmeas⟩ := read_below s H e h st (l - st.pos) (by omega) (by omega)
      rcases hr with h1 | ⟨h2, hH⟩
      · rw [h1]
        have := ih st' hle (by omega) (by omega)
        rw [hpos] at this
        exact this
      · rw [h2]
        exact ⟨some e, by rw [show min l H = st.pos + d by omega], fun _ => rfl, Or.inr rfl⟩

theorem readAllLoop_stops (s : Script) (H : Nat) (e : RErr) (h : Stops s H e) :
    ∀ (fuel : Nat) (st : RState), st.pos ≤ H → st.chunks.length + (H - st.pos) + 2 ≤ fuel →
      readAllLoop s fuel st st.pos = (H, if e = .eof then none else some .sentinel) := by
  intro fuel
  induction fuel with
  | zero => intro st _ h; omega
  | succ f ih =>
    intro st hp hf
    simp only [readAllLoop]
    by_cases hend : st.pos = H
    · rw [h.stop st _ hend, hend]
      cases e <;> rfl
    · obtain ⟨d, st', hr, hpos, hle, _, hmeas⟩ := read_below s H e h st (s.content.length + 1) (by omega) (by omega)
      rcases hr with h1 | ⟨h2, hH⟩
      · rw [h1]
        have := ih st' hle (by omega)
        rw [hpos] at this
        exact this
      · rw [h2, show H = st.pos + d by omega]
        cases e <;> rfl

theorem readAll_stops (s : Script) {H : Nat} {e : RErr} (h : Stops s H e) :
    readAll s = (H, if e = .eof then none else some .sentinel) :=
  readAllLoop_stops s H e h _ { pos := 0, chunks := s.chunks } (Nat.zero_le _) (by have := h.le; simp only; omega)

/-- **any chunking delivers the header, errors surface**: `io.ReadFull` ends with exactly
    `min limit H` bytes; when `H` comes before the limit it ends with `e` -/
theorem readFull_stops (s : Script) {H : Nat} {e : RErr} (h : Stops s H e) (l : Nat) :
    ∃ r, readFull s l = (min l H, r) ∧ (H < l → r = some e) ∧ (r = none ∨ r = some e) := by
  obtain ⟨r, hr, h1, h2⟩ := readFullLoop_stops s H e h l (s.chunks.length + s.content.length + 2)
    { pos := 0, chunks := s.chunks } (Nat.zero_le _) (Nat.zero_le _) (by have := h.le; simp only; omega)
  unfold readFull
  rw [hr]
  dsimp only
  split
  · exact ⟨none, rfl, fun _ => by omega, Or.inl rfl⟩
  · exact ⟨r, rfl, h1, h2⟩

/-- **C05 (agreement)**: for every error-free reader script — any chunking, short and
    zero-length reads, data returned together with EOF — `DetectReader` hands `match`
    exactly the bytes `Detect` would examine, so both report the same hierarchy -/
theorem reader_agrees (s : Script) (hs : s.errAt = none) (lim : Nat) :
    (detectReaderInput s lim).1 = some (header s.content lim) := by
  have hst := stops_noerr s hs
  unfold detectReaderInput header
  by_cases h0 : lim = 0
  · subst h0
    rw [readAll_stops s hst]
    simp
  · have hb : (lim == 0) = false := by simpa using h0
    obtain ⟨r, hr, _, h2⟩ := readFull_stops s hst lim
    rw [hr]
    rcases h2 with rfl | rfl
    · simp [hb, h0]
    · simp [hb, h0]

/-- same hierarchy through the reader as through the byte slice, for every tree and
    detector family -/
theorem reader_same_result (ext : Ext) (T : Tree Info) (s : Script) (hs : s.errAt = none) (lim : Nat) :
    ∃ h, (detectReaderInput s lim).1 = some h ∧
      (detect ext T h lim).chain = (detect ext T s.content lim).chain := by
  refine ⟨header s.content lim, reader_agrees s hs lim, ?_⟩
  simp [detect, header_idem]

/-- **C05 (errors surface)**: if the reader fails with an error other than end of input at
    offset `k`, before the end of the data and before the header is complete (no limit, or
    `k < limit`), then `DetectReader` returns `application/octet-stream` with that error
    (`none`), having consumed exactly the `k` bytes delivered before the failure — for every
    chunking of those bytes -/
theorem reader_error (s : Script) (k : Nat) (hs : s.errAt = some k) (hk : k < s.content.length) (lim : Nat)
    (hl : lim = 0 ∨ k < lim) : detectReaderInput s lim = (none, k) := by
  have hst := stops_err s k hs hk
  unfold detectReaderInput
  by_cases h0 : lim = 0
  · subst h0
    rw [readAll_stops s hst]
    rfl
  · have hb : (lim == 0) = false := by simpa using h0
    have hkl : k < lim := hl.resolve_left h0
    obtain ⟨r, hr, h1, _⟩ := readFull_stops s hst lim
    rw [hr, h1 hkl, Nat.min_eq_right (Nat.le_of_lt hkl), hb]
    rfl

/- non-vacuity: a script with zero-length reads, one-byte reads and EOF-with-data -/
example : detectReaderInput { content := [1, 2, 3, 4, 5], chunks := [0, 1, 0, 2], eofWithData := true, errAt := none } 4
    = (some [1, 2, 3, 4], 4) := by decide
example : detectReaderInput { content := [1, 2, 3, 4, 5], chunks := [2], eofWithData := false, errAt := some 3 } 0
    = (none, 3) := by decide

end Mime.C05
