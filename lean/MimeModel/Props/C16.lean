import MimeModel.Lemmas.JsonScanEq
/-
  C16 — nesting bombs cannot exhaust the stack.

  The Go scanner recurses only through consumeAny → consumeArray/consumeObject →
  consumeAny, incrementing `lvl` by one per nested container, and consumeAny returns at
  once when `lvl` exceeds the cap.  The model records (ghost field `maxLvl`) every `lvl`
  with which consumeAny is entered; `depth_bounded` shows it never exceeds cap+1,
  whatever the input and its length.  The remaining recursion of detection is the tree
  walk, bounded by the height of the tree.
-/
namespace Mime.C16
open Mime Mime.Json Mime.Gen.Json

/-- **regenerated obligation**: the pooled parser state is built with the cap installed,
    the cap is the constant 4096, nothing else ever assigns the field, and no parser
    state is constructed outside the pool constructor -/
theorem cap_installed :
    poolCtor = [("maxRecursion", "maxRecursion")] ∧ maxRecursion = 4096 ∧ capWrites = [] ∧
    parserStateLiterals = 1 := by decide

@[simp] theorem bump_ml (s : PState) (k : Nat) : (s.bump k).maxLvl = s.maxLvl := rfl
@[simp] theorem push_ml (s : PState) (k : Bytes) : (s.push k).maxLvl = s.maxLvl := rfl
@[simp] theorem pop_ml (s : PState) : s.pop.maxLvl = s.maxLvl := rfl
@[simp] theorem setFirst_ml (s : PState) (l t : Nat) : (s.setFirst l t).maxLvl = s.maxLvl := by
  unfold PState.setFirst; split <;> rfl
@[simp] theorem setQ_ml (s : PState) (q : Bool) : (s.setQ q).maxLvl = s.maxLvl := by
  unfold PState.setQ; split <;> rfl


theorem consumeSpace_ml (b : Bytes) (s : PState) : (consumeSpace b s).2.maxLvl = s.maxLvl := by
  induction b generalizing s with
  | nil => rfl
  | cons c cs ih => simp only [consumeSpace]; split <;> simp [ih]

theorem consumeConst_ml (b c : Bytes) (s : PState) : (consumeConst b c s).2.maxLvl = s.maxLvl := by
  induction c generalizing b s with
  | nil => cases b <;> rfl
  | cons x xs ih =>
    cases b with
    | nil => rfl
    | cons y ys => simp only [consumeConst]; split <;> simp [ih]

theorem consumeString_ml (b : Bytes) : ∀ (m : SMode) (s : PState), (consumeString m b s).2.maxLvl = s.maxLvl := by
  induction b with
  | nil => intro m s; cases m <;> rfl
  | cons c cs ih =>
    intro m s
    cases m with
    | norm =>
      simp only [consumeString]
      split
      · simp [ih]
      · split <;> simp [ih]
    | esc =>
      simp only [consumeString]
      split
      · simp [ih]
      · split <;> simp [ih]
    | hex k =>
      simp only [consumeString]
      split
      · split <;> simp [ih]
      · simp

theorem consumeNumber_ml (b : Bytes) : ∀ (m : NMode) (s : PState), (consumeNumber m b s).2.maxLvl = s.maxLvl := by
  induction b with
  | nil => intro m s; rfl
  | cons c cs ih =>
    intro m s
    simp only [consumeNumber]
    split <;> simp [ih]

theorem applyQuery_ml (q : Option Query) (v : Bytes) (s : PState) : (applyQuery q v s).maxLvl = s.maxLvl := by
  unfold applyQuery
  split
  · rfl
  · split <;> split <;> rfl

theorem finishAny_ml (q : Bool) (lvl t : Nat) {res : Option Bytes × PState} (M : Nat) (h : res.2.maxLvl ≤ M) :
    (finishAny q lvl t res).2.maxLvl ≤ M := by
  unfold finishAny
  split
  · simpa using h
  · simp only [consumeSpace_ml]; simpa using h

/-! The invariant `maxLvl ≤ M`, piece by piece along the decomposition of the three container
    scanners in Lemmas/JsonScanEq.lean. -/
section pieces
open Mime.JsonPrefix
variable {qs : List Query} {cap M : Nat}

/-- a scanner that keeps `maxLvl` below `M` -/
def Keeps (M : Nat) (G : Scan) : Prop := ∀ y s, s.maxLvl ≤ M → (G y s).2.maxLvl ≤ M

theorem spaceScan_keeps : Keeps M spaceScan := fun y s h => by
  simp only [spaceScan, consumeSpace_ml]; exact h

theorem Keeps.seq {G H : Scan} (hG : Keeps M G) (hH : Keeps M H) (y : Bytes) (s : PState) (h : s.maxLvl ≤ M) :
    (match G y s with
      | (some r, s') => H r s'
      | (none, s') => (none, s')).2.maxLvl ≤ M := by
  have := hG y s h
  generalize G y s = res at this
  obtain ⟨o, s'⟩ := res
  cases o with
  | none => exact this
  | some r => exact hH r s' this

section level
variable {f lvl : Nat} (hA : Keeps M (consumeAny qs cap f lvl)) (hL : Keeps M (arrayLoop qs cap f lvl))
  (hO : Keeps M (objectLoop qs cap f lvl))

include hL in
theorem arrAfter_keeps : Keeps M (arrAfter qs cap f lvl) := by
  intro y s h
  cases y with
  | nil => exact h
  | cons d ds =>
    simp only [arrAfter]
    split
    · exact hL ds s.bump h
    · split <;> exact h

include hA hL in
theorem arrHead_keeps : Keeps M (arrHead qs cap f lvl) := by
  intro y s h
  cases y with
  | nil => exact h
  | cons c cs =>
    simp only [arrHead]
    split
    · exact h
    · exact Keeps.seq hA (arrAfter_keeps hL) (c :: cs) s h

include hO in
theorem objAfterVal_keeps (qm : Option Query) (tag : Bytes) : Keeps M (objAfterVal qs cap f lvl qm tag) := by
  intro y s h
  have h7 : (applyQuery qm tag s).maxLvl ≤ M := by rw [applyQuery_ml]; exact h
  cases y with
  | nil => exact h7
  | cons g gs =>
    simp only [objAfterVal]
    split
    · exact hO gs _ h7
    · split <;> exact h7

include hA hO

theorem objValue_keeps (qm : Option Query) : Keeps M (objValue qs cap f lvl qm) := by
  intro y s h
  cases y with
  | nil => exact h
  | cons e es => exact Keeps.seq hA (fun r2 s6 => objAfterVal_keeps hO qm _ r2 s6) (e :: es) s h

theorem objColon_keeps (qm : Option Query) : Keeps M (objColon qs cap f lvl qm) := by
  intro y s h
  cases y with
  | nil => exact h
  | cons d ds =>
    simp only [objColon]
    split
    · exact h
    · exact Keeps.seq spaceScan_keeps (objValue_keeps hA hO qm) ds s.bump h

theorem objAfterKey_keeps (tag : Bytes) : Keeps M (objAfterKey qs cap f lvl tag) := fun y s h =>
  Keeps.seq spaceScan_keeps (objColon_keeps hA hO _) y (s.push tag.dropLast) h

theorem objHead_keeps : Keeps M (objHead qs cap f lvl) := by
  intro y s h
  cases y with
  | nil => exact h
  | cons c cs =>
    simp only [objHead]
    split
    · exact h
    split
    · exact h
    · exact Keeps.seq (fun y s h => by rw [consumeString_ml]; exact h) (fun r s2 => objAfterKey_keeps hA hO _ r s2) cs s.bump h

end level

theorem kindScan_keeps {f lvl : Nat} (hL : Keeps M (arrayLoop qs cap f (lvl + 1))) (hO : Keeps M (objectLoop qs cap f (lvl + 1)))
    (k : Kind) : Keeps M (kindScan qs cap f lvl k) := by
  intro y s h
  cases k with
  | str =>
    cases y with
    | nil => exact h
    | cons c cs => simp only [kindScan, consumeString_ml]; exact h
  | arr =>
    cases y with
    | nil => exact h
    | cons c cs =>
      simp only [kindScan]
      split
      · exact h
      · exact hL cs _ h
  | obj =>
    cases y with
    | nil => exact h
    | cons c cs => exact hO cs s.bump h
  | litT | litF | litN => simp only [kindScan, consumeConst_ml]; exact h
  | num => simp only [kindScan, consumeNumber_ml]; exact h

theorem anyHead_keeps {f lvl : Nat} (hL : Keeps M (arrayLoop qs cap f (lvl + 1))) (hO : Keeps M (objectLoop qs cap f (lvl + 1))) :
    Keeps M (anyHead qs cap f lvl) := by
  intro y s h
  cases y with
  | nil => exact h
  | cons c cs => exact finishAny_ml _ _ _ M (kindScan_keeps hL hO _ (c :: cs) s h)

end pieces

/-- all three mutually recursive scanner functions keep `maxLvl` below any bound `M ≥ cap+1`,
    provided they are entered with `lvl ≤ cap+1` -/
theorem depth_inv (qs : List Query) (cap : Nat) (hc : cap ≠ 0) (M : Nat) (hM : cap + 1 ≤ M) : ∀ fuel : Nat,
    (∀ lvl, lvl ≤ cap + 1 → Keeps M (consumeAny qs cap fuel lvl)) ∧
    (∀ lvl, lvl ≤ cap + 1 → Keeps M (arrayLoop qs cap fuel lvl)) ∧
    (∀ lvl, lvl ≤ cap + 1 → Keeps M (objectLoop qs cap fuel lvl)) := by
  intro fuel
  induction fuel with
  | zero => exact ⟨fun _ _ _ _ h => h, fun _ _ _ _ h => h, fun _ _ _ _ h => h⟩
  | succ f ih =>
    obtain ⟨ihA, ihL, ihO⟩ := ih
    refine ⟨?_, ?_, ?_⟩
    · intro lvl hl b s hs
      have hent : (s.enter lvl).maxLvl ≤ M := by simp only [PState.enter]; omega
      rw [JsonPrefix.consumeAny_eq]
      split
      · exact hent
      · rename_i hover
        -- not over the cap: the containers below are entered with `lvl + 1 ≤ cap + 1`
        have hlt : lvl ≤ cap := by
          simp only [Bool.and_eq_true, bne_iff_ne, ne_eq, decide_eq_true_eq, not_and, Nat.not_lt] at hover
          exact hover hc
        exact Keeps.seq spaceScan_keeps (anyHead_keeps (ihL (lvl + 1) (by omega)) (ihO (lvl + 1) (by omega))) b _ hent
    · intro lvl hl b s hs
      rw [JsonPrefix.arrayLoop_eq]
      exact Keeps.seq spaceScan_keeps (arrHead_keeps (ihA lvl hl) (ihL lvl hl)) b s hs
    · intro lvl hl b s hs
      rw [JsonPrefix.objectLoop_eq]
      exact Keeps.seq spaceScan_keeps (objHead_keeps (ihA lvl hl) (ihO lvl hl)) b s hs

/-- **C16 (depth bound)**: with a non-zero cap, `consumeAny` is never entered with `lvl`
    above cap+1 — for every input, of any length, with any query and from any state.  Each
    unit of `lvl` is two Go frames (consumeAny, consumeArray/consumeObject), so the stack
    used by the scanner is bounded by a constant that does not grow with the input. -/
theorem depth_bounded (qs : List Query) (cap : Nat) (hc : cap ≠ 0) (fuel : Nat) (raw : Bytes) (s0 : PState) :
    (consumeAny qs cap fuel 0 raw s0.reset).2.maxLvl ≤ cap + 1 :=
  (depth_inv qs cap hc (cap + 1) (Nat.le_refl _) fuel).1 0 (Nat.zero_le _) raw s0.reset (Nat.zero_le _)

/-- an entry above the cap returns at once: nothing is consumed, nothing is inspected -/
theorem over_cap_entry (qs : List Query) (cap : Nat) (hc : cap ≠ 0) (fuel lvl : Nat) (b : Bytes) (s : PState)
    (h : lvl > cap) : (consumeAny qs cap (fuel + 1) lvl b s).1 = none ∧ (consumeAny qs cap (fuel + 1) lvl b s).2.ib = s.ib := by
  simp only [consumeAny]
  have : (cap != 0 && decide (lvl > cap)) = true := by simp [hc, h]
  simp [this, PState.enter]

/- non-vacuity: at cap 2 a tower of three brackets enters level 3 = cap+1 and no more -/
example : (consumeAny [] 2 40 0 [0x5B, 0x5B, 0x5B, 0x5B, 0x5B, 0x5D, 0x5D, 0x5D, 0x5D, 0x5D] PState.fresh).2.maxLvl = 3 := by
  decide +kernel

end Mime.C16
