import MimeModel.Props.C03
import MimeModel.Lemmas.C19Base
import MimeModel.Lemmas.ZipLayout
/-
  C19 — zip-based formats are identified from their leading entry names: the verdicts of
  `zipContains`, on byte strings (Lemmas/C19Base.lean) and on the archive layout of Spec/Zip.lean
  (Lemmas/ZipLayout.lean).
-/
namespace Mime.C19
open Mime Mime.Tree Mime.Spec.Zip

/-- **C19 (converse)**: a positive `zipContains` verdict (hence an OOXML, JAR or APK verdict)
    implies that the marker occurs at a name position of the archive: at offset 30 of the
    file, or exactly 30 bytes after a local-header signature `PK\x03\x04` -/
theorem verdict_implies_marker (raw sig : Bytes) (mso : Bool) (h : zipContains raw sig mso = some true) :
    C19Base.AtNamePos raw sig := C19Base.verdict_implies_marker raw sig mso h

/-- **C19 (forward, first entry)**: an archive whose first entry name starts with the marker (at
    offset 30, as every zip writer places it) is accepted -/
theorem first_entry_marker (raw sig : Bytes) (mso : Bool) (hl : 30 ≤ raw.length)
    (hpk : hasPrefix raw pk34 = true)
    (h : hasPrefix (raw.drop 30) sig = true) : zipContains raw sig mso = some true :=
  C19Base.first_entry_marker raw sig mso hl hpk h

/-- JAR: first entry `META-INF/MANIFEST.MF` ⇒ the regenerated `Jar` check accepts -/
theorem jar_forward (raw : Bytes) (hl : 30 ≤ raw.length) (hpk : hasPrefix raw pk34 = true)
    (h : hasPrefix (raw.drop 30) C19Base.kManifest = true) :
    Cust.evalExpr Gen.d_Jar raw = some true := C19Base.jar_forward raw hl hpk h

/-- regenerated facts about tree.go: the children of the zip node in priority order (apk before
    jar), its type, and outside the zip subtree no detector of the shape `zipContains(…)` or
    `zipContains(…) || …` (the shapes of the OOXML, JAR and APK checks) -/
theorem tree_facts :
    (Gen.builtin.children.filter (fun c => c.info.name == "zip")).map (fun c => c.children.map (·.info.name)) =
      [["xlsx", "docx", "pptx", "epub", "odt", "ods", "odp", "odg", "odf", "odc", "sxc", "apk", "jar"]] ∧
    (Gen.builtin.children.filter (fun c => c.info.name == "zip")).map (·.info.mime) = [C19Base.mimeZip] ∧
    (Gen.builtin.children.filter (fun c => !(c.info.name == "zip"))).all (fun c =>
      (Tree.flatten c).all (fun i => match i.det with
        | .expr (.prim (.zipContains _ _)) => false
        | .expr (.or (.prim (.zipContains _ _)) _) => false
        | _ => true)) = true := C19Base.tree_facts

/-- every verdict of a zip child has `application/zip` as its parent: `C03.ancestors_accept` for
    this clause — whatever the walk reports below a node was reached through that node -/
theorem zip_child_parent (acc : Info → Bool) (a : Info) (cs : List (Tree Info)) (i : Info)
    (h : i ∈ (walk acc (.node a cs)).tail) : acc i = true := C03.ancestors_accept acc (.node a cs) i h

/-- **C19 (forward, entries 2..6, offsets as hypotheses)**: the first entry's name is not the
    marker (and, for the OOXML checks, is one of the names a package may start with); the second
    local header is the first signature at or after offset `compressedSize + 49`; from its name
    the marker is reached at once or through at most four further hops: then `zipContains`
    answers true -/
theorem zipContains_forward (raw sig : Bytes) (mso : Bool) (nh : Nat)
    (hlen : 0x1E ≤ raw.length) (hpk : hasPrefix raw pk34 = true)
    (hmso : mso = true → msoSkipFiles.any (fun sf => hasPrefix (raw.drop 0x1E) sf) = true)
    (hso : 0x1E + (u32le raw 18 + 49) % 4294967296 + nh ≤ raw.length)
    (hidx : indexOf pk34 (raw.drop ((u32le raw 18 + 49) % 4294967296)) = some nh)
    (hfin : hasPrefix (raw.drop (0x1E + (u32le raw 18 + 49) % 4294967296 + nh)) sig = true ∨
      ∃ n, n ≤ 4 ∧ C19Base.Chain raw sig (0x1E + (u32le raw 18 + 49) % 4294967296 + nh) n) :
    zipContains raw sig mso = some true :=
  C19Base.zipContains_forward raw sig mso nh hlen hpk hmso hso hidx hfin

/-- **C19 (forward, from the layout)**: an archive is the concatenation of its local entries
    (`PK\x03\x04`, 26 fixed header bytes, name, extra field, stored data, optional data descriptor)
    followed by the central directory.  If the entries in front of the marker entry contain no
    embedded `PK\x03\x04` (`Clean`), entries 2..j-1 have at least 26 bytes after their header
    (`Realistic`, the property's "entries of realistic length"), the marker entry is among
    entries 2..6, and the first hop lands inside entry 1 (`hfirst`), then `zipContains` answers
    true.  Every hypothesis is a statement about the list of entries; the offsets and the
    `indexOf` results that `zipContains_forward` takes as hypotheses are derived. -/
theorem layout_forward (e1 : Entry) (mid : List Entry) (em : Entry) (rest : List Entry)
    (tail sig : Bytes) (mso : Bool)
    (hwf : ∀ e ∈ e1 :: mid ++ [em], e.WF)
    (hclean : ∀ e ∈ e1 :: mid, e.Clean)
    (hreal : ∀ e ∈ mid, e.Realistic)
    (hmid : mid.length ≤ 4)
    (hfirst : e1.csizeField + 49 ≤ 30 + e1.name.length + e1.extra.length + e1.data.length + e1.desc.length)
    (hsmall : (archive (e1 :: mid ++ em :: rest) tail).length < 4294967296)
    (hmso : mso = true → msoSkipFiles.any (fun sf => hasPrefix e1.name sf) = true)
    (hmark : hasPrefix em.name sig = true) :
    zipContains (archive (e1 :: mid ++ em :: rest) tail) sig mso = some true :=
  Mime.ZipLayout.layout_forward e1 mid em rest tail sig mso hwf hclean hreal hmid hfirst hsmall hmso hmark

/-- OOXML packages: first entry `[Content_Types].xml` (19 bytes) whose size field is the stored
    size ⇒ the first hop lands exactly on the second header; any `mso`.  (`e1.desc = []` is the
    usual situation but is not needed: a descriptor only makes entry 1 longer, and the first hop
    still lands inside it.) -/
theorem ooxml_layout (e1 : Entry) (mid : List Entry) (em : Entry) (rest : List Entry)
    (tail sig : Bytes) (mso : Bool)
    (hwf : ∀ e ∈ e1 :: mid ++ [em], e.WF) (hclean : ∀ e ∈ e1 :: mid, e.Clean)
    (hreal : ∀ e ∈ mid, e.Realistic) (hmid : mid.length ≤ 4)
    (hname : e1.name = ofString "[Content_Types].xml") (hcsize : e1.csizeField = e1.data.length)
    (hsmall : (archive (e1 :: mid ++ em :: rest) tail).length < 4294967296)
    (hmark : hasPrefix em.name sig = true) :
    zipContains (archive (e1 :: mid ++ em :: rest) tail) sig mso = some true :=
  ZipLayout.layout_forward_core e1 mid em rest tail sig mso hwf hclean hreal hmid
    (ZipLayout.first_hop e1 (mid ++ em :: rest) tail (hwf e1 (by simp))
      (by rw [hname, ZipLayout.contentTypes_eq]; decide) (Or.inl hcsize) (fun _ => hsmall))
    (fun _ => by rw [hname]; exact ZipLayout.ct_skip) hmark

/-- streamed archives: size field 0 (sizes in a data descriptor) and at least 19 bytes of
    name + extra + data + descriptor in entry 1 -/
theorem descriptor_layout (e1 : Entry) (mid : List Entry) (em : Entry) (rest : List Entry)
    (tail sig : Bytes) (mso : Bool)
    (hwf : ∀ e ∈ e1 :: mid ++ [em], e.WF) (hclean : ∀ e ∈ e1 :: mid, e.Clean)
    (hreal : ∀ e ∈ mid, e.Realistic) (hmid : mid.length ≤ 4)
    (hcsize : e1.csizeField = 0)
    (hlen : 19 ≤ e1.name.length + e1.extra.length + e1.data.length + e1.desc.length)
    (hmso : mso = true → msoSkipFiles.any (fun sf => hasPrefix e1.name sf) = true)
    (hmark : hasPrefix em.name sig = true) :
    zipContains (archive (e1 :: mid ++ em :: rest) tail) sig mso = some true := by
  refine ZipLayout.layout_forward_core e1 mid em rest tail sig mso hwf hclean hreal hmid ?_ hmso hmark
  unfold ZipLayout.FirstHop
  rw [hcsize]
  omega

/- the four-entry package of Lemmas/ZipLayout.lean ([Content_Types].xml, _rels/.rels,
   docProps/app.xml, word/document.xml + central directory), by evaluation of the model -/
example : zipContains (archive [ZipLayout.ex1, ZipLayout.ex2, ZipLayout.ex3, ZipLayout.ex4] ZipLayout.exTail)
    C19Base.exWord true = some true := by decide +kernel

section
open Mime.ZipLayout Mime.C19Base

/-- all hypotheses of `ooxml_layout` hold for the four-entry package (marker `word/`, mso check on) -/
example : zipContains (archive (ex1 :: [ex2, ex3] ++ ex4 :: []) exTail) exWord true = some true :=
  ooxml_layout ex1 [ex2, ex3] ex4 [] exTail exWord true
    (by decide +kernel) (by decide +kernel) (by decide +kernel) (by decide) contentTypes_eq.symm
    (by decide +kernel) (by decide +kernel) (by decide +kernel)

/-- … and of `descriptor_layout`: a streamed first entry (size fields 0, 16-byte descriptor) -/
example : zipContains (archive (⟨exFixed 0 19, exContentTypes, [], List.replicate 5 120,
      [0x50, 0x4B, 7, 8, 0xDE, 0xAD, 0xBE, 0xEF, 5, 0, 0, 0, 5, 0, 0, 0]⟩ :: [ex2, ex3] ++ ex4 :: []) exTail)
    exWord true = some true :=
  descriptor_layout _ [ex2, ex3] ex4 [] exTail exWord true
    (by decide +kernel) (by decide +kernel) (by decide +kernel) (by decide) (by decide +kernel)
    (by decide +kernel) (by decide +kernel) (by decide +kernel)

end

end Mime.C19
