import MimeModel.Props.C06
/-
  C06, "each detection returns a result that a sequential execution would have returned for the
  set of extensions in force at some instant during the call": in the protocol model a thread
  that holds the read lock excludes every tree write, so all the tree reads of one detection (the
  whole walk happens between `RLock` and the deferred `RUnlock`: `api_events`) see one and the same
  state of the tree — the state at the instant the lock was acquired, an instant during the call.
-/
namespace Mime.C06
open Mime Mime.Sync

/-- **snapshot**: in every reachable state, if some thread holds the read lock then no thread's
    next step is a tree write (whoever is about to write must hold the write lock, and the write
    lock is never held together with a read lock) -/
theorem reader_excludes_writes (σ : State) (hI : Inv σ) (i j : Nat) (a b : Thread)
    (ha : σ.threads[i]? = some a) (hb : σ.threads[j]? = some b) (hr : a.holdsR = true)
    (x : Step) (xs : List Step) (hp : b.prog = x :: xs) : isTreeWrite x = false := by
  cases x with
  | treeWrite =>
    have hokb := hI.ok b (List.mem_of_getElem? hb)
    rw [hp] at hokb
    have := no_reader_beside_writer σ hI b a (List.mem_of_getElem? hb) (List.mem_of_getElem? ha)
      (holdsW_of_write hokb rfl)
    rw [hr] at this; cases this
  | _ => rfl

/-- the same along any schedule from the initial state of well-locked programs -/
theorem reader_excludes_writes_reachable (progs : List (List Step)) (h : ∀ p ∈ progs, okProg p false false = true)
    (sched : List Nat) (σ' : State)
    (hr : run { readers := 0, writer := false, threads := progs.map (fun p => Thread.mk p false false) } sched = some σ')
    (i j : Nat) (a b : Thread) (ha : σ'.threads[i]? = some a) (hb : σ'.threads[j]? = some b) (hra : a.holdsR = true)
    (x : Step) (xs : List Step) (hp : b.prog = x :: xs) : isTreeWrite x = false :=
  reader_excludes_writes σ' (inv_run _ σ' sched (inv_init progs h) hr) i j a b ha hb hra x xs hp

/-- regenerated: the whole tree walk of `Detect` / `DetectReader` / `Lookup` lies between acquiring the
    read lock and the deferred release (nothing touches the tree outside it) -/
theorem walk_inside_read_lock :
    (["Detect", "DetectReader", "Lookup"].all fun n =>
      match Gen.Sync.progs.lookup n with
      | some evs =>
        let steps := compile evs
        -- after dropping everything up to and including the rlock, and everything from the runlock on,
        -- the tree reads are all there are
        (steps.filter isTreeAccess).length == ((steps.dropWhile (· != .rlock)).takeWhile (· != .runlock) |>.filter isTreeAccess).length &&
        steps.contains .rlock && steps.getLast? == some .runlock
      | none => false) = true := by decide +kernel

end Mime.C06
