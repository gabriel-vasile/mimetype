import MimeModel.Lemmas.DetectPath
import MimeModel.Lemmas.DetectTie
import MimeModel.Spec.All
import MimeModel.Gen.Tree
/-
  C07 — text versus binary is decided by binary-data bytes (built-in tree).
-/
namespace Mime.C07
open Mime Mime.Tree Mime.Cust Mime.Spec

/-- the model's byte test is exactly the WHATWG list of 27 binary data bytes -/
theorem binaryByte_eq_list (b : Nat) : binaryByte b = binaryBytes.contains b := by
  by_cases h : b < 32
  · have : ∀ b < 32, binaryByte b = binaryBytes.contains b := by decide +kernel
    exact this b h
  · have h1 : binaryByte b = false := by
      simp [binaryByte]; omega
    have h2 : binaryBytes.contains b = false := by
      simp [binaryBytes]; omega
    rw [h1, h2]

theorem noBinary_eq (raw : Bytes) : (!raw.any binaryByte) = noBinary raw := by
  unfold noBinary
  induction raw with
  | nil => rfl
  | cons a as ih =>
    simp only [List.any_cons, List.all_cons, Bool.not_or, ih, binaryByte_eq_list]

/-- regenerated fact: the BOM table of charset.go is the five Unicode byte-order marks,
    each with a non-empty charset name -/
theorem boms_are_the_five :
    Gen.Charset.boms.map (·.1) = fiveBOMs ∧ Gen.Charset.boms.all (fun p => !p.2.isEmpty) = true := by
  decide +kernel

theorem fromBOMIn_ne_nil_iff {tbl : List (Bytes × Bytes)} (h : tbl.all (fun p => !p.2.isEmpty) = true) (raw : Bytes) :
    (Charset.fromBOMIn tbl raw != Charset.csNone) = (tbl.map (·.1)).any (fun b => hasPrefix raw b) := by
  induction tbl with
  | nil => simp [Charset.fromBOMIn, Charset.csNone]
  | cons p rest ih =>
    obtain ⟨bom, enc⟩ := p
    simp only [List.all_cons, Bool.and_eq_true] at h
    simp only [Charset.fromBOMIn, List.map_cons, List.any_cons]
    by_cases hp : hasPrefix raw bom = true
    · simp only [hp, ↓reduceIte, Bool.true_or]
      have : enc ≠ [] := by
        intro he; simp [he] at h
      simp [Charset.csNone, this]
    · have hp' : hasPrefix raw bom = false := by simpa using hp
      simp only [hp', Bool.false_eq_true, ↓reduceIte, Bool.false_or]
      exact ih h.2

/-- **C07 (a)**: `Text` accepts exactly the headers that start with a BOM or contain no
    binary data byte -/
theorem text_eq_spec (raw : Bytes) : Cust.text raw = (startsWithBOM raw || noBinary raw) := by
  have hb : (Charset.fromBOM raw != Charset.csNone) = startsWithBOM raw := by
    unfold Charset.fromBOM startsWithBOM
    rw [fromBOMIn_ne_nil_iff boms_are_the_five.2, boms_are_the_five.1]
  unfold Cust.text
  by_cases h : (Charset.fromBOM raw != Charset.csNone) = true
  · rw [if_pos h, ← hb, h]; rfl
  · have h' : (Charset.fromBOM raw != Charset.csNone) = false := by simpa using h
    rw [if_neg h, ← hb, h', Bool.false_or]
    exact noBinary_eq raw

/-- regenerated facts about tree.go: `text/plain` names exactly one node, it is the last
    child of the root, its detector is `Text`, and the root itself is not `text/plain` -/
theorem tree_facts :
    (Gen.builtin.flatten.filter (fun i => i.mime == mimeTextPlain)).map (·.name) = ["text"] ∧
    (Gen.builtin.children.getLast?.map (·.info.name)) = some "text" ∧
    Gen.builtin.flatten.all (fun i => !(i.mime == mimeTextPlain) || decide (i.det = .custom .text)) = true ∧
    (Gen.builtin.info.mime == mimeTextPlain) = false := by
  decide +kernel

/-- **C07 (b)**: `text/plain` anywhere in the reported hierarchy ⇒ the examined header
    starts with a BOM or has no binary data byte.  (Unmodelled detectors are arbitrary.) -/
theorem text_in_chain_only_if (ext : Ext) (x : Bytes) (lim : Nat)
    (h : ∃ i ∈ (detect ext Gen.builtin x lim).chain, i.mime = mimeTextPlain) :
    startsWithBOM (header x lim) = true ∨ noBinary (header x lim) = true := by
  obtain ⟨i, hi, hm⟩ := h
  obtain ⟨hdet, hacc⟩ := DetectSound.chain_kind ext Gen.builtin x lim (fun i => i.mime == mimeTextPlain)
    (fun i => decide (i.det = .custom .text)) tree_facts.2.2.1 tree_facts.2.2.2 i hi (beq_iff_eq.2 hm)
  rw [DetectPath.accepts_custom_total ext _ lim i .text (fun raw _ => Cust.text raw) (of_decide_eq_true hdet) rfl,
    text_eq_spec] at hacc
  exact Bool.or_eq_true_iff.1 hacc

/-- regenerated fact: the last child of the root is the `Text` check -/
theorem last_root_child_is_text :
    (Gen.builtin.children.getLast?.map (·.info.det)) = some (.custom .text) := by decide +kernel

/-- **C07 (c)**: every header that starts with a BOM or has no binary data byte
    (including the empty one) is classified below the root. -/
theorem textual_is_specific (ext : Ext) (x : Bytes) (lim : Nat)
    (h : startsWithBOM (header x lim) = true ∨ noBinary (header x lim) = true) :
    2 ≤ (detect ext Gen.builtin x lim).chain.length := by
  cases hl : Gen.builtin.children.getLast? with
  | none => have := last_root_child_is_text; rw [hl] at this; cases this
  | some t =>
    have hdet : t.info.det = .custom .text := by
      have := last_root_child_is_text; rw [hl] at this; exact Option.some.inj this
    have hacc : accepts ext (header x lim) lim t.info = true := by
      rw [DetectPath.accepts_custom_total ext _ lim t.info .text (fun raw _ => Cust.text raw) hdet rfl, text_eq_spec]
      exact Bool.or_eq_true_iff.2 h
    rw [DetectSound.chain_eq, List.length_reverse, walk_unfold, walkList_eq_find]
    cases hf : Gen.builtin.children.find? (fun c => accepts ext (header x lim) lim c.info) with
    | none => exact absurd hacc (List.find?_eq_none.1 hf t (List.mem_of_getLast? hl))
    | some c => rw [Option.elim_some, walk_unfold]; simp

/- non-vacuity: the empty header and a BOM-prefixed header with NUL bytes are textual;
   a lone NUL is not -/
example : (startsWithBOM [] || noBinary []) = true ∧
    (startsWithBOM [0xFF, 0xFE, 0, 0] || noBinary [0xFF, 0xFE, 0, 0]) = true ∧
    (startsWithBOM [0] || noBinary [0]) = false := by decide +kernel

/-- regenerated tie: `Detect` / `DetectReader` load the limit once, atomically (see Lemmas/DetectTie.lean) -/
theorem tie_single_limit : Mime.DetectTie.SingleLimit := Mime.DetectTie.single_limit

end Mime.C07
