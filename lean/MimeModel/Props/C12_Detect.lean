import MimeModel.Props.C08
import MimeModel.Lemmas.DetectText
import MimeModel.Model.Closed
import MimeModel.Props.C01
import MimeModel.Lemmas.HtmlUnescape
/-
  C12 through `Detect`, with the closed model (no oracle): a document `<html> P <meta charset=qLq> rest`
  that contains no binary-data byte and is examined in full is reported as `text/html` with the
  charset parameter `L` in lower case (utf-8 for utf-16 labels) — unless one of the root formats
  consulted before text/plain accepts it.
-/
namespace Mime.C12
open Mime Mime.Charset Mime.HtmlTok Mime.HtmlTokLemmas Mime.Tree Mime.WalkPath Mime.Cust
open Mime.DetectSound Mime.DetectPath Mime.DetectText

abbrev isNamed := C08.isNamed

def kHtml : Bytes := [0x68, 0x74, 0x6D, 0x6C]
def sigHTML : Bytes := [60, 72, 84, 77, 76]          -- "<HTML", as in the regenerated table

def htmlNode : Tree Info := (C08.textNode.children.find? (isNamed "html")).getD Gen.builtin
def htmlPath : List (Tree Info → Bool) := [isNamed "text", isNamed "html"]

/-- regenerated: below text/plain the html node exists, nothing is consulted before it, it is a leaf
    of type text/html and its check is the regenerated `HTML` table -/
theorem html_node :
    (C08.textNode.children.find? (isNamed "html")).isSome = true ∧
    (C08.textNode.children.takeWhile (fun x => !isNamed "html" x)) = [] ∧ htmlNode.children = [] ∧
    htmlNode.info.mime = mimeTextHtml ∧ htmlNode.info.det = Gen.d_HTML := by
  decide +kernel

theorem html_found : C08.textNode.children.find? (isNamed "html") = some htmlNode :=
  found _ html_node.1

theorem html_node_facts :
    (C08.textNode.children.takeWhile (fun x => !isNamed "html" x)) = [] ∧ htmlNode.children = [] ∧
    htmlNode.info.mime = mimeTextHtml ∧
    (∃ sigs, htmlNode.info.det = .markup sigs ∧ sigHTML ∈ sigs) :=
  ⟨html_node.2.1, html_node.2.2.1, html_node.2.2.2.1, _, html_node.2.2.2.2, by decide +kernel⟩

/-- no lower-case letter: the signatures are written in upper case -/
def noLowerB (s : Bytes) : Bool := s.all (fun b => !(0x61 ≤ b && b ≤ 0x7A))

theorem and_DF_upper : ∀ b ∈ List.range 0x5B, 0x41 ≤ b → (b &&& 0xDF = b ∧ (b + 0x20) &&& 0xDF = b) := by decide +kernel

theorem ci_byte (b d : Nat) (hb : ¬ (0x61 ≤ b ∧ b ≤ 0x7A))
    (h : (if (0x41 ≤ d && d ≤ 0x5A) = true then d + 0x20 else d) =
         (if (0x41 ≤ b && b ≤ 0x5A) = true then b + 0x20 else b)) :
    (if 0x41 ≤ b ∧ b ≤ 0x5A then d &&& 0xDF else d) = b := by
  by_cases hu : 0x41 ≤ b ∧ b ≤ 0x5A
  · have hb' : (0x41 ≤ b && b ≤ 0x5A) = true := by simp [hu]
    rw [if_pos hu]
    rw [if_pos hb'] at h
    obtain ⟨e1, e2⟩ := and_DF_upper b (List.mem_range.mpr (by omega)) hu.1
    split at h
    · have : d = b := by omega
      rw [this]; exact e1
    · rw [h]; exact e2
  · have hb' : ¬ ((0x41 ≤ b && b ≤ 0x5A) = true) := by simpa using hu
    rw [if_neg hu]
    rw [if_neg hb'] at h
    split at h
    · rename_i hd
      simp only [Bool.and_eq_true, decide_eq_true_eq] at hd
      omega
    · exact h

theorem ciMatch_lower (sig x tail : Bytes) (hsig : noLowerB sig = true) (h : lowerASCII x = lowerASCII sig) :
    ciMatch sig (x ++ tail) = some true := by
  induction sig generalizing x with
  | nil => simp [ciMatch]
  | cons b bs ih =>
    cases x with
    | nil => simp [lowerASCII] at h
    | cons d ds =>
      simp only [lowerASCII, List.map_cons, List.cons.injEq] at h
      simp only [noLowerB, List.all_cons, Bool.and_eq_true, Bool.not_eq_true', Bool.and_eq_false_iff,
        decide_eq_false_iff_not] at hsig
      have hb : ¬ (0x61 ≤ b ∧ b ≤ 0x7A) := by
        rcases hsig.1 with h1 | h1 <;> omega
      simp only [List.cons_append, ciMatch]
      rw [ci_byte b d hb h.1]
      simp only [bne_self_eq_false, Bool.false_eq_true, ↓reduceIte]
      exact ih ds hsig.2 h.2

theorem getB_at_length (x : Bytes) (c : Nat) (tail : Bytes) : getB (x ++ c :: tail) x.length = some c := by
  rw [getB_isSome (by simp)]
  induction x with
  | nil => rfl
  | cons a as ih => simp

theorem markupCheck_lower (sig x : Bytes) (c : Nat) (tail : Bytes) (hsig : noLowerB sig = true)
    (h : lowerASCII x = lowerASCII sig) (hc : c = 0x3E ∨ c = 0x20) :
    markupCheck sig (x ++ c :: tail) = some true := by
  have hlen : x.length = sig.length := by
    have := congrArg List.length h
    simpa [lowerASCII] using this
  unfold markupCheck
  have hl : ¬ (x ++ c :: tail).length < sig.length + 1 := by
    simp [hlen]
  rw [if_neg hl, ciMatch_lower sig x (c :: tail) hsig h]
  simp only
  rw [← hlen, getB_at_length]
  rcases hc with rfl | rfl <;> rfl

theorem anyG_true {α} (f : α → Option Bool) (l : List α) (htot : ∀ a ∈ l, ∃ v, f a = some v)
    (a : α) (ha : a ∈ l) (hf : f a = some true) : anyG f l = some true := by
  induction l with
  | nil => cases ha
  | cons x xs ih =>
    simp only [anyG]
    obtain ⟨v, hv⟩ := htot x (by simp)
    rw [hv]
    cases v with
    | true => rfl
    | false =>
      simp only
      rcases List.mem_cons.mp ha with rfl | hm
      · rw [hf] at hv; cases hv
      · exact ih (fun y hy => htot y (by simp [hy])) hm

/-- the `HTML` check accepts a document that starts with `<html>` or `<html ` in any letter case -/
theorem html_accepts (ext : Ext) (nm tail : Bytes) (c : Nat) (lim : Nat)
    (hnm : lowerASCII nm = kHtml) (hc : c = 0x3E ∨ c = 0x20) :
    accepts ext (0x3C :: nm ++ c :: tail) lim htmlNode.info = true := by
  obtain ⟨_, _, _, sigs, hdet, hmem⟩ := html_node_facts
  have hone : markupCheck sigHTML (0x3C :: nm ++ c :: tail) = some true :=
    markupCheck_lower sigHTML (0x3C :: nm) c tail (by decide) (congrArg (0x3C :: ·) hnm) hc
  rw [accepts_det ext _ lim _ hdet, detEval, Det.evalWith]
  -- no BOM and no leading white space in front of `<`
  show (anyG (fun s => markupCheck s (0x3C :: nm ++ c :: tail)) sigs == some true) = true
  rw [anyG_true _ sigs (fun a _ => C01.markupCheck_total a _) sigHTML hmem hone]
  rfl

theorem tagText_bare (nm r : Bytes) : tagText nm [] [] ++ r = 0x3C :: nm ++ 0x3E :: r := by
  simp [tagText, attrsText]

/-- **C12 through `Detect`** (closed model): `<html> P <meta charset=qLq> rest`, free of binary-data
    bytes, examined in full (character references anywhere outside the label are decoded by the tokenizer
    model and do not reach the answer): the result is `text/html` with
    `charset = L` lower-cased (utf-8 for utf-16 labels), unless a root format in front of
    text/plain accepts the document -/
theorem html_charset_detected (htmlNm P nm cs : Bytes) (form : ValForm) (L rest : Bytes) (lim : Nat)
    (hh : lowerASCII htmlNm = kHtml) (hP : Prologue P)
    (hnm : lowerASCII nm = kMeta) (hcs : lowerASCII cs = kwCharset)
    (hL : L ≠ []) (htok : ∀ c ∈ L, tokenChar c = true)
    (htext : Cust.text (tagText htmlNm [] [] ++ P ++ tagText nm [0x20] [charsetAttr cs form L []] ++ rest) = true)
    (hwhole : lim = 0 ∨ (tagText htmlNm [] [] ++ P ++ tagText nm [0x20] [charsetAttr cs form L []] ++ rest).length < lim) :
    let doc := tagText htmlNm [] [] ++ P ++ tagText nm [0x20] [charsetAttr cs form L []] ++ rest
    ((Mime.detect Closed.ext Gen.builtin doc lim).chain.head? = some htmlNode.info ∧
      (Mime.detect Closed.ext Gen.builtin doc lim).charset = norm L) ∨
    (∃ d ∈ rivals htmlPath Gen.builtin, accepts Closed.ext doc lim d.info = true) := by
  intro doc
  have hhdr : header doc lim = doc := header_whole doc lim (hwhole.imp_right Nat.le_of_lt)
  have hshape : doc = 0x3C :: htmlNm ++
      0x3E :: (P ++ (tagText nm [0x20] [charsetAttr cs form L []] ++ rest)) := by
    rw [← tagText_bare, ← List.append_assoc, ← List.append_assoc]
  have hne : htmlNm ≠ [] := by rintro rfl; cases hh
  have hP' : Prologue (tagText htmlNm [] [] ++ P) :=
    Prologue.startTag htmlNm [] [] P hne (letters_of_lower htmlNm kHtml hh (by decide)) (by rw [hh]; decide)
      (by rw [hh]; decide) (by intro x hx; cases hx) (fun _ => rfl) (by simp [attrsWf]) hP
  have hbom : fromBOM doc = csNone := by
    rw [hshape]
    exact fromBOM_lt _
  have hb : fromHTMLBytesFull doc = norm L :=
    Mime.HtmlUnescapeLemmas.charset_value_unescaped_simple (tagText htmlNm [] [] ++ P) nm cs form L rest hP'
      hnm hcs hL htok hbom
  have hacc_html : accepts Closed.ext doc lim htmlNode.info = true := by
    rw [hshape]
    exact html_accepts Closed.ext htmlNm _ 0x3E lim hh (Or.inl rfl)
  obtain ⟨_, hchildless, hmime, _⟩ := html_node_facts
  refine (detect_along_childless Closed.ext Gen.builtin doc lim htmlPath htmlNode (descend_text html_found)
    ?_ hchildless).imp (fun h => ?_) (fun ⟨d, hd, ha⟩ => ⟨d, hd, hhdr ▸ ha⟩)
  · rw [hhdr]
    exact accepted_text Closed.ext doc lim html_found htext hacc_html
  · rw [h.1, h.2, hhdr, hmime, charsetFor_html]
    exact ⟨rfl, hb⟩

end Mime.C12
