import MimeModel.Model.MediaType
import MimeModel.Lemmas.MediaType
import MimeModel.Lemmas.TreeLookup
import MimeModel.Model.Tree
import MimeModel.Gen.Tree
/-
  C15 — equality helpers ignore case, white space and parameters and know aliases.
-/
namespace Mime.C15
open Mime Mime.Tree Mime.MT

/-- model of `(*MIME).Is` -/
def isM (i : Info) (s : Bytes) : Bool := typeOf s == typeOf i.mime || i.aliases.contains (typeOf s)
/-- model of `EqualsAny` -/
def equalsAny (s : Bytes) (ms : List Bytes) : Bool := ms.any (fun m => typeOf s == typeOf m)

/-- `Is` depends on its argument only through the normalised type -/
theorem is_by_type (i : Info) (s s' : Bytes) (h : typeOf s = typeOf s') : isM i s = isM i s' := by
  simp [isM, h]

theorem equalsAny_by_type (s s' : Bytes) (ms : List Bytes) (h : typeOf s = typeOf s') :
    equalsAny s ms = equalsAny s' ms := by
  simp [equalsAny, h]

/-- `m.Is(s)` holds exactly when the normalised `s` is m's type or one of its aliases
    (for nodes whose own type is normalised, which `registered_resolve` establishes) -/
theorem is_iff (i : Info) (hn : typeOf i.mime = i.mime) (s : Bytes) :
    isM i s = true ↔ typeOf s = i.mime ∨ typeOf s ∈ i.aliases := by
  simp [isM, hn]

/-- the test `lookup` is called with in `registered_resolve`: node `j` carries the name `n` -/
theorem carries_iff (j : Info) (n : Bytes) :
    (j.mime == n || j.aliases.contains n) = true ↔ n ∈ j.mime :: j.aliases := by
  rw [Bool.or_eq_true, beq_iff_eq, List.contains_iff_mem, List.mem_cons, eq_comm]

theorem isM_of_carries (j : Info) (n : Bytes) (hn : typeOf n = n) (hj : typeOf j.mime = j.mime)
    (h : (j.mime == n || j.aliases.contains n) = true) : isM j n = true := by
  unfold isM
  rw [hn, hj, BEq.comm]
  exact h

theorem lower_sp (w : Bytes) (h : ∀ c ∈ w, isSp c = true) : lower w = w := by
  apply lower_id
  intro c hc hcase
  have := h c hc
  simp only [isSp, Bool.or_eq_true, beq_iff_eq] at this
  omega

theorem no_semi_of_lower (t m : Bytes) (h : lower t = m) (hm : ∀ c ∈ m, c ≠ 0x3B) : ∀ c ∈ t, c ≠ 0x3B := by
  intro c hc e
  subst e
  have : (0x3B : Nat) ∈ m := by
    rw [← h]
    simp only [lower, List.mem_map]
    exact ⟨0x3B, hc, by decide⟩
  exact hm _ this rfl

theorem sp_not_semi (w : Bytes) (h : ∀ c ∈ w, isSp c = true) : ∀ c ∈ w, c ≠ 0x3B := by
  intro c hc e
  subst e
  exact absurd (h _ hc) (by decide)

/-- **decorations do not matter**: blanks around the name, any letter case, and any parameter
    list that `ParseMediaType` does not reject as a duplicate leave the normalised type unchanged -/
theorem typeOf_decorated (m maj sub t w1 w2 rest : Bytes) (hm : TypeOK m maj sub) (ht : lower t = m)
    (h1 : ∀ c ∈ w1, isSp c = true) (h2 : ∀ c ∈ w2, isSp c = true)
    (hrest : rest = [] ∨ ∃ r, rest = 0x3B :: r) :
    typeOf (w1 ++ t ++ w2 ++ rest) = m ∨ (parse (w1 ++ t ++ w2 ++ rest)).2.2 = .duplicate := by
  have hbase : ∀ c ∈ w1 ++ t ++ w2, c ≠ 0x3B :=
    List.forall_mem_append.mpr ⟨List.forall_mem_append.mpr ⟨sp_not_semi w1 h1, no_semi_of_lower t m ht hm.no_semi⟩,
      sp_not_semi w2 h2⟩
  have hmt : trim (lower (w1 ++ t ++ w2)) = m := by
    rw [lower_append, lower_append, lower_sp w1 h1, lower_sp w2 h2, ht, trim_pad w1 m w2 h1 h2, hm.trim_eq]
  have hcut := cutSemi_split (w1 ++ t ++ w2) rest hbase hrest
  have := typeOf_of_cut hcut (by rw [hmt]; exact checkType_ok m maj sub hm)
  rwa [hmt] at this

/-- Bool version of `TypeOK` -/
def typeOKb (m : Bytes) : Bool :=
  match cutSlash m with
  | some (a, b) => isToken a && isToken b && lower a == a && lower b == b
  | none => false

theorem typeOK_of_b (m : Bytes) (h : typeOKb m = true) : ∃ maj sub, TypeOK m maj sub := by
  unfold typeOKb at h
  cases hc : cutSlash m with
  | none => simp [hc] at h
  | some p =>
    obtain ⟨a, b⟩ := p
    simp only [hc, Bool.and_eq_true, beq_iff_eq] at h
    exact ⟨a, b, ⟨hc, h.1.1.1, h.1.1.2, h.1.2, h.2⟩⟩

/-- **regenerated obligation**: every registered type and alias is a lower-case `token/token` -/
theorem registered_typeOK :
    Gen.builtin.flatten.all (fun i => (i.mime :: i.aliases).all typeOKb) = true := by
  decide +kernel

theorem registered_ok (i : Info) (hi : i ∈ Gen.builtin.flatten) (n : Bytes) (hn : n ∈ i.mime :: i.aliases) :
    ∃ maj sub, TypeOK n maj sub :=
  typeOK_of_b n (List.all_eq_true.mp (List.all_eq_true.mp registered_typeOK i hi) n hn)

theorem registered_typeOf (i : Info) (hi : i ∈ Gen.builtin.flatten) (n : Bytes) (hn : n ∈ i.mime :: i.aliases) :
    typeOf n = n := by
  obtain ⟨maj, sub, hok⟩ := registered_ok i hi n hn
  exact congrArg Prod.fst (parse_typeOK n maj sub hok)

/-- **regenerated obligation**: every registered type and alias is normalised (lower case,
    no parameters: `typeOf` is the identity on it) and resolves through `lookup` to a node that
    `Is` that name -/
theorem registered_resolve :
    Gen.builtin.flatten.all (fun i => (i.mime :: i.aliases).all (fun n =>
      decide (typeOf n = n) &&
      (match Gen.builtin.lookup (fun j => j.mime == n || j.aliases.contains n) with
       | some path => (path.getLast?.map (fun j => isM j n)) == some true
       | none => false))) = true := by
  rw [List.all_eq_true]
  intro i hi
  rw [List.all_eq_true]
  intro n hn
  rw [Bool.and_eq_true, decide_eq_true_eq]
  have hn' := registered_typeOf i hi n hn
  refine ⟨hn', ?_⟩
  cases hl : Gen.builtin.lookup (fun j => j.mime == n || j.aliases.contains n) with
  | none =>
    have hf := lookup_none _ _ hl i hi
    rw [(carries_iff i n).mpr hn] at hf
    cases hf
  | some path =>
    obtain ⟨j, hlast, hj, hjm⟩ := lookup_some _ _ path hl
    show (path.getLast?.map (fun j => isM j n) == some true) = true
    rw [hlast, Option.map_some, isM_of_carries j n hn' (registered_typeOf j hjm j.mime (List.mem_cons_self ..)) hj]
    rfl

/-- **C15 (decorations)**: for every registered type or alias `n`: surrounding blanks, any letter
    case of the name and any parameter list that `ParseMediaType` does not reject as a duplicate
    normalise to `n`, so `Is` / `EqualsAny` answer as for the bare name -/
theorem registered_decorated (i : Info) (hi : i ∈ Gen.builtin.flatten) (n : Bytes) (hn : n ∈ i.mime :: i.aliases)
    (t w1 w2 rest : Bytes) (ht : lower t = n)
    (h1 : ∀ c ∈ w1, isSp c = true) (h2 : ∀ c ∈ w2, isSp c = true) (hrest : rest = [] ∨ ∃ r, rest = 0x3B :: r) :
    typeOf (w1 ++ t ++ w2 ++ rest) = n ∨ (parse (w1 ++ t ++ w2 ++ rest)).2.2 = .duplicate := by
  obtain ⟨maj, sub, hok⟩ := registered_ok i hi n hn
  exact typeOf_decorated n maj sub t w1 w2 rest hok ht h1 h2 hrest

end Mime.C15
