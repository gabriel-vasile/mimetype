import MimeModel.Lemmas.Tree
import MimeModel.Model.Detect
/-
  C03 — the reported hierarchy is the first-match deepest path of the detector tree.
  All statements are generic in the tree (built-in or enlarged by Extend) and in the
  detectors (`acc` is an arbitrary verdict function on nodes).
-/
namespace Mime.C03
open Mime Mime.Tree
variable {α : Type}

/-- Specification: the first-match deepest path.  `stop`: no sub-format accepts.
    `descend`: `c` is the first sub-format, in priority order, that accepts; `pre` are the siblings
    consulted before it (what `WalkPath.rivals` collects at that level, `Tree.older` as payloads). -/
inductive Path (acc : α → Bool) : Tree α → List α → Prop
  | stop (a : α) (cs : List (Tree α)) :
      (∀ c ∈ cs, acc c.info = false) → Path acc (.node a cs) [a]
  | descend (a : α) (pre : List (Tree α)) (c : Tree α) (post : List (Tree α)) (p : List α) :
      (∀ d ∈ pre, acc d.info = false) → acc c.info = true → Path acc c p →
      Path acc (.node a (pre ++ c :: post)) (a :: p)

/-- **C03 (1)**: the walk of `match` produces the first-match deepest path. -/
theorem walk_spec (acc : α → Bool) (t : Tree α) : Path acc t (walk acc t) := by
  refine Tree.induction (P := fun t => Path acc t (walk acc t)) (fun a cs ih => ?_) t
  rw [walk_eq]
  cases hf : cs.find? (fun c => acc c.info) with
  | none =>
    have hnone : ∀ c ∈ cs, acc c.info = false := fun c hc => Bool.not_eq_true _ ▸ List.find?_eq_none.1 hf c hc
    rw [walkList_eq_nil_of_none acc cs hnone]
    exact Path.stop a cs hnone
  | some c =>
    obtain ⟨hc, pre, post, rfl, hpre⟩ := List.find?_eq_some_iff_append.1 hf
    have hp : ∀ d ∈ pre, acc d.info = false := fun d hd => Bool.not_eq_true' _ ▸ hpre d hd
    rw [walkList_skip acc pre c post hp hc]
    exact Path.descend a pre c post _ hp hc (ih c (List.mem_append_right _ List.mem_cons_self))

/-- **C03 (2)**: that path is unique — the specification determines the answer. -/
theorem path_unique (acc : α → Bool) (t : Tree α) (p : List α) (h : Path acc t p) : p = walk acc t := by
  induction h with
  | stop a cs hnone => rw [walk_eq, walkList_eq_nil_of_none acc cs hnone]
  | descend a pre c post p hp hc _ ih => rw [walk_eq, walkList_skip acc pre c post hp hc, ih]

/-- **C03 (3)**: every ancestor of the reported type (every node on the path below the
    root) genuinely accepted the header. -/
theorem ancestors_accept (acc : α → Bool) (t : Tree α) : ∀ i ∈ (walk acc t).tail, acc i = true :=
  walk_unfold acc t ▸ fun i hi => (mem_walkList acc t.children i hi).1

/-- **C03 (4)**: a path ends at a node none of whose sub-formats accepts. -/
theorem path_last_children_reject (acc : α → Bool) (t : Tree α) (p : List α) (h : Path acc t p) :
    ∃ leaf : Tree α, p.getLast? = some leaf.info ∧ ∀ c ∈ leaf.children, acc c.info = false := by
  induction h with
  | stop a cs hnone => exact ⟨.node a cs, by simp [info], by simpa [children] using hnone⟩
  | descend a pre c post p _ _ hpath ih =>
    obtain ⟨leaf, hl, hr⟩ := ih
    refine ⟨leaf, ?_, hr⟩
    cases p with
    | nil => cases hpath
    | cons x xs => simpa [List.getLast?_cons_cons] using hl

/-- **C03 (5)**: the model of `Detect` returns exactly that path (leaf first), for every
    tree, every detector family, every input and every limit. -/
theorem detect_chain_is_path (ext : Ext) (T : Tree Info) (x : Bytes) (lim : Nat) :
    Path (accepts ext (header x lim) lim) T (detect ext T x lim).chain.reverse := by
  simp only [detect, List.reverse_reverse]
  exact walk_spec _ T

/-- detectors only ever see the examined header -/
theorem detect_uses_header_only (ext : Ext) (T : Tree Info) (x y : Bytes) (lim : Nat)
    (h : header x lim = header y lim) : (detect ext T x lim).chain = (detect ext T y lim).chain := by
  simp [detect, h]

/- non-vacuity: a three-level tree where the second child matches and descends -/
example : Path (fun n => n % 2 == 0) (.node 1 [.node 3 [], .node 4 [.node 5 [], .node 6 []], .node 8 []]) [1, 4, 6] :=
  walk_spec (fun n => n % 2 == 0) (.node 1 [.node 3 [], .node 4 [.node 5 [], .node 6 []], .node 8 []])

end Mime.C03
