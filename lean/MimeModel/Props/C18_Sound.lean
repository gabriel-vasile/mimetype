import MimeModel.Lemmas.OfString
import MimeModel.Props.C18
import MimeModel.Props.C18_Detect
import MimeModel.Lemmas.DetectSound
import MimeModel.Model.Closed
/-
  C18, converse, through `Detect`: application/x-tar is *reported* only if the first 512-byte
  block of the examined header has a valid checksum: at least 512 bytes examined, no Gentoo gpkg
  marker in the name field, the checksum field (bytes 148..155) parses as octal and equals the
  unsigned or the signed byte sum of the block with the field itself counted as eight spaces.
-/
namespace Mime.C18
open Mime Mime.Cust Mime.Tree Mime.DetectSound Mime.DetectPath

example : mimeTar = ofString "application/x-tar" := by
  rw [ofString_ofList]
  decide +kernel

/-- **regenerated fact** about tree.go: exactly one node has type application/x-tar, the node
    `tar`, checked by `Tar`; every node of that type is checked by `Tar`; the root is not one -/
theorem tar_nodes :
    (Gen.builtin.flatten.filter (fun i => i.mime == mimeTar)).map (fun i => (i.name, i.det)) =
      [("tar", .custom .tar)] ∧
    Gen.builtin.flatten.all (fun i => !(i.mime == mimeTar) || decide (i.det = .custom .tar)) = true ∧
    (Gen.builtin.info.mime == mimeTar) = false := by
  decide +kernel

/-- what `Tar` saying yes means, read off the definition -/
structure ValidChecksum (h : Bytes) : Prop where
  /-- a whole first block was examined -/
  len : 512 ≤ h.length
  /-- the name field does not carry the Gentoo gpkg marker -/
  notGpkg : containsSub ((h.take 512).take 100) gpkgMarker = false
  /-- the checksum field is an octal number equal to the unsigned or to the signed sum of the
      block, the field itself counted as spaces (`tarByte`) -/
  chk : ∃ rec, tarParseOctal (slice (h.take 512) 148 156) = some rec ∧
      (rec = tarSumU 0 (h.take 512) ∨ (rec : Int) = tarSumS 0 (h.take 512))

/-- **the spelling-out**: the model of `Tar` says yes exactly when the checksum is valid -/
theorem tar_iff (h : Bytes) : tar h = true ↔ ValidChecksum h := by
  unfold tar
  constructor
  · intro ht
    by_cases hl : h.length < 512
    · simp [hl] at ht
    · simp only [hl, ↓reduceIte] at ht
      by_cases hg : containsSub ((h.take 512).take 100) gpkgMarker = true
      · simp [hg] at ht
      · simp only [hg, Bool.false_eq_true, ↓reduceIte] at ht
        cases hp : tarParseOctal (slice (h.take 512) 148 156) with
        | none => rw [hp] at ht; cases ht
        | some rec =>
          rw [hp] at ht
          simp only [Bool.or_eq_true, beq_iff_eq] at ht
          exact ⟨by omega, by simpa using hg, rec, hp, ht⟩
  · rintro ⟨hl, hg, rec, hp, hs⟩
    have hl' : ¬ h.length < 512 := by omega
    simp only [hl', ↓reduceIte, hg, Bool.false_eq_true, hp, Bool.or_eq_true, beq_iff_eq]
    exact hs

/-- **C18 through `Detect`, converse**: if the reported leaf has type application/x-tar then the
    examined header holds a whole first block whose checksum field is valid (unsigned or signed
    sum, the field counted as spaces) and whose name field has no gpkg marker.  For every `ext`,
    input and limit. -/
theorem tar_verdict_sound (ext : Ext) (x : Bytes) (lim : Nat) (leaf : Info)
    (hleaf : (detect ext Gen.builtin x lim).chain.head? = some leaf) (hm : leaf.mime = mimeTar) :
    tar (header x lim) = true ∧ ValidChecksum (header x lim) := by
  have h := leaf_custom_accepted ext Gen.builtin x lim leaf mimeTar .tar (fun raw _ => tar raw) hleaf hm
    tar_nodes.2.1 tar_nodes.2.2 rfl
  exact ⟨h, (tar_iff _).1 h⟩

/-- … the same about the input itself: tar reported ⇒ the input has at least 512 bytes, the limit
    is 0 or at least 512, and the first block *of the input* has a valid checksum -/
theorem tar_verdict_input (ext : Ext) (x : Bytes) (lim : Nat) (leaf : Info)
    (hleaf : (detect ext Gen.builtin x lim).chain.head? = some leaf) (hm : leaf.mime = mimeTar) :
    512 ≤ x.length ∧ (lim = 0 ∨ 512 ≤ lim) ∧ ValidChecksum (x.take 512) := by
  obtain ⟨_, hl, hg, hc⟩ := tar_verdict_sound ext x lim leaf hleaf hm
  obtain ⟨hb, hx, hlim⟩ := header_take x lim 512 hl
  rw [hb] at hg hc
  refine ⟨hx, hlim, ?_, ?_, ?_⟩
  · simp only [List.length_take]; omega
  · simpa [List.take_take] using hg
  · simpa [List.take_take] using hc

/-- **corruption through `Detect`**: a conforming first block in which one byte outside the
    checksum field was changed is not reported as application/x-tar — whatever follows the block,
    whatever the limit, whatever the external parameters -/
theorem corrupted_not_tar (ext : Ext) (B rest : Bytes) (lim : Nat) (hc : Conforming B) (i v : Nat)
    (hi : i < 512) (hout : ¬ (148 ≤ i ∧ i < 156)) (hv : v < 256) (hne : v ≠ B.getD i 0) (leaf : Info)
    (hleaf : (detect ext Gen.builtin (B.set i v ++ rest) lim).chain.head? = some leaf) :
    leaf.mime ≠ mimeTar := by
  intro hm
  obtain ⟨hx, _, hvc⟩ := tar_verdict_input ext _ lim leaf hleaf hm
  have hlen : (B.set i v).length = 512 := by simp [hc.len]
  rw [List.take_left' hlen] at hvc
  have hrej := corruption_rejected B [] hc i v hi hout hv hne
  rw [List.append_nil] at hrej
  rw [(tar_iff _).2 hvc] at hrej
  cases hrej

/-- an input shorter than one block, or examined with a limit below 512, is never reported as tar -/
theorem short_not_tar (ext : Ext) (x : Bytes) (lim : Nat) (leaf : Info)
    (hleaf : (detect ext Gen.builtin x lim).chain.head? = some leaf)
    (hs : x.length < 512 ∨ (lim ≠ 0 ∧ lim < 512)) : leaf.mime ≠ mimeTar := by
  intro hm
  obtain ⟨hx, hlim, _⟩ := tar_verdict_input ext x lim leaf hleaf hm
  omega

/- The same about `Closed.detect`, the model with no external parameter left: what
   `mimetype.Detect` computes on the built-in tree. -/

theorem closed_tar_verdict_sound (x : Bytes) (lim : Nat) (leaf : Info)
    (hleaf : (Closed.detect x lim).chain.head? = some leaf) (hm : leaf.mime = mimeTar) :
    tar (header x lim) = true ∧ ValidChecksum (header x lim) :=
  tar_verdict_sound Closed.ext x lim leaf hleaf hm

theorem closed_corrupted_not_tar (B rest : Bytes) (lim : Nat) (hc : Conforming B) (i v : Nat)
    (hi : i < 512) (hout : ¬ (148 ≤ i ∧ i < 156)) (hv : v < 256) (hne : v ≠ B.getD i 0) (leaf : Info)
    (hleaf : (Closed.detect (B.set i v ++ rest) lim).chain.head? = some leaf) :
    leaf.mime ≠ mimeTar :=
  corrupted_not_tar Closed.ext B rest lim hc i v hi hout hv hne leaf hleaf

/-- an all-zero block with the right checksum field (8 spaces = 256 = 000400 octal) -/
def exBlock : Bytes := List.replicate 148 0 ++ [0x30, 0x30, 0x30, 0x34, 0x30, 0x30, 0, 0x20] ++ List.replicate 356 0

set_option maxRecDepth 100000 in
example : ((Closed.detect exBlock 0).chain.map (·.mime)) = [mimeTar, mimeOctet] := by decide +kernel

/- one byte changed: application/octet-stream -/
set_option maxRecDepth 100000 in
example : ((Closed.detect (exBlock.set 5 1) 0).chain.map (·.mime)) = [mimeOctet] := by decide +kernel

end Mime.C18
