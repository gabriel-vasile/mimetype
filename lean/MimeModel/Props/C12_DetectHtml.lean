import MimeModel.Lemmas.DetectHtml
import MimeModel.Lemmas.OfString
/-
  C12, HTML clause, on the result of `Detect` (closed model `Closed.ext`, total tokenizer model
  `HtmlTok.startTagsFull`).  The document starts with an opening `O` (`DetectHtml.HtmlOpen`).  Every theorem
  is about the EXAMINED HEADER `header doc lim` (the whole input when `lim = 0` or the input is not longer
  than `lim`, its first `lim` bytes otherwise): the `<meta …>` tag up to its `>` lies inside it, `rest` is
  what is left of the header behind the tag.  Then every theorem on a concrete document, and what the
  hypotheses exclude.
-/
namespace Mime.C12
open Mime Mime.Charset Mime.HtmlTok Mime.HtmlTokLemmas Mime.HtmlUnescapeLemmas Mime.HtmlEnt
open Mime.Tree Mime.WalkPath Mime.Cust Mime.DetectHtml

/-- the outcome all the theorems below have: `Detect(doc)` with read limit `lim` is `text/html` with
    the charset parameter `cs` — unless a format that `match` consults before `text/html` accepts the
    examined header.  `rivals htmlPath Gen.builtin` are the children of the root in front of
    text/plain (`html` is the FIRST child of text/plain: `html_node_facts`) -/
def HtmlOutcome (doc : Bytes) (lim : Nat) (cs : Bytes) : Prop :=
  ((Mime.detect Closed.ext Gen.builtin doc lim).chain.head? = some htmlNode.info ∧
    (Mime.detect Closed.ext Gen.builtin doc lim).charset = cs) ∨
  (∃ d ∈ rivals htmlPath Gen.builtin, accepts Closed.ext (header doc lim) lim d.info = true)

/-- The examined header is `O body` with `O` an opening the `HTML` check
    recognises (`HtmlOpen`: white space, then `<html>` / `<html` SPACE attributes `>` in any letter
    case — or head, body, div, font, table, a, b, br, p — or `<!DOCTYPE html …>`), it contains no
    binary-data byte, and `FromHTML` (BOM check, meta prescan over the tokenizer model in full,
    plain-text guess) answers `result`: then the result of `Detect` is `text/html; charset=result`,
    unless a rival accepts.
    (`charsetFor` of `text/html` IS `fromHTMLBytesFull` of the header — the BOM check is inside — so
    no separate BOM hypothesis is needed.) -/
theorem html_detected_core (doc : Bytes) (lim : Nat) (O body result : Bytes)
    (hshape : header doc lim = O ++ body)
    (hO : HtmlOpen O)
    (htext : Cust.text (header doc lim) = true)
    (hres : fromHTMLBytesFull (header doc lim) = result) :
    HtmlOutcome doc lim result := by
  have hacc : accepts Closed.ext (header doc lim) lim htmlNode.info = true := by
    rw [hshape]
    exact hO.accepts Closed.ext false body lim
  rcases html_detected_header doc lim htext hacc with ⟨h1, h2⟩ | h
  · exact Or.inl ⟨h1, h2.trans hres⟩
  · exact Or.inr h

/-- the core in the form of `html_charset_detected`: the whole document `<html> body`, examined in full -/
theorem html_detected_core_whole (htmlNm body result : Bytes) (lim : Nat)
    (hh : lowerASCII htmlNm = kHtml)
    (htext : Cust.text (tagText htmlNm [] [] ++ body) = true)
    (hwhole : lim = 0 ∨ (tagText htmlNm [] [] ++ body).length < lim)
    (hres : fromHTMLBytesFull (tagText htmlNm [] [] ++ body) = result) :
    let doc := tagText htmlNm [] [] ++ body
    ((Mime.detect Closed.ext Gen.builtin doc lim).chain.head? = some htmlNode.info ∧
      (Mime.detect Closed.ext Gen.builtin doc lim).charset = result) ∨
    (∃ d ∈ rivals htmlPath Gen.builtin, accepts Closed.ext doc lim d.info = true) := by
  intro doc
  have hhdr : header doc lim = doc := DetectSound.header_whole doc lim (hwhole.imp_right Nat.le_of_lt)
  have := html_detected_core doc lim (tagText htmlNm [] []) body result hhdr (htmlOpen_html htmlNm hh)
    (by rw [hhdr]; exact htext) (by rw [hhdr]; exact hres)
  rwa [HtmlOutcome, hhdr] at this

/-- the common step of the theorems on a `<meta …>` tag: behind `O P` (an opening and a prologue), a `<meta …>` tag
    with the attributes `as` whose (finished) attribute list makes the prescan answer a non-empty
    `result` whatever tags follow -/
theorem html_meta_detected (doc : Bytes) (lim : Nat) (O P : Bytes) {M : Bytes} {as : List AttrSrc} (rest : Bytes) {result : Bytes}
    (hshape : header doc lim = O ++ P ++ M ++ rest)
    (hO : HtmlOpen O)
    (hP : PrologueR P) (hM : MetaSrc M as)
    (hres : ∀ more, fromHTMLToks (finishTagFull { name := kMeta, attrs := parsed as } :: more) = result)
    (hne : result ≠ [])
    (htext : Cust.text (header doc lim) = true) :
    HtmlOutcome doc lim result := by
  refine html_detected_core doc lim O (P ++ M ++ rest) _
    (by rw [hshape]; simp [List.append_assoc]) hO htext ?_
  rw [hshape]
  refine fromHTMLBytesFull_meta_decides_src (O ++ P) M as rest result
    (hO.skips.append hP.skips) hM hres hne ?_
  have := hO.noBOM (P ++ M ++ rest)
  simpa [List.append_assoc] using this

/-- The examined header is
    `O P <meta ws pre… charset = L post… > rest`:
    * `O` an opening (`HtmlOpen`: `ws <html …>` or `ws <!DOCTYPE html …>`, …, any letter case);
    * `meta`, `charset` in any letter case; `L` double-quoted, single-quoted or bare;
      white space around the `=` of any attribute (`tagTextW`, `EqWs`);
    * `P` a prologue: text, comments, doctype, ordinary start and end tags, complete `<script>` and
      raw-text elements (`PrologueR`);
    * `pre`, `post`: attributes with any keys other than `content`, `charset`, `http-equiv` and
      ARBITRARY values (character references included);
    * no binary-data byte in the header.
    Then `Detect` answers `text/html` with the charset parameter = the DECODED attribute value
    (`attrVal L`: character references replaced, CR / CR LF → LF) in lower case, utf-8 for utf-16
    labels — unless a rival accepts.  No hypothesis about `&` anywhere. -/
theorem html_charset_detected_refs (doc : Bytes) (lim : Nat) (O P nm ws0 : Bytes) (pre post : List (AttrSrc × EqWs)) (cs : Bytes) (form : ValForm) (L sep : Bytes) (e : EqWs)
    (rest : Bytes)
    (hshape : header doc lim = O ++ P ++
      tagTextW nm ws0 (pre ++ (charsetAttr cs form L sep, e) :: post) ++ rest)
    (hO : HtmlOpen O)
    (hP : PrologueR P) (hnm : lowerASCII nm = kMeta)
    (hws : ∀ x ∈ ws0, isWS x = true) (hws0 : ws0 ≠ [])
    (hcs : lowerASCII cs = kwCharset)
    (hwf : attrsWf (plainAttrs (pre ++ (charsetAttr cs form L sep, e) :: post)))
    (hw : ∀ p ∈ pre ++ (charsetAttr cs form L sep, e) :: post, p.2.ok)
    (hpre : ∀ p ∈ pre, inertKey p.1.key) (hpost : ∀ p ∈ post, inertKey p.1.key)
    (hL : attrVal L ≠ [])
    (htext : Cust.text (header doc lim) = true) :
    HtmlOutcome doc lim (norm (attrVal L)) := by
  refine html_meta_detected doc lim O P rest hshape hO hP
    (metaSrc_tagTextW nm ws0 _ hnm hws (fun h => absurd h hws0) hwf hw) ?_ (norm_ne_nil _ hL) htext
  intro more
  rw [plainAttrs_append_cons]
  exact charset_toks (plainAttrs pre) (plainAttrs post) cs form L sep hcs (inert_plainAttrs pre hpre)
    (inert_plainAttrs post hpost) more

/-- no white space around `=`, a label free of `&` and CR — the
    reported charset is the label as written, in lower case (utf-8 for utf-16 labels).  Still: the
    `charset` attribute at any position, the other attributes with arbitrary values (character
    references included), any quoting, any letter case -/
theorem html_charset_detected_general (doc : Bytes) (lim : Nat) (O P nm ws0 : Bytes) (pre post : List AttrSrc) (cs : Bytes) (form : ValForm) (L sep rest : Bytes)
    (hshape : header doc lim = O ++ P ++
      tagText nm ws0 (pre ++ charsetAttr cs form L sep :: post) ++ rest)
    (hO : HtmlOpen O)
    (hP : PrologueR P) (hnm : lowerASCII nm = kMeta)
    (hws : ∀ x ∈ ws0, isWS x = true) (hws0 : ws0 ≠ [])
    (hcs : lowerASCII cs = kwCharset)
    (hwf : attrsWf (pre ++ charsetAttr cs form L sep :: post))
    (hpre : ∀ a ∈ pre, inertKey a.key) (hpost : ∀ a ∈ post, inertKey a.key)
    (hL : L ≠ []) (hcr : ∀ c ∈ L, c ≠ 0x0D) (hamp : L.contains 0x26 = false)
    (htext : Cust.text (header doc lim) = true) :
    HtmlOutcome doc lim (norm L) := by
  have e := attrVal_plain L hcr hamp
  have hres := fun more => charset_toks pre post cs form L sep hcs hpre hpost more
  rw [e] at hres
  exact html_meta_detected doc lim O P rest hshape hO hP
    (metaSrc_tagText nm ws0 _ hnm hws (fun h => absurd h hws0) hwf) hres (norm_ne_nil _ hL) htext

/-- The examined header is
    `O P <meta ws pre… A mid… B post… > rest` where `O` is an opening and `{A, B}` are `http-equiv = V1` and
    `content = V2` in either order (`order = true`: `http-equiv` first), keys in any letter case, any
    quoting, white space around `=`, `pre` / `mid` / `post` inert attributes with arbitrary values.
    With the decoded values `v1 = attrVal V1`, `v2 = attrVal V2`: if `v1` is `content-type` in any
    letter case and `fromMetaElement` finds a label in the lower-cased `v2`, `Detect` answers
    `text/html` with that label (utf-8 for utf-16 labels) — unless a rival accepts -/
theorem html_pragma_detected_refs (order : Bool) (doc : Bytes) (lim : Nat) (O P nm ws0 : Bytes) (p1 p2 : AttrSrc × EqWs) (pre mid post : List (AttrSrc × EqWs)) (rest : Bytes)
    (hshape : header doc lim = O ++ P ++
      tagTextW nm ws0 (pragmaAttrs order p1 p2 pre mid post) ++ rest)
    (hO : HtmlOpen O)
    (hP : PrologueR P) (hnm : lowerASCII nm = kMeta)
    (hws : ∀ x ∈ ws0, isWS x = true) (hws0 : ws0 ≠ [])
    (hk1 : lowerASCII p1.1.key = kHttpEquiv) (hk2 : lowerASCII p2.1.key = kContent)
    (hv1 : lowerASCII (attrVal p1.1.val) = kContentType)
    (hv2 : fromMetaElement (lowerASCII (attrVal p2.1.val)) ≠ [])
    (hwf : attrsWf (plainAttrs (pragmaAttrs order p1 p2 pre mid post)))
    (hw : ∀ p ∈ pragmaAttrs order p1 p2 pre mid post, p.2.ok)
    (hpre : ∀ p ∈ pre, inertKey p.1.key) (hmid : ∀ p ∈ mid, inertKey p.1.key) (hpost : ∀ p ∈ post, inertKey p.1.key)
    (htext : Cust.text (header doc lim) = true) :
    HtmlOutcome doc lim (finalLabel (fromMetaElement (lowerASCII (attrVal p2.1.val)))) := by
  refine html_meta_detected doc lim O P rest hshape hO hP
    (metaSrc_tagTextW nm ws0 _ hnm hws (fun h => absurd h hws0) hwf hw) ?_ (finalLabel_ne hv2) htext
  intro more
  rw [plainAttrs_pragma]
  exact pragma_toks order p1.1 p2.1 _ _ _ hk1 hk2 hv1 hv2 (inert_plainAttrs pre hpre) (inert_plainAttrs mid hmid)
    (inert_plainAttrs post hpost) more

/-- no white space around `=`; the two values that are read contain no `&`
    and no CR (nothing is assumed about any other value):
    `<meta http-equiv=Content-Type content="text/html; charset=L">` in both attribute orders
    (`order = true`: `http-equiv` first), any letter case of `http-equiv` / `content` /
    `Content-Type`, inert attributes anywhere; the label is
    `finalLabel (fromMetaElement (lowerASCII content))` — utf-16* ↦ utf-8
    (`fromMetaElement_spec` says what `fromMetaElement` extracts) -/
theorem html_pragma_detected (order : Bool) (doc : Bytes) (lim : Nat) (O P nm ws0 : Bytes) (a1 a2 : AttrSrc) (pre mid post : List AttrSrc) (rest : Bytes)
    (hshape : header doc lim = O ++ P ++
      tagText nm ws0 (pragmaAttrs order a1 a2 pre mid post) ++ rest)
    (hO : HtmlOpen O)
    (hP : PrologueR P) (hnm : lowerASCII nm = kMeta)
    (hws : ∀ x ∈ ws0, isWS x = true) (hws0 : ws0 ≠ [])
    (hk1 : lowerASCII a1.key = kHttpEquiv) (hk2 : lowerASCII a2.key = kContent)
    (hv1 : lowerASCII a1.val = kContentType)
    (hv2 : fromMetaElement (lowerASCII a2.val) ≠ [])
    (hcr1 : ∀ c ∈ a1.val, c ≠ 0x0D) (hamp1 : a1.val.contains 0x26 = false)
    (hcr2 : ∀ c ∈ a2.val, c ≠ 0x0D) (hamp2 : a2.val.contains 0x26 = false)
    (hwf : attrsWf (pragmaAttrs order a1 a2 pre mid post))
    (hpre : ∀ a ∈ pre, inertKey a.key) (hmid : ∀ a ∈ mid, inertKey a.key) (hpost : ∀ a ∈ post, inertKey a.key)
    (htext : Cust.text (header doc lim) = true) :
    HtmlOutcome doc lim (finalLabel (fromMetaElement (lowerASCII a2.val))) := by
  have e1 := attrVal_plain a1.val hcr1 hamp1
  have e2 := attrVal_plain a2.val hcr2 hamp2
  have hres := fun more => pragma_toks order a1 a2 pre mid post hk1 hk2 (by rw [e1]; exact hv1) (by rw [e2]; exact hv2)
    hpre hmid hpost more
  rw [e2] at hres
  exact html_meta_detected doc lim O P rest hshape hO hP
    (metaSrc_tagText nm ws0 _ hnm hws (fun h => absurd h hws0) hwf) hres (finalLabel_ne hv2) htext

/-- The examined header is `EF BB BF O body` (`O` an opening): the `HTML` check
    skips the UTF-8 BOM (and only that one), text/plain accepts because of the BOM (binary-data bytes
    or not), and the charset parameter is `utf-8` WHATEVER `body` declares — unless a rival accepts -/
theorem html_bom_detected (doc : Bytes) (lim : Nat) (O body : Bytes)
    (hshape : header doc lim = utf8BOM ++ O ++ body)
    (hO : HtmlOpen O) :
    HtmlOutcome doc lim csUtf8 := by
  have hshape' : header doc lim = utf8BOM ++ (O ++ body) := hshape.trans (List.append_assoc ..)
  have hbom : fromBOM (header doc lim) = csUtf8 := by rw [hshape']; exact fromBOM_utf8 _
  have htext : Cust.text (header doc lim) = true := by
    unfold Cust.text
    rw [hbom]
    rfl
  have hacc : accepts Closed.ext (header doc lim) lim htmlNode.info = true := by
    rw [hshape']
    exact hO.accepts Closed.ext true body lim
  rcases html_detected_header doc lim htext hacc with ⟨h1, h2⟩ | h
  · refine Or.inl ⟨h1, ?_⟩
    rw [h2]
    show fromHTML (header doc lim) _ = csUtf8
    rw [html_bom_first _ _ (by rw [hbom]; decide), hbom]
  · exact Or.inr h

/-- the instance the property sentence is about: behind the UTF-8 BOM a `<meta charset=L>` with any
    label: the answer is `utf-8`, not `L` -/
theorem html_bom_beats_meta (doc : Bytes) (lim : Nat) (htmlNm P nm cs : Bytes) (form : ValForm) (L rest : Bytes)
    (hshape : header doc lim = utf8BOM ++ tagText htmlNm [] [] ++
      (P ++ tagText nm [0x20] [charsetAttr cs form L []] ++ rest))
    (hh : lowerASCII htmlNm = kHtml) :
    HtmlOutcome doc lim csUtf8 :=
  html_bom_detected doc lim (tagText htmlNm [] []) _ hshape (htmlOpen_html htmlNm hh)

/-- An input whose first byte is not white space, `<` or 0xEF — in
    particular one that starts with a UTF-16 BOM (FE FF / FF FE) or a UTF-32 BOM (00 00 FE FF /
    FF FE 00 00) — is never reported as `text/html`, whatever the limit: the `HTML` check skips the
    UTF-8 BOM only.  So for these BOMs the clause "a byte-order mark takes precedence over an HTML
    meta declaration" says nothing about the result of `Detect`: the meta declaration is not consulted
    because the document is not HTML for the library (it is `text/plain; charset=utf-16be` …, see the
    examples) -/
theorem html_bom16_not_html (c : Nat) (r : Bytes) (lim : Nat) (leaf : Info)
    (hws : isWS c = false) (hlt : c ≠ 0x3C) (hef : c ≠ 0xEF)
    (hleaf : (Mime.detect Closed.ext Gen.builtin (c :: r) lim).chain.head? = some leaf) :
    leaf.mime ≠ mimeTextHtml := by
  intro hm
  -- every node of the built-in tree whose type is `text/html` carries the `HTML` check
  obtain ⟨hdet, hacc⟩ := DetectSound.chain_kind Closed.ext Gen.builtin (c :: r) lim (·.mime == mimeTextHtml)
    (fun i => decide (i.det = Gen.d_HTML)) (by decide +kernel) (by decide +kernel) leaf (List.mem_of_mem_head? hleaf)
    (by rw [hm]; exact beq_self_eq_true _)
  obtain ⟨r', hr'⟩ := DetectSound.header_keeps_prefix [c] r lim (Nat.eq_zero_or_pos lim)
  have hr' : header (c :: r) lim = c :: r' := hr'
  rw [hr', html_rejects_head Closed.ext leaf (of_decide_eq_true hdet) c r' lim hws hlt hef] at hacc
  cases hacc

/-- `<html>`, then a comment `c`, a `<script>` with text `s`
    and a `<title>` with text `t` — each of which may spell any number of `<meta charset=…>` tags —
    then the real `<meta charset="L">`: the real one is reported.  (An instance of
    `html_charset_detected_general`: the three containers are a `PrologueR`.)
    `c` contains no `--` and does not start with `>` / `->`; `s` contains neither `</script` nor
    `<!--`; `t` does not contain `</title` -/
theorem html_fake_meta_ignored_detected (doc : Bytes) (lim : Nat) (htmlNm c s t L rest : Bytes)
    (hshape : header doc lim = tagText htmlNm [] [] ++
      (commentText c ++ (tagText kScript [] [] ++ s ++ endTagText kScript [] ++
        (tagText kTitle [] [] ++ t ++ endTagText kTitle []))) ++
      tagText kMeta [0x20] [charsetAttr kwCharset .dq L []] ++ rest)
    (hh : lowerASCII htmlNm = kHtml)
    (hc : commentBodyOk c = true) (hs : scriptBodyOk s = true) (ht : rawBodyOk kTitle t = true)
    (hL : L ≠ []) (htok : ∀ x ∈ L, tokenChar x = true)
    (htext : Cust.text (header doc lim) = true) :
    HtmlOutcome doc lim (norm L) := by
  have hP : PrologueR (commentText c ++ (tagText kScript [] [] ++ s ++ endTagText kScript [] ++
      (tagText kTitle [] [] ++ t ++ endTagText kTitle []))) := by
    have h3 := PrologueR.rawtext kTitle kTitle [] [] t kTitle [] [] (by decide) (by decide) (by intro x hx; cases hx)
      (fun _ => rfl) trivial ht (by decide) (by intro x hx; cases hx) .nil
    have h2 := PrologueR.script kScript [] [] s kScript [] _ (by decide) (by intro x hx; cases hx)
      (fun _ => rfl) trivial hs (by decide) (by intro x hx; cases hx) h3
    have h1 := PrologueR.plain (commentText c ++ []) _ (.comment c [] hc .nil) h2
    simpa using h1
  obtain ⟨hwf, hcr, hamp⟩ := charsetAttr_token kwCharset .dq L (by decide) hL htok
  exact html_charset_detected_general doc lim (tagText htmlNm [] []) _ kMeta [0x20] [] [] kwCharset .dq L [] rest
    (by rw [hshape]; simp) (htmlOpen_html htmlNm hh) hP (by decide) (by decide) (by decide) (by decide)
    hwf (fun _ h => nomatch h) (fun _ h => nomatch h) hL hcr hamp htext

/- Every theorem instantiated on a concrete document, and `Closed.detect` evaluated by the
   kernel on the same document (all outputs below agree with the library itself). -/

/-- mime type of the reported leaf and charset parameter -/
def leafOfH (x : Bytes) (lim : Nat) : Option Bytes × Bytes :=
  ((Closed.detect x lim).chain.head?.map (·.mime), (Closed.detect x lim).charset)

/-- no format consulted before `text/html` accepts the examined header (the second disjunct of
    `HtmlOutcome` is false) -/
def noRival (x : Bytes) (lim : Nat) : Bool :=
  (rivals htmlPath Gen.builtin).all (fun d => !accepts Closed.ext (header x lim) lim d.info)

/- On a concrete document every hypothesis but the opening and the prologue is decided by evaluation.
   Each `decide +kernel` is a kernel run of its own, so the `…_of_side` forms below take those hypotheses
   as ONE conjunction, together with the value of the reported label: the string literals are turned
   into character lists once (`ofString_ofList`) and one run decides everything. -/

theorem html_charset_detected_general_of_side (doc : Bytes) (lim : Nat) (O P nm ws0 : Bytes) (pre post : List AttrSrc)
    (cs : Bytes) (form : ValForm) (L sep rest : Bytes) {result : Bytes} (hO : HtmlOpen O) (hP : PrologueR P)
    (h : header doc lim = O ++ P ++ tagText nm ws0 (pre ++ charsetAttr cs form L sep :: post) ++ rest ∧
      lowerASCII nm = kMeta ∧ (∀ x ∈ ws0, isWS x = true) ∧ ws0 ≠ [] ∧ lowerASCII cs = kwCharset ∧
      attrsWf (pre ++ charsetAttr cs form L sep :: post) ∧ (∀ a ∈ pre, inertKey a.key) ∧ (∀ a ∈ post, inertKey a.key) ∧
      L ≠ [] ∧ (∀ c ∈ L, c ≠ 0x0D) ∧ L.contains 0x26 = false ∧ Cust.text (header doc lim) = true ∧ norm L = result) :
    HtmlOutcome doc lim result := by
  obtain ⟨h1, h2, h3, h4, h5, h6, h7, h8, h9, h10, h11, h12, rfl⟩ := h
  exact html_charset_detected_general doc lim O P nm ws0 pre post cs form L sep rest h1 hO hP h2 h3 h4 h5 h6 h7 h8 h9 h10 h11 h12

/- `html_charset_detected_general`: `<html lang=en>`, a prologue of text and a comment, mixed letter
   case, the `charset` attribute in the MIDDLE, single quotes, a character reference in ANOTHER
   attribute, an unquoted last attribute -/
def doc1 : Bytes := ofString "<HtMl lang=en>\n<!-- c --><MeTa name=\"a&amp;b\" CharSet='KOI8-R' x=y>tail"

example : HtmlOutcome doc1 0 (ofString "koi8-r") := by
  refine html_charset_detected_general_of_side doc1 0
    ([] ++ tagText (ofString "HtMl") [0x20] [⟨ofString "lang", .bare, ofString "en", []⟩])
    (([0x0A] ++ (commentText (ofString " c ") ++ [])) ++ []) (ofString "MeTa") [0x20]
    [⟨ofString "name", .dq, ofString "a&amp;b", [0x20]⟩] [⟨ofString "x", .bare, ofString "y", []⟩]
    (ofString "CharSet") .sq (ofString "KOI8-R") [0x20] (ofString "tail")
    (.tag _ _ _ _ (by decide) (by decide +kernel) (by decide +kernel))
    (.plain _ _ (.text _ _ (by decide) (.comment _ _ (by decide +kernel) .nil)) .nil)
    ?_
  rw [doc1]
  repeat rw [ofString_ofList]
  decide +kernel
example : leafOfH doc1 0 = (some mimeTextHtml, ofString "koi8-r") := by
  rw [doc1]
  repeat rw [ofString_ofList]
  decide +kernel
example : noRival doc1 0 = true := by
  rw [doc1]
  repeat rw [ofString_ofList]
  decide +kernel

/- `html_charset_detected_refs`: leading white space, white space around `=`, a character
   reference INSIDE the label (`ko&#105;8-r` declares `koi8-r`) -/
def doc2 : Bytes := ofString " \n<html><meta charset = \"ko&#105;8-r\" >"

example : HtmlOutcome doc2 0 (ofString "koi8-r") := by
  have h := html_charset_detected_refs doc2 0 ([0x20, 0x0A] ++ tagText (ofString "html") [] []) [] (ofString "meta") [0x20]
    [] [] (ofString "charset") .dq (ofString "ko&#105;8-r") [0x20] ⟨[0x20], [0x20]⟩ []
  rw [doc2] at h ⊢
  repeat rw [ofString_ofList] at h ⊢
  exact Eq.subst (motive := HtmlOutcome _ 0) (by decide +kernel) (h
    (by decide +kernel) (.tag _ _ _ _ (by decide) (by decide +kernel) htmlTagOk_nil) .nil
    (by decide +kernel) (by decide) (by decide) (by decide +kernel) (by decide +kernel) (by decide +kernel)
    (by decide) (by decide) (by decide +kernel) (by decide +kernel))
example : leafOfH doc2 0 = (some mimeTextHtml, ofString "koi8-r") := by
  rw [doc2]
  repeat rw [ofString_ofList]
  decide +kernel
example : noRival doc2 0 = true := by
  rw [doc2]
  repeat rw [ofString_ofList]
  decide +kernel

/- a realistic head: `<!DOCTYPE html>` is the opening, `<html lang="en">` and `<head>` are prologue -/
def doc9 : Bytes := ofString "<!DOCTYPE html>\n<html lang=\"en\">\n<head>\n<meta charset=\"windows-1251\">\n<title>x</title>"

example : HtmlOutcome doc9 0 (ofString "windows-1251") := by
  refine html_charset_detected_general_of_side doc9 0 ([] ++ declText (ofString "DOCTYPE html" ++ []))
    ([0x0A] ++ (tagText (ofString "html") [0x20] [⟨ofString "lang", .dq, ofString "en", []⟩] ++
      ([0x0A] ++ (tagText (ofString "head") [] [] ++ ([0x0A] ++ [])))))
    (ofString "meta") [0x20] [] [] (ofString "charset") .dq (ofString "windows-1251") [] (ofString "\n<title>x</title>")
    (.doctype _ _ _ (by decide) (by decide +kernel) (by decide) (by decide))
    (.of_prologue (.text _ _ (by decide) (.startTag _ _ _ _ (by decide +kernel) (by decide +kernel) (by decide +kernel)
      (by decide +kernel) (by decide) (by decide) (by decide +kernel)
      (.text _ _ (by decide) (.startTag _ _ _ _ (by decide +kernel) (by decide +kernel) (by decide +kernel)
        (by decide +kernel) (by decide) (by decide) (by decide) (.text _ _ (by decide) .nil))))))
    ?_
  rw [doc9]
  repeat rw [ofString_ofList]
  decide +kernel
example : leafOfH doc9 0 = (some mimeTextHtml, ofString "windows-1251") := by
  rw [doc9]
  repeat rw [ofString_ofList]
  decide +kernel
example : noRival doc9 0 = true := by
  rw [doc9]
  repeat rw [ofString_ofList]
  decide +kernel

theorem html_pragma_detected_of_side (order : Bool) (doc : Bytes) (lim : Nat) (O P nm ws0 : Bytes) (a1 a2 : AttrSrc)
    (pre mid post : List AttrSrc) (rest result : Bytes) (hO : HtmlOpen O) (hP : PrologueR P)
    (h : header doc lim = O ++ P ++ tagText nm ws0 (pragmaAttrs order a1 a2 pre mid post) ++ rest ∧
      lowerASCII nm = kMeta ∧ (∀ x ∈ ws0, isWS x = true) ∧ ws0 ≠ [] ∧
      lowerASCII a1.key = kHttpEquiv ∧ lowerASCII a2.key = kContent ∧ lowerASCII a1.val = kContentType ∧
      fromMetaElement (lowerASCII a2.val) ≠ [] ∧
      (∀ c ∈ a1.val, c ≠ 0x0D) ∧ a1.val.contains 0x26 = false ∧ (∀ c ∈ a2.val, c ≠ 0x0D) ∧ a2.val.contains 0x26 = false ∧
      attrsWf (pragmaAttrs order a1 a2 pre mid post) ∧
      (∀ a ∈ pre, inertKey a.key) ∧ (∀ a ∈ mid, inertKey a.key) ∧ (∀ a ∈ post, inertKey a.key) ∧
      Cust.text (header doc lim) = true ∧ finalLabel (fromMetaElement (lowerASCII a2.val)) = result) :
    HtmlOutcome doc lim result := by
  obtain ⟨h1, h2, h3, h4, h5, h6, h7, h8, h9, h10, h11, h12, h13, h14, h15, h16, h17, rfl⟩ := h
  exact html_pragma_detected order doc lim O P nm ws0 a1 a2 pre mid post rest h1 hO hP h2 h3 h4 h5 h6 h7 h8 h9 h10 h11 h12 h13
    h14 h15 h16 h17

/- `html_pragma_detected`, REVERSED order (`content` first), upper-case keys, an inert attribute
   with a character reference between the two, single quotes -/
def doc3 : Bytes :=
  ofString "<html><META CONTENT=\"text/html; charset=Shift_JIS\" data-x=\"&lt;\" HTTP-EQUIV='Content-Type'>"

example : HtmlOutcome doc3 0 (ofString "shift_jis") := by
  refine html_pragma_detected_of_side false doc3 0 (tagText (ofString "html") [] []) [] (ofString "META") [0x20]
    ⟨ofString "HTTP-EQUIV", .sq, ofString "Content-Type", []⟩
    ⟨ofString "CONTENT", .dq, ofString "text/html; charset=Shift_JIS", [0x20]⟩
    [] [⟨ofString "data-x", .dq, ofString "&lt;", [0x20]⟩] [] [] _
    (htmlOpen_html _ (by decide +kernel)) .nil ?_
  rw [doc3]
  repeat rw [ofString_ofList]
  decide +kernel
example : leafOfH doc3 0 = (some mimeTextHtml, ofString "shift_jis") := by
  rw [doc3]
  repeat rw [ofString_ofList]
  decide +kernel
example : noRival doc3 0 = true := by
  rw [doc3]
  repeat rw [ofString_ofList]
  decide +kernel

/- `html_pragma_detected`, `http-equiv` first, unquoted lower-case `content-type`, a utf-16 label:
   utf-8 is reported, as WHATWG prescribes -/
def doc4 : Bytes := ofString "<html><meta http-equiv=content-type content='text/html;charset=UTF-16LE'>"

example : HtmlOutcome doc4 0 (ofString "utf-8") := by
  refine html_pragma_detected_of_side true doc4 0 (tagText (ofString "html") [] []) [] (ofString "meta") [0x20]
    ⟨ofString "http-equiv", .bare, ofString "content-type", [0x20]⟩
    ⟨ofString "content", .sq, ofString "text/html;charset=UTF-16LE", []⟩
    [] [] [] [] _
    (htmlOpen_html _ (by decide +kernel)) .nil ?_
  rw [doc4]
  repeat rw [ofString_ofList]
  decide +kernel
example : leafOfH doc4 0 = (some mimeTextHtml, ofString "utf-8") := by
  rw [doc4]
  repeat rw [ofString_ofList]
  decide +kernel

/-- `v1`, `v2`: the decoded values of `http-equiv` and `content`, evaluated through `attrVal_eq_fast` -/
theorem html_pragma_detected_refs_of_side (order : Bool) (doc : Bytes) (lim : Nat) (O P nm ws0 : Bytes) (p1 p2 : AttrSrc × EqWs)
    (pre mid post : List (AttrSrc × EqWs)) (rest v1 v2 result : Bytes) (hO : HtmlOpen O) (hP : PrologueR P)
    (h : header doc lim = O ++ P ++ tagTextW nm ws0 (pragmaAttrs order p1 p2 pre mid post) ++ rest ∧
      lowerASCII nm = kMeta ∧ (∀ x ∈ ws0, isWS x = true) ∧ ws0 ≠ [] ∧
      lowerASCII p1.1.key = kHttpEquiv ∧ lowerASCII p2.1.key = kContent ∧
      unescapeL entityFast true (convNL p1.1.val) = v1 ∧ unescapeL entityFast true (convNL p2.1.val) = v2 ∧
      lowerASCII v1 = kContentType ∧ fromMetaElement (lowerASCII v2) ≠ [] ∧
      attrsWf (plainAttrs (pragmaAttrs order p1 p2 pre mid post)) ∧ (∀ p ∈ pragmaAttrs order p1 p2 pre mid post, p.2.ok) ∧
      (∀ p ∈ pre, inertKey p.1.key) ∧ (∀ p ∈ mid, inertKey p.1.key) ∧ (∀ p ∈ post, inertKey p.1.key) ∧
      Cust.text (header doc lim) = true ∧ finalLabel (fromMetaElement (lowerASCII v2)) = result) :
    HtmlOutcome doc lim result := by
  obtain ⟨h1, h2, h3, h4, h5, h6, e1, e2, h7, h8, h9, h10, h11, h12, h13, h14, rfl⟩ := h
  rw [← attrVal_eq_fast] at e1 e2
  subst e1 e2
  exact html_pragma_detected_refs order doc lim O P nm ws0 p1 p2 pre mid post rest h1 hO hP h2 h3 h4 h5 h6 h7 h8 h9 h10 h11 h12
    h13 h14

/- `html_pragma_detected_refs`: character references in BOTH values that are read, white space
   around one `=`: `Content&#45;Type`, `text/html&semi; charset&equals;koi8-u` -/
def doc5 : Bytes :=
  ofString "<html><meta http-equiv=\"Content&#45;Type\" content = \"text/html&semi; charset&equals;koi8-u\">"

example : HtmlOutcome doc5 0 (ofString "koi8-u") := by
  refine html_pragma_detected_refs_of_side true doc5 0 (tagText (ofString "html") [] []) [] (ofString "meta") [0x20]
    (⟨ofString "http-equiv", .dq, ofString "Content&#45;Type", [0x20]⟩, EqWs.none)
    (⟨ofString "content", .dq, ofString "text/html&semi; charset&equals;koi8-u", []⟩, ⟨[0x20], [0x20]⟩)
    [] [] [] [] (ofString "Content-Type") (ofString "text/html; charset=koi8-u") _
    (htmlOpen_html _ (by decide +kernel)) .nil ?_
  rw [doc5]
  repeat rw [ofString_ofList]
  decide +kernel
example : leafOfH doc5 0 = (some mimeTextHtml, ofString "koi8-u") := by
  rw [doc5]
  repeat rw [ofString_ofList]
  decide +kernel

/- `html_bom_beats_meta`: behind a UTF-8 BOM the declared koi8-r is ignored -/
def doc6 : Bytes := [0xEF, 0xBB, 0xBF] ++ ofString "<html><meta charset=koi8-r>"

example : HtmlOutcome doc6 0 csUtf8 :=
  html_bom_beats_meta doc6 0 (ofString "html") [] (ofString "meta") (ofString "charset") .bare (ofString "koi8-r") []
    (by decide +kernel) (by decide +kernel)
example : csUtf8 = ofString "utf-8" := by decide +kernel
example : leafOfH doc6 0 = (some mimeTextHtml, ofString "utf-8") := by
  rw [doc6]
  repeat rw [ofString_ofList]
  decide +kernel
example : noRival doc6 0 = true := by
  rw [doc6]
  repeat rw [ofString_ofList]
  decide +kernel
/- without the BOM: koi8-r -/
example : leafOfH (ofString "<html><meta charset=koi8-r>") 0 = (some mimeTextHtml, ofString "koi8-r") := by
  repeat rw [ofString_ofList]
  decide +kernel

/- `html_bom16_not_html`: the same document behind a UTF-16 / UTF-32 BOM, and a genuine UTF-16LE
   `<html>`: text/plain with the BOM's charset — the library never calls them HTML -/
example : leafOfH ([0xFE, 0xFF] ++ ofString "<html><meta charset=koi8-r>") 0 = (some mimeTextPlain, ofString "utf-16be") := by
  repeat rw [ofString_ofList]
  decide +kernel
example : leafOfH ([0xFF, 0xFE] ++ ofString "<html><meta charset=koi8-r>") 0 = (some mimeTextPlain, ofString "utf-16le") := by
  repeat rw [ofString_ofList]
  decide +kernel
example : leafOfH ([0, 0, 0xFE, 0xFF] ++ ofString "<html><meta charset=koi8-r>") 0 = (some mimeTextPlain, ofString "utf-32be") := by
  repeat rw [ofString_ofList]
  decide +kernel
example : leafOfH [0xFF, 0xFE, 60, 0, 104, 0, 116, 0, 109, 0, 108, 0, 62, 0] 0 = (some mimeTextPlain, ofString "utf-16le") := by
  repeat rw [ofString_ofList]
  decide +kernel
example (r : Bytes) (lim : Nat) (leaf : Info) (h : (Mime.detect Closed.ext Gen.builtin (0xFE :: 0xFF :: r) lim).chain.head? = some leaf) :
    leaf.mime ≠ mimeTextHtml :=
  html_bom16_not_html 0xFE _ lim leaf (by decide) (by decide) (by decide) h

theorem html_fake_meta_ignored_detected_of_side (doc : Bytes) (lim : Nat) (htmlNm c s t L rest result : Bytes)
    (h : header doc lim = tagText htmlNm [] [] ++
        (commentText c ++ (tagText kScript [] [] ++ s ++ endTagText kScript [] ++
          (tagText kTitle [] [] ++ t ++ endTagText kTitle []))) ++
        tagText kMeta [0x20] [charsetAttr kwCharset .dq L []] ++ rest ∧
      lowerASCII htmlNm = kHtml ∧ commentBodyOk c = true ∧ scriptBodyOk s = true ∧ rawBodyOk kTitle t = true ∧
      L ≠ [] ∧ (∀ x ∈ L, tokenChar x = true) ∧ Cust.text (header doc lim) = true ∧ norm L = result) :
    HtmlOutcome doc lim result := by
  obtain ⟨h1, h2, h3, h4, h5, h6, h7, h8, rfl⟩ := h
  exact html_fake_meta_ignored_detected doc lim htmlNm c s t L rest h1 h2 h3 h4 h5 h6 h7 h8

/- `html_fake_meta_ignored_detected`: three fake declarations, then the real one -/
def doc7 : Bytes := ofString
  "<html><!--<meta charset=f1>--><script><meta charset=f2></script><title><meta charset=f3></title><meta charset=\"koi8-r\">"

example : HtmlOutcome doc7 0 (ofString "koi8-r") := by
  refine html_fake_meta_ignored_detected_of_side doc7 0 (ofString "html") (ofString "<meta charset=f1>")
    (ofString "<meta charset=f2>") (ofString "<meta charset=f3>") (ofString "koi8-r") [] _ ?_
  rw [doc7]
  repeat rw [ofString_ofList]
  decide +kernel
example : leafOfH doc7 0 = (some mimeTextHtml, ofString "koi8-r") := by
  rw [doc7]
  repeat rw [ofString_ofList]
  decide +kernel
example : noRival doc7 0 = true := by
  rw [doc7]
  repeat rw [ofString_ofList]
  decide +kernel

/- "located inside the examined header": with the limit right behind the `>` of the meta tag the theorem
   applies to the 27-byte header (`rest = []`) … -/
def doc8 : Bytes := ofString "<html><meta charset=koi8-r>" ++ [0xC5, 0x91] ++ ofString "xxxxxxxx"

example : HtmlOutcome doc8 27 (ofString "koi8-r") := by
  refine html_charset_detected_general_of_side doc8 27 (tagText (ofString "html") [] []) [] (ofString "meta") [0x20]
    [] [] (ofString "charset") .bare (ofString "koi8-r") [] []
    (htmlOpen_html _ (by decide +kernel)) .nil ?_
  rw [doc8]
  repeat rw [ofString_ofList]
  decide +kernel
example : leafOfH doc8 27 = (some mimeTextHtml, ofString "koi8-r") := by
  rw [doc8]
  repeat rw [ofString_ofList]
  decide +kernel
/- … and one byte earlier the tag is cut off, not reported by the tokenizer, and the bytes are sniffed -/
example : leafOfH doc8 26 = (some mimeTextHtml, ofString "utf-8") := by
  rw [doc8]
  repeat rw [ofString_ofList]
  decide +kernel

/- `html_detected_core` with a document that declares nothing: the plain-text guess -/
example : HtmlOutcome (ofString "<html><p>\xC5\x91") 0 (ofString "utf-8") :=
  html_detected_core (ofString "<html><p>\xC5\x91") 0 (tagText (ofString "html") [] []) (ofString "<p>\xC5\x91")
    (ofString "utf-8") (by decide +kernel) (htmlOpen_html _ (by decide +kernel)) (by decide +kernel) (by decide +kernel)

/- What the hypotheses exclude (every output below agrees with the library itself). -/

/- `HtmlTagOk`: the byte behind `<html` must be `>` or a SPACE.  `<html` followed by a line break or a
   TAB — legal HTML, and what a formatter produces for a long attribute list — is not text/html for
   the library, and the declared charset is lost: text/plain; charset=utf-8 for a koi8-r document -/
example : leafOfH (ofString "<html\n lang=en><meta charset=koi8-r>") 0 = (some mimeTextPlain, ofString "utf-8") := by
  repeat rw [ofString_ofList]
  decide +kernel
example : leafOfH (ofString "<html\tlang=en><meta charset=koi8-r>") 0 = (some mimeTextPlain, ofString "utf-8") := by
  repeat rw [ofString_ofList]
  decide +kernel
example : leafOfH (ofString "<html lang=en><meta charset=koi8-r>") 0 = (some mimeTextHtml, ofString "koi8-r") := by
  repeat rw [ofString_ofList]
  decide +kernel

/- "surrounding whitespace": white space around `=` is covered (doc2, doc5).  White space INSIDE the
   quotes is part of the value: `html_charset_detected_general` applies (`L = " utf-8 "`) and says the
   reported parameter is `" utf-8 "` with the blanks — the library does not strip them (WHATWG's "get an
   encoding" strips leading and trailing ASCII white space from the label).  Same in the pragma form
   when the label is quoted inside `content` -/
example : leafOfH (ofString "<html><meta charset=\" utf-8 \">") 0 = (some mimeTextHtml, ofString " utf-8 ") := by
  repeat rw [ofString_ofList]
  decide +kernel
example : norm (ofString " utf-8 ") = ofString " utf-8 " := by decide +kernel
example : leafOfH (ofString "<html><meta http-equiv=Content-Type content=\"text/html; charset=' utf-8 '\">") 0 =
    (some mimeTextHtml, ofString " utf-8 ") := by
  repeat rw [ofString_ofList]
  decide +kernel
/- an unquoted label inside `content` is delimited by white space, so there it is stripped -/
example : leafOfH (ofString "<html><meta http-equiv=Content-Type content=\"text/html; charset = utf-8 \">") 0 =
    (some mimeTextHtml, ofString "utf-8") := by
  repeat rw [ofString_ofList]
  decide +kernel

/- `hL`: an empty label declares nothing, the bytes are sniffed -/
example : leafOfH (ofString "<html><meta charset=\"\">") 0 = (some mimeTextHtml, ofString "utf-8") := by
  repeat rw [ofString_ofList]
  decide +kernel

/- `htext`: one binary-data byte anywhere in the header and the document is not text at all … -/
example : leafOfH (ofString "<html><meta charset=koi8-r>" ++ [0]) 0 = (some mimeOctet, []) := by
  repeat rw [ofString_ofList]
  decide +kernel
/- … unless it starts with a BOM: `Text` returns true on a BOM without looking further
   (`html_bom_detected` has no `htext` hypothesis) -/
example : leafOfH ([0xEF, 0xBB, 0xBF] ++ ofString "<html><meta charset=koi8-r>" ++ [0]) 0 = (some mimeTextHtml, ofString "utf-8") := by
  repeat rw [ofString_ofList]
  decide +kernel

/- the rival disjunct is real: `BOOKMOBI` at offset 60 of an HTML document -/
example : leafOfH (ofString "<html><meta charset=koi8-r><!-- xxxxxxxxxxxxxxxxxxxxxxxxxxxxBOOKMOBI -->") 0 =
    (some (ofString "application/x-mobipocket-ebook"), []) := by
  repeat rw [ofString_ofList]
  decide +kernel
example : noRival (ofString "<html><meta charset=koi8-r><!-- xxxxxxxxxxxxxxxxxxxxxxxxxxxxBOOKMOBI -->") 0 = false := by
  repeat rw [ofString_ofList]
  decide +kernel

end Mime.C12
