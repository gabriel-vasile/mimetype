import MimeModel.Props.C10
import MimeModel.Lemmas.DetectText
/-
  C10 through `Detect`: on a whole RFC 8259 document the *reported leaf* is GeoJSON, HAR, glTF or
  plain JSON according to isGeo / isHar / isGltf of the syntax tree, with the precedence
  geo > har > gltf — unless a format with priority over `application/json` accepts the header.
-/
namespace Mime.C10
open Mime Mime.Json Mime.Gen.Json Mime.Spec Mime.Tree Mime.WalkPath Mime.JsonClean
open Mime.DetectSound Mime.DetectPath Mime.DetectText

abbrev isNamed := C08.isNamed

/-- root → text/plain → application/json -/
def jsonPath : List (Tree Info → Bool) := [isNamed "text", isNamed "json"]

/-- regenerated: the formats consulted before `application/json`, by node name: the root formats
    in front of text/plain, then html, svg, xml, php and the shebang languages -/
theorem json_rivals :
    (rivals jsonPath Gen.builtin).map (·.info.name) =
      (Gen.builtin.children.takeWhile (fun x => !isNamed "text" x)).map (·.info.name) ++
      ["html", "svg", "xml", "php", "js", "lua", "perl", "python"] := by
  rw [jsonPath, rivals_text C08.json_found, List.map_append, C08.json_priority]

/-- regenerated: the children of `json` are the three leaves geoJSON, har, gltf, in this order -/
theorem json_children :
    C08.jsonNode.children.map (fun c => (c.info.name, c.info.det, c.children.length)) =
      [("geoJSON", .custom .geojson, 0), ("har", .custom .har, 0), ("gltf", .custom .gltf, 0)] := by
  decide +kernel

/-- the three sub-formats want an object: none accepts an input whose first non-space byte is `[` -/
theorem array_no_subtype (ext : Ext) {raw : Bytes} (lim : Nat) (cs : Bytes) (hsk : J.skipWs raw = 0x5B :: cs) :
    ∀ c ∈ C08.jsonNode.children, accepts ext raw lim c.info = false := by
  have hrej : ∀ qs, jsonHelper raw lim qs tokObject = false := fun qs => by
    rw [C10Base.jsonHelper_run qs raw lim 0x5B cs hsk (Or.inr rfl) rfl, show (0x5B == 0x7B) = false from rfl,
      Bool.and_false, Bool.false_and]
  intro c hc
  have hd := List.mem_map_of_mem (f := fun c : Tree Info => (c.info.name, c.info.det, c.children.length)) hc
  rw [json_children] at hd
  simp only [List.mem_cons, Prod.mk.injEq, List.not_mem_nil, or_false] at hd
  rcases hd with h | h | h
  · rw [accepts_custom_total ext raw lim _ .geojson _ h.2.1 rfl, hrej]
  · rw [accepts_custom_total ext raw lim _ .har _ h.2.1 rfl, hrej]
  · rw [accepts_custom_total ext raw lim _ .gltf _ h.2.1 rfl, hrej]

/-- which leaf the three verdicts select below `json` -/
def pick (g h t : Bool) (json geo har gltf : Info) : Info :=
  if g then geo else if h then har else if t then gltf else json

theorem walk_three (acc : Info → Bool) (n a b c : Tree Info) (hn : n.children = [a, b, c])
    (ha : a.children = []) (hb : b.children = []) (hc : c.children = []) :
    (walk acc n).getLast? = some (pick (acc a.info) (acc b.info) (acc c.info) n.info a.info b.info c.info) := by
  rw [walk_unfold, hn, walkList, walkList, walkList, walkList, walk_unfold acc a, walk_unfold acc b,
    walk_unfold acc c, ha, hb, hc, walkList, pick]
  cases acc a.info
  · cases acc b.info
    · cases acc c.info <;> rfl
    · rfl
  · rfl

/-- **C10 through `Detect` (whole documents)**: the leaf reported for an RFC 8259 document examined
    in full is the GeoJSON / HAR / glTF / JSON node chosen by isGeo, isHar, isGltf of its syntax
    tree in this order of precedence, for every behaviour of the unmodelled detectors — unless a
    format consulted before `application/json` (`json_rivals`) accepts the document -/
theorem detect_subtype_whole (ext : Ext) (D : Bytes) (v : J.JVal) (lim : Nat)
    (hdoc : J.doc true D = some v) (hdepth : J.depth v ≤ maxRecursion) (hwhole : lim = 0 ∨ D.length < lim) :
    (∃ geo har gltf : Info,
        C08.jsonNode.children.map (·.info) = [geo, har, gltf] ∧
        (detect ext Gen.builtin D lim).chain.head? =
          some (pick (J.isGeo v) (J.isHar v) (J.isGltf v) C08.jsonNode.info geo har gltf)) ∨
    (∃ d ∈ rivals jsonPath Gen.builtin, accepts ext D lim d.info = true) := by
  have hacc_json : accepts ext D lim C08.jsonNode.info = true := by
    rw [C08.accepts_json ext _ lim C08.node_dets.2]
    exact C08.strict_accepts_whole D v lim hdoc hdepth hwhole
  refine (walk_along (accepts ext D lim) jsonPath Gen.builtin C08.jsonNode (descend_text C08.json_found)
    (accepted_text ext D lim C08.json_found (C08.text_of_good (doc_good D v hdoc)) hacc_json)).imp_left
    (fun hw => ?_)
  obtain ⟨sg, sh, st⟩ := C10Base.subtypes_whole D v lim hdoc hdepth hwhole
  obtain ⟨a, _, hcs, ha, h⟩ := List.map_eq_cons_iff.1 json_children
  obtain ⟨b, _, rfl, hb, h⟩ := List.map_eq_cons_iff.1 h
  obtain ⟨c, _, rfl, hc, h⟩ := List.map_eq_cons_iff.1 h
  cases List.map_eq_nil_iff.1 h
  simp only [Prod.mk.injEq, List.length_eq_zero_iff] at ha hb hc
  refine ⟨a.info, b.info, c.info, by rw [hcs]; rfl, ?_⟩
  rw [chain_eq, header_whole D lim (hwhole.imp_right Nat.le_of_lt), List.head?_reverse, hw,
    List.getLast?_append, walk_three _ _ a b c hcs ha.2.2 hb.2.2 hc.2.2,
    accepts_custom_total ext D lim _ .geojson _ ha.2.1 rfl, accepts_custom_total ext D lim _ .har _ hb.2.1 rfl,
    accepts_custom_total ext D lim _ .gltf _ hc.2.1 rfl, sg, sh, st]
  rfl

end Mime.C10
