import MimeModel.Props.C03
/-
  C03, last clause: "a format is only ever consulted after all of its ancestors matched".
  `walkTrace` (Model/Tree.lean) is the walk instrumented with the detectors it consults, in
  order.  Every consulted node is a child of a node on the walked path — whose detectors all
  accepted (`ancestors_accept`) — and below each path node the consulted children are exactly
  the children up to and including the first accepting one, in priority order.
-/
namespace Mime.C03
open Mime Mime.Tree

variable {α : Type}

mutual
/-- the sub-trees along the walked path, root first (`walk` = their payloads) -/
def walkNodes (acc : α → Bool) : Tree α → List (Tree α)
  | .node a cs => .node a cs :: walkNodesList acc cs
def walkNodesList (acc : α → Bool) : List (Tree α) → List (Tree α)
  | [] => []
  | c :: cs => if acc c.info then walkNodes acc c else walkNodesList acc cs
end

mutual
theorem walkNodes_info (acc : α → Bool) : ∀ t : Tree α, (walkNodes acc t).map (·.info) = walk acc t
  | .node a cs => by
    have := walkNodesList_info acc cs
    simp only [walkNodes, walk, List.map_cons]
    rw [this]
    rfl
theorem walkNodesList_info (acc : α → Bool) : ∀ cs : List (Tree α), (walkNodesList acc cs).map (·.info) = walkList acc cs
  | [] => rfl
  | c :: cs => by
    simp only [walkNodesList, walkList]
    split
    · exact walkNodes_info acc c
    · exact walkNodesList_info acc cs
end

/-- the children consulted below a node: up to and including the first one that accepts -/
def consultedOf (acc : α → Bool) : List (Tree α) → List (α × Bool)
  | [] => []
  | c :: cs => if acc c.info then [(c.info, true)] else (c.info, false) :: consultedOf acc cs

mutual
/-- **the trace is the concatenation, along the walked path, of the children consulted below each
    path node** -/
theorem trace_eq (acc : α → Bool) : ∀ t : Tree α,
    walkTrace acc t = ((walkNodes acc t).map (fun p => consultedOf acc p.children)).flatten
  | .node a cs => by
    simp only [walkTrace, walkNodes, List.map_cons, List.flatten_cons, Tree.children]
    exact traceList_eq acc cs
theorem traceList_eq (acc : α → Bool) : ∀ cs : List (Tree α),
    walkTraceList acc cs = consultedOf acc cs ++ ((walkNodesList acc cs).map (fun p => consultedOf acc p.children)).flatten
  | [] => rfl
  | c :: cs => by
    simp only [walkTraceList, walkNodesList, consultedOf]
    split
    · rw [trace_eq acc c]; rfl
    · rw [traceList_eq acc cs]; rfl
end

theorem consultedOf_mem (acc : α → Bool) : ∀ (cs : List (Tree α)) (e : α × Bool), e ∈ consultedOf acc cs →
    ∃ c ∈ cs, c.info = e.1 ∧ acc c.info = e.2 := by
  intro cs
  induction cs with
  | nil => intro e h; simp [consultedOf] at h
  | cons c cs ih =>
    intro e h
    simp only [consultedOf] at h
    split at h
    · rename_i hc
      simp only [List.mem_singleton] at h
      subst h
      exact ⟨c, by simp, rfl, hc⟩
    · rename_i hc
      simp only [List.mem_cons] at h
      rcases h with rfl | h
      · exact ⟨c, by simp, rfl, by simpa using hc⟩
      · obtain ⟨d, hd, h1, h2⟩ := ih e h
        exact ⟨d, by simp [hd], h1, h2⟩

/-- **C03 (consulted only below the walked path)**: every detector call the walk makes is for a
    child of a node on the walked path (the root, or a node whose own detector accepted, as did
    all its ancestors: `ancestors_accept`), and the recorded verdict is that detector's verdict -/
theorem consulted_only_below_path (acc : α → Bool) (t : Tree α) (e : α × Bool) (h : e ∈ walkTrace acc t) :
    ∃ p ∈ walkNodes acc t, ∃ c ∈ p.children, c.info = e.1 ∧ acc c.info = e.2 := by
  rw [trace_eq] at h
  simp only [List.mem_flatten, List.mem_map] at h
  obtain ⟨l, ⟨p, hp, rfl⟩, he⟩ := h
  obtain ⟨c, hc, h1, h2⟩ := consultedOf_mem acc p.children e he
  exact ⟨p, hp, c, hc, h1, h2⟩

/-- below a path node the consulted children are a prefix of its children in priority order:
    everything before the first accepting child (all rejected) and then that child -/
theorem consultedOf_prefix (acc : α → Bool) : ∀ cs : List (Tree α),
    (consultedOf acc cs).map (·.1) = ((cs.takeWhile (fun c => !acc c.info)) ++ (cs.find? (fun c => acc c.info)).toList).map (·.info) := by
  intro cs
  induction cs with
  | nil => rfl
  | cons c cs ih =>
    simp only [consultedOf, List.takeWhile, List.find?]
    cases hc : acc c.info with
    | true => simp
    | false => simp [ih]

/-- the nodes on the walked path other than the start all accepted (restating `ancestors_accept`
    for the sub-trees) -/
theorem path_nodes_accept (acc : α → Bool) (t : Tree α) : ∀ p ∈ (walkNodes acc t).tail, acc p.info = true := by
  intro p hp
  have h1 : p.info ∈ ((walkNodes acc t).tail).map (·.info) := List.mem_map.mpr ⟨p, hp, rfl⟩
  rw [List.map_tail, walkNodes_info] at h1
  exact ancestors_accept acc t p.info h1

/- non-vacuity: a three-level tree; the accepted first child hides its sibling -/
example : walkTrace (fun n : Nat => n % 2 == 1) (.node 0 [.node 2 [.node 9 []], .node 3 [.node 4 [], .node 5 []], .node 7 []]) =
    [(2, false), (3, true), (4, false), (5, true)] := by decide +kernel

end Mime.C03
