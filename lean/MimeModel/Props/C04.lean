import MimeModel.Model.Detect
import MimeModel.Lemmas.DetectTie
import MimeModel.Gen.Writes
/-
  C04 — detection is a pure function of the examined header.
-/
namespace Mime.C04
open Mime Mime.Json Mime.Gen.Json

/-- **regenerated obligation**: every field of the pooled parser state is re-initialised
    by `reset`, except the recursion cap, which is installed once by the pool constructor
    and never assigned again (`capWrites = []`: no assignment to the field and no store through a
    `*parserState` pointer), and no parser state is built outside the pool constructor
    (`parserStateLiterals = 1`): every pooled state carries the cap, whatever its history -/
theorem reset_clears_all :
    parserFields.all (fun f => (resetAssigns.map (·.1)).contains f || f == "maxRecursion") = true ∧
    resetAssigns = [("ib", "0"), ("currPath", "p.currPath[0:0]"), ("firstToken", "TokInvalid"),
                    ("querySatisfied", "false"), ("complete", "false")] ∧
    capWrites = [] ∧ parserStateLiterals = 1 ∧ poolCtor = [("maxRecursion", "maxRecursion")] := by decide +kernel

/-- **pool independence**: whatever state a pooled parser was left in by earlier
    detections (any counters, any path stack, any flags), `Parse` gives the same result
    as on a fresh one -/
theorem parse_pool_independent (s : PState) (cap : Nat) (qs : List Query) (raw : Bytes) :
    parseWith s cap qs raw = parseWith PState.fresh cap qs raw := rfl

/-- a pool: the states that were put back.  `Get` may return any of them or a new one;
    the choice is made by an arbitrary oracle. -/
def runHistory (choose : List PState → Nat → PState) (cap : Nat) :
    List (List Query × Bytes) → List PState → Nat → List ParseResult
  | [], _, _ => []
  | (qs, raw) :: rest, pool, k =>
    let s := choose pool k
    parseWith s cap qs raw :: runHistory choose cap rest (s :: pool) (k + 1)

/-- **history independence**: for every finite sequence of earlier parses and every
    behaviour of the pool, each result equals the result of a parse on a fresh state -/
theorem pool_history (choose : List PState → Nat → PState) (cap : Nat) (calls : List (List Query × Bytes))
    (pool : List PState) (k : Nat) :
    runHistory choose cap calls pool k = calls.map (fun c => parseWith PState.fresh cap c.1 c.2) := by
  induction calls generalizing pool k with
  | nil => rfl
  | cons c cs ih =>
    obtain ⟨qs, raw⟩ := c
    simp only [runHistory, List.map_cons, ih]
    rfl

/-- **only the header counts**: bytes beyond the limit never change the answer -/
theorem detect_prefix (ext : Ext) (T : Tree Info) (x : Bytes) (lim : Nat) :
    (detect ext T x lim).chain = (detect ext T (header x lim) lim).chain ∧
    (detect ext T x lim).charset = (detect ext T (header x lim) lim).charset := by
  simp [detect, header_idem]

theorem detect_beyond_limit (ext : Ext) (T : Tree Info) (x y : Bytes) (lim : Nat) (hl : lim ≠ 0)
    (h : x.take lim = y.take lim) :
    (detect ext T x lim).chain = (detect ext T y lim).chain ∧ (detect ext T x lim).charset = (detect ext T y lim).charset := by
  simp [detect, header, hl, h]

/-- **regenerated obligation**: the only stores through an index expression in the four
    detection packages are `attrList[ks] = true` (a local map) and `val[i] = c + 0x20` in
    `fromHTML`, where `val` is the tokenizer's private copy of the attribute value — no
    function writes through `raw` / `in` / `content`, and there is no `copy()` -/
theorem no_input_writes :
    Gen.Writes.indexWrites = ["charset.fromHTML:attrList[ks]", "charset.fromHTML:val[i]"] := by decide +kernel

/-- **regenerated obligation**: the only package-level variables of the four detection packages
    that are not node / signature constructions — i.e. the only places where anything could
    survive from one detection to the next — are the two read-only tables of charset.go, the
    query table, the limit with its default, the tree lock, and the two pools (whose contents are
    re-initialised on every use: `reset_clears_all`, `bufio.Reader.Reset`).  A new cache, memo
    table or pooled buffer shows up here -/
theorem no_hidden_state :
    Gen.Writes.stateVars = ["charset.boms=composite:<*ast.ArrayType>", "charset.textChars=composite:<*ast.ArrayType>",
      "json.parserPool=composite:sync.Pool", "json.queries=composite:<*ast.MapType>", "magic.readerPool=composite:sync.Pool",
      "mimetype.defaultLimit=value", "mimetype.mu=composite:sync.RWMutex", "mimetype.readLimit=value"] := by decide +kernel

/- non-vacuity: a dirty pooled state (deep path, satisfied query) gives the fresh answer -/
example : parseWith { ib := 99, currPath := [[1], [2]], firstToken := 128, querySatisfied := true }
    4096 q_geo [0x7B, 0x7D] = parseWith PState.fresh 4096 q_geo [0x7B, 0x7D] := rfl

/-- regenerated tie: `Detect` / `DetectReader` load the limit once, atomically (see Lemmas/DetectTie.lean) -/
theorem tie_single_limit : Mime.DetectTie.SingleLimit := Mime.DetectTie.single_limit

end Mime.C04
