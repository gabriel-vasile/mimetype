import MimeModel.Props.C03
import MimeModel.Lemmas.DetectTie
import MimeModel.Lemmas.Sig
import MimeModel.Gen.Tree
/-
  C17 — raising the read limit never loses a binary identification (built-in tree).

  Every root-level signature check except `text` (tried last) and `ttf` is *monotone*:
  once it accepts a header it accepts every extension of that header.  For translated
  checks this is the static analysis `BExp.pT` (proved sound in Lemmas/Sig.lean); for the
  four hand-modelled ones it is proved here.  `ttf` hands over to the Access formats.
-/
namespace Mime.C17
open Mime Mime.Tree Mime.Cust

/-- monotonicity certificate of a root-level detector -/
def monoCert : Det → Bool
  | .expr e => e.safe 0 && e.pT
  | .custom .tar => true
  | .custom .crx => true
  | .custom .webm => true
  | .custom .mkv => true
  | _ => false

theorem tar_mono (p s : Bytes) (h : tar p = true) : tar (p ++ s) = true := by
  unfold tar at h ⊢
  by_cases hl : p.length < 512
  · simp [hl] at h
  · have hl2 : ¬ (p ++ s).length < 512 := by simp; omega
    simp only [hl, ↓reduceIte] at h
    simp only [hl2, ↓reduceIte]
    rw [List.take_append_of_le_length (by omega)]
    exact h

theorem getB_append (p s : Bytes) (i : Nat) (v : Nat) (h : getB p i = some v) : getB (p ++ s) i = some v := by
  unfold getB at h ⊢
  split at h
  · rename_i hi
    have : i < (p ++ s).length := by simp; omega
    simp only [this, ↓reduceIte]
    rw [getD_append_left p s i hi]; exact h
  · cases h

/-- regenerated fact: `Zip` is a safe, monotone expression -/
theorem zip_expr_mono : ∃ e, Gen.d_Zip = .expr e ∧ e.safe 0 = true ∧ e.pT = true := ⟨_, rfl, by decide +kernel, by decide +kernel⟩

theorem crx_mono (p s : Bytes) (hlen : (p ++ s).length < 4294967296) (h : crx p = some true) :
    crx (p ++ s) = some true := by
  unfold crx at h ⊢
  by_cases hg : (decide (p.length < 16) || !hasPrefix p [0x43, 0x72, 0x32, 0x34]) = true
  · simp [hg] at h
  · simp only [hg, Bool.false_eq_true, ↓reduceIte] at h
    have hg' : p.length ≥ 16 ∧ hasPrefix p [0x43, 0x72, 0x32, 0x34] = true := by
      simp only [Bool.or_eq_true, decide_eq_true_eq, Bool.not_eq_true', not_or, Nat.not_lt, Bool.not_eq_false] at hg
      exact hg
    have hg2 : (decide ((p ++ s).length < 16) || !hasPrefix (p ++ s) [0x43, 0x72, 0x32, 0x34]) = false := by
      simp only [Bool.or_eq_false_iff, decide_eq_false_iff_not, Nat.not_lt, Bool.not_eq_false']
      exact ⟨by simp; omega, hasPrefix_append s hg'.2⟩
    simp only [hg2, Bool.false_eq_true, ↓reduceIte]
    rw [getU32le_isSome (by omega), getU32le_isSome (by omega)] at h
    rw [getU32le_isSome (by simp; omega), getU32le_isSome (by simp; omega),
      (u32_append p s 8 (by omega)).2, (u32_append p s 12 (by omega)).2]
    simp only at h ⊢
    generalize (16 + u32le p 8 + u32le p 12) % 4294967296 = off at h ⊢
    by_cases h1 : p.length % 4294967296 < off
    · simp [h1] at h
    · simp only [h1, ↓reduceIte] at h
      have hoff : off ≤ p.length := by have := Nat.mod_le p.length 4294967296; omega
      have h2 : ¬ ((p ++ s).length % 4294967296 < off) := by
        rw [Nat.mod_eq_of_lt hlen]; simp; omega
      simp only [h2, ↓reduceIte]
      simp only [hoff, ↓reduceIte] at h
      have h3 : off ≤ (p ++ s).length := by simp; omega
      simp only [h3, ↓reduceIte]
      rw [List.drop_append_of_le_length hoff]
      obtain ⟨e, he, hs, hp⟩ := zip_expr_mono
      rw [he] at h ⊢
      simp only [evalExpr] at h ⊢
      exact (BExp.preserve e 0 _ s hs (Nat.zero_le _)).1 hp h

theorem matroska_mono (fl p s : Bytes) (h : matroska p fl = some true) : matroska (p ++ s) fl = some true := by
  unfold matroska at h ⊢
  by_cases hp : hasPrefix p [0x1A, 0x45, 0xDF, 0xA3] = true
  · have hp2 := hasPrefix_append s hp
    simp only [hp, Bool.not_true, Bool.false_eq_true, ↓reduceIte] at h
    simp only [hp2, Bool.not_true, Bool.false_eq_true, ↓reduceIte]
    cases hi : indexOf [0x42, 0x82] (p.take 4096) with
    | none => simp [hi] at h
    | some ind =>
      simp only [hi] at h
      have hi2 : indexOf [0x42, 0x82] ((p ++ s).take 4096) = some ind := by
        rw [List.take_append]
        exact indexOf_append_some _ _ _ _ hi
      simp only [hi2]
      by_cases hc : (decide (ind > 0) && decide (p.length > ind + 2)) = true
      · simp only [hc, ↓reduceIte] at h
        have hc' : ind > 0 ∧ p.length > ind + 2 := by simpa using hc
        have hc2 : (decide (ind > 0) && decide ((p ++ s).length > ind + 2)) = true := by
          simp; omega
        simp only [hc2, ↓reduceIte]
        cases hg : getB p (ind + 2) with
        | none => simp [hg] at h
        | some v =>
          simp only [hg] at h
          rw [getB_append p s (ind + 2) v hg]
          simp only
          by_cases hn : p.length > ind + 2 + vintWidth v
          · simp only [hn, ↓reduceIte] at h
            have hn2 : (p ++ s).length > ind + 2 + vintWidth v := by simp; omega
            simp only [hn2, ↓reduceIte]
            have h1 : ind + 2 + vintWidth v ≤ p.length := by omega
            have h2 : ind + 2 + vintWidth v ≤ (p ++ s).length := by omega
            simp only [h1, ↓reduceIte, Option.some.injEq] at h
            simp only [h2, ↓reduceIte, Option.some.injEq]
            rw [List.drop_append_of_le_length h1]
            exact hasPrefix_append s h
          · simp [hn] at h
      · simp [hc] at h
  · simp [hp] at h

/-- **monotone root checks**: a certified root-level check that accepts `p` accepts every
    extension `p ++ s` (headers are shorter than 4 GiB: the limit is a `uint32`) -/
theorem accepts_mono (ext : Ext) (d : Det) (hc : monoCert d = true) (p s : Bytes) (l1 l2 : Nat)
    (hlen : (p ++ s).length < 4294967296)
    (h : detEval ext.cust d p l1 = some true) : detEval ext.cust d (p ++ s) l2 = some true := by
  unfold detEval at h ⊢
  cases d with
  | expr e =>
    simp only [monoCert, Bool.and_eq_true] at hc
    exact (BExp.preserve e 0 p s hc.1 (Nat.zero_le _)).1 hc.2 h
  | custom c =>
    cases c with
    | tar =>
      simp only [Det.evalWith, custEval, customModel, Option.some.injEq] at h ⊢
      exact tar_mono p s h
    | crx =>
      simp only [Det.evalWith, custEval, customModel] at h ⊢
      exact crx_mono p s hlen h
    | webm =>
      simp only [Det.evalWith, custEval, customModel] at h ⊢
      exact matroska_mono kWebm p s h
    | mkv =>
      simp only [Det.evalWith, custEval, customModel] at h ⊢
      exact matroska_mono kMatroska p s h
    | text | php | json | geojson | har | gltf | ndjson | srt | csv | tsv | unknown => simp [monoCert] at hc
  | ciPrefix _ | markup _ | xml _ | shebang _ => simp [monoCert] at hc

/-- **regenerated obligation**: every root child of tree.go except the last (`text`) is
    either certified monotone or is `ttf`; a new or edited root format without a
    certificate breaks this -/
theorem root_binary_list :
    Gen.builtin.children.dropLast.all (fun c => monoCert c.info.det || c.info.name == "ttf") = true := by
  decide +kernel

/-- **the one non-monotone check hands over**: when `ttf` accepts `p`, then for every
    extension either `ttf` still accepts or one of the Access formats does -/
theorem ttf_hands_over (p s : Bytes) (h : evalExpr Gen.d_Ttf p = some true) :
    evalExpr Gen.d_Ttf (p ++ s) = some true ∨ evalExpr Gen.d_MsAccessAce (p ++ s) = some true ∨
    evalExpr Gen.d_MsAccessMdb (p ++ s) = some true := by
  have hsafe : ∀ raw, ∃ a b c, evalExpr Gen.d_Ttf raw = some a ∧ evalExpr Gen.d_MsAccessAce raw = some b ∧
      evalExpr Gen.d_MsAccessMdb raw = some c ∧ (a = (hasPrefix raw [0, 1, 0, 0] && !b && !c)) := by
    intro raw
    simp only [evalExpr, Gen.d_Ttf, Gen.d_MsAccessAce, Gen.d_MsAccessMdb, BExp.eval, Nat.zero_le, ↓reduceIte,
      List.drop_zero]
    by_cases h5 : 5 ≤ raw.length
    · have h4 : 4 ≤ raw.length := by omega
      simp only [h5, h4, decide_true, ↓reduceIte]
      -- a truth table over the three prefix tests
      cases hasPrefix raw [0, 1, 0, 0] with
      | false => simp
      | true =>
        cases hasPrefix (List.drop 4 raw) _ with
        | true => simp
        | false =>
          cases hasPrefix (List.drop 4 raw) _ with
          | true => simp
          | false => simp
    · simp only [h5, decide_false]
      cases hasPrefix raw [0, 1, 0, 0] with
      | false => simp
      | true => simp
  obtain ⟨a, b, c, ha, hb, hc, habc⟩ := hsafe (p ++ s)
  obtain ⟨a0, b0, c0, ha0, _, _, habc0⟩ := hsafe p
  rw [ha0] at h
  cases h
  rw [ha, hb, hc]
  have hpre : hasPrefix (p ++ s) [0, 1, 0, 0] = true := by
    have : hasPrefix p [0, 1, 0, 0] = true := by
      cases hq : hasPrefix p [0, 1, 0, 0] <;> simp [hq] at habc0
      rfl
    exact hasPrefix_append s this
  cases b <;> cases c <;> simp [habc, hpre]

/-- regenerated facts about the root children of tree.go, used by `limit_growth` -/
theorem tree_facts :
    -- `ttf`, `mdb`, `accdb` are root children in front of `text`, with these detectors
    (Gen.builtin.children.dropLast.any (fun c => c.info.name == "ttf" && decide (c.info.det = Gen.d_Ttf))) = true ∧
    (Gen.builtin.children.dropLast.all (fun c => !(c.info.name == "ttf") || decide (c.info.det = Gen.d_Ttf))) = true ∧
    (Gen.builtin.children.dropLast.any (fun c => decide (c.info.det = Gen.d_MsAccessAce))) = true ∧
    (Gen.builtin.children.dropLast.any (fun c => decide (c.info.det = Gen.d_MsAccessMdb))) = true ∧
    -- no node in front of `text` (at any depth), nor the root, is called text/plain
    (Tree.flattenList Gen.builtin.children.dropLast).all (fun i => !(i.mime == mimeTextPlain)) = true ∧
    (Gen.builtin.info.mime == mimeTextPlain) = false ∧
    -- the last root child is text/plain
    (Gen.builtin.children.getLast?.map (fun c => c.info.mime == mimeTextPlain)) = some true ∧
    -- the three detectors are expressions
    (∃ e, Gen.d_Ttf = .expr e) ∧ (∃ e, Gen.d_MsAccessAce = .expr e) ∧ (∃ e, Gen.d_MsAccessMdb = .expr e) := by
  refine ⟨?_, ?_, ?_, ?_, ?_, ?_, ?_, ⟨_, rfl⟩, ⟨_, rfl⟩, ⟨_, rfl⟩⟩
  · decide +kernel
  · decide +kernel
  · decide +kernel
  · decide +kernel
  · decide +kernel
  · decide +kernel
  · decide +kernel

/-- "identified as some non-text format": classified below the root, and text/plain
    nowhere in the hierarchy -/
def isBinary (chain : List Info) : Prop := 2 ≤ chain.length ∧ ∀ i ∈ chain, i.mime ≠ mimeTextPlain

theorem detEval_expr (ext : Ext) {d : Det} (e : BExp) (hd : d = .expr e) (raw : Bytes) (l : Nat) :
    detEval ext.cust d raw l = evalExpr d raw := by
  subst hd; rfl

theorem some_binary_root_accepts (ext : Ext) (p s : Bytes) (l1 l2 : Nat) (hlen : (p ++ s).length < 4294967296)
    (c : Tree Info) (hc : c ∈ Gen.builtin.children.dropLast) (hacc : accepts ext p l1 c.info = true) :
    ∃ j ∈ Gen.builtin.children.dropLast, accepts ext (p ++ s) l2 j.info = true := by
  have hcert := root_binary_list
  rw [List.all_eq_true] at hcert
  have hcc := hcert c hc
  simp only [Bool.or_eq_true] at hcc
  simp only [accepts, beq_iff_eq] at hacc ⊢
  cases hcc with
  | inl hm => exact ⟨c, hc, by simpa using accepts_mono ext c.info.det hm p s l1 l2 hlen hacc⟩
  | inr httf =>
    obtain ⟨f1, f2, f3, f4, _, _, _, ⟨et, het⟩, ⟨ea, hea⟩, ⟨em, hem⟩⟩ := tree_facts
    rw [List.all_eq_true] at f2
    have hdet : c.info.det = Gen.d_Ttf := by
      have := f2 c hc
      simpa [httf] using this
    rw [hdet, detEval_expr ext et het] at hacc
    rcases ttf_hands_over p s hacc with h | h | h
    · exact ⟨c, hc, by rw [hdet, detEval_expr ext et het]; simpa using h⟩
    · rw [List.any_eq_true] at f3
      obtain ⟨j, hj, hjd⟩ := f3
      have hjd' : j.info.det = Gen.d_MsAccessAce := by simpa using hjd
      exact ⟨j, hj, by rw [hjd', detEval_expr ext ea hea]; simpa using h⟩
    · rw [List.any_eq_true] at f4
      obtain ⟨j, hj, hjd⟩ := f4
      have hjd' : j.info.det = Gen.d_MsAccessMdb := by simpa using hjd
      exact ⟨j, hj, by rw [hjd', detEval_expr ext em hem]; simpa using h⟩

/-- **C17**: if the first `L` bytes are identified as a non-text format then every longer
    header of the same file (`p ++ s`, any limits) is identified as a non-text format too —
    never as unknown and never as text -/
theorem limit_growth (ext : Ext) (p s : Bytes) (l1 l2 : Nat) (hlen : (p ++ s).length < 4294967296)
    (h : isBinary ((Gen.builtin.walk (accepts ext p l1)))) :
    isBinary (Gen.builtin.walk (accepts ext (p ++ s) l2)) := by
  obtain ⟨_, _, _, _, fnt, froot, flast, _⟩ := tree_facts
  rw [List.all_eq_true] at fnt
  obtain ⟨t, ht, htm⟩ : ∃ t, Gen.builtin.children.getLast? = some t ∧ (t.info.mime == mimeTextPlain) = true := by
    cases hl : Gen.builtin.children.getLast? with
    | none => rw [hl] at flast; cases flast
    | some t => rw [hl] at flast; exact ⟨t, rfl, Option.some.inj flast⟩
  obtain ⟨dl, hcs⟩ := List.getLast?_eq_some_iff.1 ht
  have hdl : Gen.builtin.children.dropLast = dl := by rw [hcs, List.dropLast_concat]
  rw [hdl] at fnt
  rw [walk_unfold, walkList_eq_find, hcs, List.find?_append] at h ⊢
  obtain ⟨c, hc, hacc⟩ : ∃ c ∈ dl, accepts ext p l1 c.info = true := by
    cases hf : dl.find? (fun c => accepts ext p l1 c.info) with
    | some c => exact ⟨c, List.mem_of_find?_eq_some hf, List.find?_some (p := fun c : Tree Info => accepts ext p l1 c.info) hf⟩
    | none =>
      rw [hf, Option.none_or, List.find?_singleton] at h
      split at h
      · exact absurd (beq_iff_eq.1 htm) (h.2 t.info (by rw [Option.elim_some, walk_unfold]; simp))
      · exact absurd h.1 (Nat.lt_irrefl 1)
  obtain ⟨j, hj, hjacc⟩ := some_binary_root_accepts ext p s l1 l2 hlen c (hdl ▸ hc) hacc
  rw [hdl] at hj
  cases hf : dl.find? (fun c => accepts ext (p ++ s) l2 c.info) with
  | none => exact absurd hjacc (List.find?_eq_none.1 hf j hj)
  | some c2 =>
    rw [Option.some_or, Option.elim_some, walk_unfold]
    refine ⟨by simp, fun i hi => ?_⟩
    rw [← walk_unfold, List.mem_cons] at hi
    rcases hi with rfl | hi
    · exact fun hm => by simp [hm] at froot
    · have := fnt i (mem_flattenList (List.mem_of_find?_eq_some hf) (walk_sub_flatten _ c2 i hi))
      exact fun hm => by simp [hm] at this

/- non-vacuity: a PNG header is identified as binary at limit 8 -/
example : isBinary (Gen.builtin.walk (accepts ⟨fun _ _ _ => false, fun _ => [], fun _ => none⟩
    [0x89, 0x50, 0x4E, 0x47, 0x0D, 0x0A, 0x1A, 0x0A] 8)) := by
  constructor
  · decide +kernel
  · decide +kernel

/-- regenerated tie: `Detect` / `DetectReader` load the limit once, atomically (see Lemmas/DetectTie.lean) -/
theorem tie_single_limit : Mime.DetectTie.SingleLimit := Mime.DetectTie.single_limit

end Mime.C17
