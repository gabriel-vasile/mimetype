import MimeModel.Lemmas.Heap
import MimeModel.Lemmas.HeapAbs
import MimeModel.Lemmas.HeapBuild
import MimeModel.Props.C03_Heap
import MimeModel.Props.C14
import MimeModel.Gen.Writes
/-
  C14 at the level of pointers (Model/Heap.lean): `(*MIME).Extend` allocates a node with
  `parent: m` and stores `m.children = append([]*MIME{c}, m.children...)`.  Under the
  representation invariant the heap after any history of `Extend` calls represents the value-level
  tree after the same calls (`Tree.extendAt`, `C14.applyAll`), only the extended node's children
  list changes, and a value returned by an earlier detection — a chain of fresh nodes — shows the
  same `Parent()` chain whatever is called afterwards, `Extend` on the result itself included.
  Proofs: Lemmas/Heap.lean.
-/
namespace Mime.C14
open Mime Mime.Heap Mime.HeapLemmas Mime.Tree

variable {α : Type}

/-- **`Extend` refines `extendAt`, with its frame**: the new heap represents the tree with the new
    leaf prepended at `path`; the new node sits at the next free address with `parent = m`; every
    old node keeps its payload and parent pointer, and only `m`'s children list changes -/
theorem extend_rep {h h' : Heap α} {root m c : Ptr} {t : Tree α} {path : List Nat} {a : α}
    (hrep : Rep h root none t) (hnode : nodeAt h root path = some m) (he : extend h m a = some (h', c)) :
    ∃ t', Tree.extendAt (.node a []) path t = some t' ∧ Rep h' root none t' ∧
      c = h.length ∧ h'.length = h.length + 1 ∧ h'[c]? = some ⟨a, some m, []⟩ ∧
      ∀ x n, h[x]? = some n → ∃ n', h'[x]? = some n' ∧ n'.info = n.info ∧ n'.parent = n.parent ∧
        (x ≠ m → n' = n) ∧ (x = m → n'.children = c :: n.children) :=
  HeapLemmas.extend_rep hrep hnode he

/-- **any history of `Extend` calls refines `applyAll`** -/
theorem extend_history_rep {root : Ptr} (ops : List (List Nat × α)) {h h' : Heap α} {t : Tree α}
    (hrep : Rep h root none t) (hr : runExt root ops h = some h') :
    ∃ t', C14.applyAll ops t = some t' ∧ Rep h' root none t' ∧ Steps h h' := by
  induction ops generalizing h t with
  | nil =>
    cases hr
    exact ⟨t, rfl, hrep, Steps.refl _⟩
  | cons op ops ih =>
    rw [runExt] at hr
    split at hr
    · cases hr
    · rename_i m hn
      split at hr
      · cases hr
      · rename_i h1 c he
        obtain ⟨t1, e1, hrep1, _⟩ := HeapLemmas.extend_rep hrep hn he
        obtain ⟨t', e2, hrep', hs⟩ := ih hrep1 hr
        exact ⟨t', by rw [C14.applyAll, e1]; exact e2, hrep', Steps.step (Step.extend he) hs⟩

/-- `Extend` on a node outside the tree — a detection result, one of its ancestors — leaves the
    represented tree as it is -/
theorem extend_outside {h h' : Heap α} {root m c : Ptr} {t : Tree α} {fp : List Ptr} {a : α}
    (hrep : RepF h root none t fp) (hout : m ∉ fp) (he : extend h m a = some (h', c)) :
    RepF h' root none t fp := by
  obtain ⟨nm, _, rfl, _⟩ := extend_some he
  exact repF_extHeap nm a hrep hout

/-- **values returned earlier are unaffected**: after any sequence of later `Extend` calls (on any
    allocated node, results included) and detections (from any node), the `Parent()` chain of an
    earlier result is what it was: the first-match path of the tree at the time of its detection -/
theorem results_stable {h0 h1 h2 : Heap α} {root r : Ptr} {t : Tree α} {acc : α → Bool} {leafF : α → α}
    {fuel : Nat} (hrep : Rep h0 root none t) (hfuel : t.height ≤ fuel)
    (hm : matchH acc leafF h0 root fuel = .ok (h1, r)) (hs : Steps h1 h2) :
    (∀ f, parentChain h2 r f = parentChain h1 r f) ∧
    (∀ f, (walk acc t).length ≤ f → parentChain h2 r f = some (applyHead leafF (walk acc t).reverse)) :=
  HeapLemmas.results_stable hrep hfuel hm hs

/-- **`lookup` refines `Tree.lookup`**: the pointer found carries the payload the value-level
    search stops at, and its parent chain is the path to it -/
theorem lookup_refines {h : Heap α} {root : Ptr} {t : Tree α} (q : α → Bool) (hrep : Rep h root none t)
    (fuel : Nat) (hfuel : t.height ≤ fuel) :
    match Tree.lookup q t with
    | none => lookupH q h root fuel = some none
    | some l => ∃ r n rs, lookupH q h root fuel = some (some r) ∧ h[r]? = some n ∧ some n.info = l.getLast? ∧
        q n.info = true ∧ Chain h (some r) rs l.reverse ∧
        ∀ f, l.length ≤ f → parentChain h r f = some l.reverse :=
  HeapLemmas.lookup_refines q hrep fuel hfuel

/-- **`newMIME` builds represented trees** (how tree.go builds the built-in tree bottom-up): over a
    represented, parentless forest it yields the tree `node a ts`, touching only the `parent`
    fields of the roots it is given -/
theorem newMIME_rep {h : Heap α} {cs : List Ptr} {ts : List (Tree α)} {fp : List Ptr} (a : α)
    (hf : RepListF h none cs ts fp) :
    (newMIME h a cs).2 = h.length ∧
    RepF (newMIME h a cs).1 h.length none (.node a ts) (h.length :: fp) ∧
    (newMIME h a cs).1.length = h.length + 1 ∧
    ∀ x n, h[x]? = some n → ∃ n', (newMIME h a cs).1[x]? = some n' ∧ n'.info = n.info ∧
      n'.children = n.children ∧ (x ∉ cs → n' = n) ∧ (x ∈ cs → n'.parent = some h.length) :=
  HeapLemmas.newMIME_rep a hf

/-- **everything composed, on the built-in tree**: after any history of `Extend` calls on tree
    nodes the heap represents the value-level tree after the same calls, and the pointer-level
    `match` computes `Mime.detect`'s chain on that tree -/
theorem extended_detect (ops : List (List Nat × Info)) {h1 : Heap Info}
    (hrun : runExt HeapBuild.builtinHeap.2 ops HeapBuild.builtinHeap.1 = some h1)
    (ext : Ext) (x : Bytes) (lim : Nat) (leafF : Info → Info) :
    ∃ T', C14.applyAll ops Gen.builtin = some T' ∧ Rep h1 HeapBuild.builtinHeap.2 none T' ∧
      ∃ h' r, matchH (accepts ext (header x lim) lim) leafF h1 HeapBuild.builtinHeap.2 h1.length = .ok (h', r) ∧
        ∀ f, (detect ext T' x lim).chain.length ≤ f →
          parentChain h' r f = some (applyHead leafF (detect ext T' x lim).chain) := by
  obtain ⟨T', happ, hrep, _⟩ := extend_history_rep ops C03.builtin_rep hrun
  exact ⟨T', happ, hrep, C03.heap_detect ext x lim leafF hrep _ (Nat.le_refl _)⟩

/-- … and a result handed out then reads the same after whatever `Extend` and detection calls follow -/
theorem builtin_result_stable (ops : List (List Nat × Info)) {h1 h2 h3 : Heap Info} {r : Ptr}
    (hrun : runExt HeapBuild.builtinHeap.2 ops HeapBuild.builtinHeap.1 = some h1)
    (ext : Ext) (x : Bytes) (lim : Nat) (leafF : Info → Info)
    (hm : matchH (accepts ext (header x lim) lim) leafF h1 HeapBuild.builtinHeap.2 h1.length = .ok (h2, r))
    (hs : Steps h2 h3) :
    ∃ T', C14.applyAll ops Gen.builtin = some T' ∧
      ∀ f, (detect ext T' x lim).chain.length ≤ f →
        parentChain h3 r f = some (applyHead leafF (detect ext T' x lim).chain) := by
  obtain ⟨T', happ, hrep, _⟩ := extend_history_rep ops C03.builtin_rep hrun
  exact ⟨T', happ, fun f hf =>
    (HeapLemmas.results_stable hrep (rep_height_le hrep) hm hs).2 f (List.length_reverse ▸ hf)⟩

/-- **regenerated tie: the stores of mime.go are the stores of the heap model** — every assignment
    to a field of a `MIME` node and every `MIME` composite literal of the package, per function, as
    the extractor reads them from the current source (names of variables and parameters replaced by `_`,
    so that a renamed local changes nothing): `newMIME` allocates with the children and
    sets each child's `parent` (`Heap.newMIME`), `clone` allocates without parent and children
    (`Heap.clone`), `cloneHierarchy` links the previous clone to the new one (`Heap.cloneLoop`),
    `Extend` allocates with `parent: m` and prepends to a *fresh* children slice (`Heap.extend`),
    `alias` is used during construction only.  Nothing else writes a node: `match`, `lookup`,
    `flatten`, `Parent` and the accessors only read (the frame the theorems above rely on). -/
theorem tie_node_stores :
    Gen.Writes.nodeStores =
      ["newMIME:MIME{mime: _, extension: _, detector: _, children: _}",
       "newMIME:_.parent = _",
       "alias:_.aliases = _",
       "clone:MIME{mime: _, aliases: _.aliases, extension: _.extension}",
       "cloneHierarchy:_.parent = _",
       "Extend:MIME{mime: _, extension: _, detector: _, parent: _, aliases: _}",
       "Extend:_.children = append([]*MIME{_}, _.children...)"] := rfl

/-- non-vacuity: extending node [0] of the example heap commutes with the abstraction -/
example : (extend exHeap 1 9).bind (fun r => HeapAbs.abs r.1 3) = Tree.extendAt (.node 9 []) [0] exTree := by
  decide +kernel

end Mime.C14
