import MimeModel.Props.C11
import MimeModel.Props.C02
import MimeModel.Props.C07
import MimeModel.Lemmas.DetectSound
import MimeModel.Model.Closed
/-
  C11 through `Detect`: the sniffed charset is truthful for undeclared text.  For a result whose
  leaf is text/plain the `charset` parameter *is* `Charset.fromPlain` of the examined header, hence
  every clause of C11 holds of it; and a parameter is attached only to text/plain, text/html and
  text/xml leaves.  The statements about the built-in tree add what the text/plain leaf is there:
  the node `text`, whose check accepted the header.
-/
namespace Mime.C11
open Mime Mime.Charset Mime.Spec Mime.Utf8 Mime.Tree Mime.DetectSound

/-- **C11 through `Detect`**: the charset parameter of a text/plain result is `FromPlain` of the
    examined header.  For every tree, every `ext`, every input and limit. -/
theorem plain_charset_gen (ext : Ext) (T : Tree Info) (x : Bytes) (lim : Nat) (leaf : Info)
    (hleaf : (detect ext T x lim).chain.head? = some leaf) (hm : leaf.mime = mimeTextPlain) :
    (detect ext T x lim).charset = fromPlain (header x lim) := by
  rw [charset_of_leaf ext T x lim leaf hleaf, hm, charsetFor_plain]

theorem plain_charset (ext : Ext) (x : Bytes) (lim : Nat) (leaf : Info)
    (hleaf : (detect ext Gen.builtin x lim).chain.head? = some leaf) (hm : leaf.mime = mimeTextPlain) :
    (detect ext Gen.builtin x lim).charset = fromPlain (header x lim) :=
  plain_charset_gen ext Gen.builtin x lim leaf hleaf hm

/-- on the built-in tree a text/plain leaf is the node `text`, and its check `Text` accepted the
    examined header: it starts with a BOM or contains no binary data byte -/
theorem plain_leaf_is_text (ext : Ext) (x : Bytes) (lim : Nat) (leaf : Info)
    (hleaf : (detect ext Gen.builtin x lim).chain.head? = some leaf) (hm : leaf.mime = mimeTextPlain) :
    leaf.det = .custom .text ∧
    (startsWithBOM (header x lim) = true ∨ noBinary (header x lim) = true) := by
  have hmem := (chain_cases ext Gen.builtin x lim leaf (List.mem_of_mem_head? hleaf)).1
  refine ⟨?_, C07.text_in_chain_only_if ext x lim ⟨leaf, ?_, hm⟩⟩
  · have := C07.tree_facts.2.2.1
    rw [List.all_eq_true] at this
    have := this leaf hmem
    simpa [hm] using this
  · exact List.mem_of_mem_head? hleaf

/-- **BOM wins**: a text/plain result on a header that starts with a byte-order mark carries the
    BOM's charset -/
theorem plain_bom (ext : Ext) (x : Bytes) (lim : Nat) (leaf : Info)
    (hleaf : (detect ext Gen.builtin x lim).chain.head? = some leaf) (hm : leaf.mime = mimeTextPlain)
    (hbom : fromBOM (header x lim) ≠ csNone) :
    (detect ext Gen.builtin x lim).charset = fromBOM (header x lim) := by
  rw [plain_charset ext x lim leaf hleaf hm]
  exact bom_wins _ hbom

/-- **utf-8 is reported only for UTF-8**: a text/plain result without BOM whose parameter is
    `utf-8` ⇒ the examined header is well-formed UTF-8 followed, at most, by the cut-off start of
    one more character (the form of `utf8_sound`) -/
theorem plain_utf8_sound (ext : Ext) (x : Bytes) (lim : Nat) (leaf : Info)
    (hleaf : (detect ext Gen.builtin x lim).chain.head? = some leaf) (hm : leaf.mime = mimeTextPlain)
    (hbom : fromBOM (header x lim) = csNone) (h : (detect ext Gen.builtin x lim).charset = csUtf8) :
    ∃ p s, header x lim = p ++ s ∧ U.validUtf8 p = true ∧ (s = [] ∨ U.truncSeq s = true) := by
  rw [plain_charset ext x lim leaf hleaf hm] at h
  exact utf8_sound _ hbom h

/-- **never utf-8 for invalid input**: the contrapositive, in the property's words -/
theorem plain_never_utf8_for_invalid (ext : Ext) (x : Bytes) (lim : Nat) (leaf : Info)
    (hleaf : (detect ext Gen.builtin x lim).chain.head? = some leaf) (hm : leaf.mime = mimeTextPlain)
    (hbom : fromBOM (header x lim) = csNone)
    (hinv : ¬ ∃ p s, header x lim = p ++ s ∧ U.validUtf8 p = true ∧ (s = [] ∨ U.truncSeq s = true)) :
    (detect ext Gen.builtin x lim).charset ≠ csUtf8 :=
  fun h => hinv (plain_utf8_sound ext x lim leaf hleaf hm hbom h)

/-- **utf-8 is always reported for UTF-8 text**: a text/plain result on a non-empty header without
    BOM that is well-formed UTF-8 (possibly with the start of one more character cut off at the
    end) and is all ASCII text or contains a complete non-ASCII character carries `utf-8`
    (the form of `utf8_complete`) -/
theorem plain_utf8_complete (ext : Ext) (x : Bytes) (lim : Nat) (leaf : Info)
    (hleaf : (detect ext Gen.builtin x lim).chain.head? = some leaf) (hm : leaf.mime = mimeTextPlain)
    (p s : Bytes) (hne : header x lim ≠ []) (hbom : fromBOM (header x lim) = csNone)
    (hx : header x lim = p ++ s) (hp : U.validUtf8 p = true) (hs : s = [] ∨ U.truncSeq s = true)
    (h : ascii (header x lim) = true ∨ U.hasNonAscii p = true) :
    (detect ext Gen.builtin x lim).charset = csUtf8 := by
  rw [plain_charset ext x lim leaf hleaf hm]
  exact utf8_complete _ p s hne hbom hx hp hs h

/-- **single-byte split**: windows-1252 is reported exactly when a byte in 0x80–0x9F occurs in the
    examined header, iso-8859-1 only when none does -/
theorem plain_latin_split_detect (ext : Ext) (x : Bytes) (lim : Nat) (leaf : Info)
    (hleaf : (detect ext Gen.builtin x lim).chain.head? = some leaf) (hm : leaf.mime = mimeTextPlain)
    (hbom : fromBOM (header x lim) = csNone) :
    ((detect ext Gen.builtin x lim).charset = csWin1252 → ∃ b ∈ header x lim, 0x80 ≤ b ∧ b ≤ 0x9F) ∧
    ((detect ext Gen.builtin x lim).charset = csLatin1 → ∀ b ∈ header x lim, ¬ (0x80 ≤ b ∧ b ≤ 0x9F)) := by
  rw [plain_charset ext x lim leaf hleaf hm]
  exact plain_latin_split _ hbom

/-- **the parameter is attached only to the three text types**: a non-empty charset parameter ⇒
    the reported leaf is text/plain, text/html or text/xml.  Every tree. -/
theorem charset_only_on_three_detect (ext : Ext) (T : Tree Info) (x : Bytes) (lim : Nat)
    (hne : (detect ext T x lim).charset ≠ []) :
    ∃ leaf, (detect ext T x lim).chain.head? = some leaf ∧
      (leaf.mime = mimeTextPlain ∨ leaf.mime = mimeTextHtml ∨ leaf.mime = mimeTextXml) := by
  obtain ⟨leaf, hleaf⟩ := leaf_exists ext T x lim
  refine ⟨leaf, hleaf, ?_⟩
  rw [charset_of_leaf ext T x lim leaf hleaf] at hne
  exact C02.charset_only_on_three ext leaf.mime (header x lim) hne

/-- the same, read the other way: any other leaf has no parameter -/
theorem no_charset_elsewhere (ext : Ext) (T : Tree Info) (x : Bytes) (lim : Nat) (leaf : Info)
    (hleaf : (detect ext T x lim).chain.head? = some leaf)
    (h1 : leaf.mime ≠ mimeTextPlain) (h2 : leaf.mime ≠ mimeTextHtml) (h3 : leaf.mime ≠ mimeTextXml) :
    (detect ext T x lim).charset = [] := by
  apply Classical.byContradiction
  intro hne
  obtain ⟨l, hl, hm⟩ := charset_only_on_three_detect ext T x lim hne
  rw [hleaf] at hl
  simp only [Option.some.injEq] at hl
  subst hl
  rcases hm with h | h | h
  · exact h1 h
  · exact h2 h
  · exact h3 h

/- The same about `Closed.detect`, the model with no external parameter left: what
   `mimetype.Detect` computes on the built-in tree. -/

theorem closed_plain_charset (x : Bytes) (lim : Nat) (leaf : Info)
    (hleaf : (Closed.detect x lim).chain.head? = some leaf) (hm : leaf.mime = mimeTextPlain) :
    (Closed.detect x lim).charset = fromPlain (header x lim) :=
  plain_charset Closed.ext x lim leaf hleaf hm

theorem closed_plain_bom (x : Bytes) (lim : Nat) (leaf : Info)
    (hleaf : (Closed.detect x lim).chain.head? = some leaf) (hm : leaf.mime = mimeTextPlain)
    (hbom : fromBOM (header x lim) ≠ csNone) :
    (Closed.detect x lim).charset = fromBOM (header x lim) :=
  plain_bom Closed.ext x lim leaf hleaf hm hbom

theorem closed_plain_utf8_sound (x : Bytes) (lim : Nat) (leaf : Info)
    (hleaf : (Closed.detect x lim).chain.head? = some leaf) (hm : leaf.mime = mimeTextPlain)
    (hbom : fromBOM (header x lim) = csNone) (h : (Closed.detect x lim).charset = csUtf8) :
    ∃ p s, header x lim = p ++ s ∧ U.validUtf8 p = true ∧ (s = [] ∨ U.truncSeq s = true) :=
  plain_utf8_sound Closed.ext x lim leaf hleaf hm hbom h

theorem closed_plain_utf8_complete (x : Bytes) (lim : Nat) (leaf : Info)
    (hleaf : (Closed.detect x lim).chain.head? = some leaf) (hm : leaf.mime = mimeTextPlain)
    (p s : Bytes) (hne : header x lim ≠ []) (hbom : fromBOM (header x lim) = csNone)
    (hx : header x lim = p ++ s) (hp : U.validUtf8 p = true) (hs : s = [] ∨ U.truncSeq s = true)
    (h : ascii (header x lim) = true ∨ U.hasNonAscii p = true) :
    (Closed.detect x lim).charset = csUtf8 :=
  plain_utf8_complete Closed.ext x lim leaf hleaf hm p s hne hbom hx hp hs h

theorem closed_plain_latin_split (x : Bytes) (lim : Nat) (leaf : Info)
    (hleaf : (Closed.detect x lim).chain.head? = some leaf) (hm : leaf.mime = mimeTextPlain)
    (hbom : fromBOM (header x lim) = csNone) :
    ((Closed.detect x lim).charset = csWin1252 → ∃ b ∈ header x lim, 0x80 ≤ b ∧ b ≤ 0x9F) ∧
    ((Closed.detect x lim).charset = csLatin1 → ∀ b ∈ header x lim, ¬ (0x80 ≤ b ∧ b ≤ 0x9F)) :=
  plain_latin_split_detect Closed.ext x lim leaf hleaf hm hbom

theorem closed_charset_only_on_three (x : Bytes) (lim : Nat) (hne : (Closed.detect x lim).charset ≠ []) :
    ∃ leaf, (Closed.detect x lim).chain.head? = some leaf ∧
      (leaf.mime = mimeTextPlain ∨ leaf.mime = mimeTextHtml ∨ leaf.mime = mimeTextXml) :=
  charset_only_on_three_detect Closed.ext Gen.builtin x lim hne

/-- "café" in UTF-8: text/plain; charset=utf-8 -/
example : ((Closed.detect [0x63, 0x61, 0x66, 0xC3, 0xA9] 0).chain.map (·.mime)) = [mimeTextPlain, mimeOctet] ∧
    (Closed.detect [0x63, 0x61, 0x66, 0xC3, 0xA9] 0).charset = csUtf8 ∧
    fromBOM (header [0x63, 0x61, 0x66, 0xC3, 0xA9] 0) = csNone ∧
    U.validUtf8 [0x63, 0x61, 0x66, 0xC3, 0xA9] = true := by
  decide +kernel

/-- "café" in Latin-1: text/plain; charset=iso-8859-1 (not UTF-8: 0xE9 starts a three-byte
    character that never comes) -/
example : ((Closed.detect [0x63, 0x61, 0x66, 0xE9] 0).chain.map (·.mime)) = [mimeTextPlain, mimeOctet] ∧
    (Closed.detect [0x63, 0x61, 0x66, 0xE9] 0).charset = csLatin1 ∧
    U.validUtf8 [0x63, 0x61, 0x66, 0xE9] = false := by
  decide +kernel

/-- a byte of 0x80–0x9F that the text table allows (0x85, "…" in cp1252): windows-1252; another
    one (0x80) is in no class of the table: text/plain without a parameter -/
example : ((Closed.detect [0x85, 0x35] 0).chain.map (·.mime)) = [mimeTextPlain, mimeOctet] ∧
    (Closed.detect [0x85, 0x35] 0).charset = csWin1252 ∧
    ((Closed.detect [0x80, 0x35] 0).chain.map (·.mime)) = [mimeTextPlain, mimeOctet] ∧
    (Closed.detect [0x80, 0x35] 0).charset = [] := by
  decide +kernel

/-- "é€" cut inside "€" by the limit (limit 4 of 5 bytes): still utf-8 — the incomplete trailing
    character is not held against the text -/
example : ((Closed.detect [0xC3, 0xA9, 0xE2, 0x82, 0xAC] 4).chain.map (·.mime)) = [mimeTextPlain, mimeOctet] ∧
    (Closed.detect [0xC3, 0xA9, 0xE2, 0x82, 0xAC] 4).charset = csUtf8 ∧
    header [0xC3, 0xA9, 0xE2, 0x82, 0xAC] 4 = [0xC3, 0xA9] ++ [0xE2, 0x82] ∧
    U.validUtf8 [0xC3, 0xA9] = true ∧ U.truncSeq [0xE2, 0x82] = true := by
  decide +kernel

/-- a UTF-16LE BOM in front of bytes that are binary otherwise: text/plain; charset=utf-16le -/
example : ((Closed.detect [0xFF, 0xFE, 0x61, 0x00] 0).chain.map (·.mime)) = [mimeTextPlain, mimeOctet] ∧
    (Closed.detect [0xFF, 0xFE, 0x61, 0x00] 0).charset = fromBOM [0xFF, 0xFE, 0x61, 0x00] ∧
    fromBOM [0xFF, 0xFE, 0x61, 0x00] ≠ csNone := by
  decide +kernel

/-- a leaf that is not one of the three text types carries no parameter: `[1]` is application/json -/
example : ((Closed.detect [0x5B, 0x31, 0x5D] 0).chain.head?.map (·.mime)) =
      some [97, 112, 112, 108, 105, 99, 97, 116, 105, 111, 110, 47, 106, 115, 111, 110] ∧
    (Closed.detect [0x5B, 0x31, 0x5D] 0).charset = [] := by
  decide +kernel

/-- the theorem applied: the hypotheses of `closed_plain_utf8_sound` are satisfiable -/
example : ∃ p s, header [0x63, 0x61, 0x66, 0xC3, 0xA9] 0 = p ++ s ∧ U.validUtf8 p = true ∧
    (s = [] ∨ U.truncSeq s = true) := by
  obtain ⟨l, hc, hm⟩ := Option.map_eq_some_iff.1
    (by decide +kernel : ((Closed.detect [0x63, 0x61, 0x66, 0xC3, 0xA9] 0).chain.head?.map (·.mime)) = some mimeTextPlain)
  exact closed_plain_utf8_sound _ 0 l hc hm (by decide +kernel) (by decide +kernel)

end Mime.C11
