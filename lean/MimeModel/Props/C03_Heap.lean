import MimeModel.Lemmas.Heap
import MimeModel.Lemmas.HeapAbs
import MimeModel.Lemmas.HeapBuild
/-
  C03 at the level of pointers.  mime.go works with `*MIME` nodes linked by `children` slices and
  `parent` pointers; `match` descends through `children` and `cloneHierarchy` builds the result by
  following `parent` upwards.  Model/Heap.lean transcribes those functions over a heap (a list of
  nodes, addresses = indices, explicit fuel, faults distinguished from running out of fuel);
  `Rep h root none t` says the heap at `root` represents the inductive tree `t` (parent pointers
  agree with the children lists, no node reachable twice).  Under that invariant — decidable, and
  decided at run time on the heaps the harness dumps from the real code (`abs_iff`) — the
  pointer-level `match` terminates without fault, leaves the tree alone, returns fresh nodes, and
  what a caller sees through `Parent()` is the first-match path of the value-level model.
  Proofs: Lemmas/Heap.lean, Lemmas/HeapAbs.lean, Lemmas/HeapBuild.lean.
-/
namespace Mime.C03
open Mime Mime.Heap Mime.HeapLemmas Mime.Tree

variable {α : Type}

/-- **`match` refines `walk`**: with fuel ≥ the size of the heap, `match` succeeds (no nil
    dereference, no endless parent loop), the old heap is a prefix of the new one and still
    represents the same tree, the result and all its ancestors are newly allocated addresses, and
    the `Parent()` chain from the result is the first-match path (leaf first), the leaf altered by
    the parameter step -/
theorem match_refines {h : Heap α} {root : Ptr} {t : Tree α} (acc : α → Bool) (leafF : α → α)
    (hrep : Rep h root none t) (fuel : Nat) (hfuel : h.length ≤ fuel) :
    ∃ h' r ps,
      matchH acc leafF h root fuel = .ok (h', r) ∧
      (∃ ext, h' = h ++ ext) ∧
      Rep h' root none t ∧
      r = h.length ∧ ps = List.range' h.length (walk acc t).length ∧
      (∀ x ∈ ps, h.length ≤ x ∧ x < h'.length) ∧
      Chain h' (some r) ps (applyHead leafF (walk acc t).reverse) ∧
      ∀ f, ps.length ≤ f → parentChain h' r f = some (applyHead leafF (walk acc t).reverse) :=
  HeapLemmas.match_refines acc leafF hrep fuel (Nat.le_trans (rep_height_le hrep) hfuel)

/-- the result shares no node with the tree -/
theorem result_disjoint {h : Heap α} {root : Ptr} {t : Tree α} {fp : List Ptr} (hrep : RepF h root none t fp)
    (x : Nat) (hx : h.length ≤ x) : x ∉ fp :=
  fun hm => Nat.lt_irrefl _ (Nat.lt_of_lt_of_le (rep_lt.1 hrep x hm) hx)

/-- **the pointer-level `Detect` computes `Mime.detect`'s chain** (any tree, built-in or extended;
    any input, limit and external behaviour) -/
theorem heap_detect {h : Heap Info} {root : Ptr} {T : Tree Info} (ext : Ext) (x : Bytes) (lim : Nat)
    (leafF : Info → Info) (hrep : Rep h root none T) (fuel : Nat) (hfuel : h.length ≤ fuel) :
    ∃ h' r, matchH (accepts ext (header x lim) lim) leafF h root fuel = .ok (h', r) ∧
      ∀ f, (detect ext T x lim).chain.length ≤ f →
        parentChain h' r f = some (applyHead leafF (detect ext T x lim).chain) :=
  let ⟨h', r, h1, h2⟩ := matchH_chain (accepts ext (header x lim) lim) leafF hrep hfuel
  ⟨h', r, h1, fun f hf => h2 f (List.length_reverse ▸ hf)⟩

/-- **`cloneHierarchy` terminates** from every tree node: the parent chain of the node at depth
    `path.length` has `path.length + 1` nodes, and `path.length` iterations suffice -/
theorem cloneHierarchy_terminates {h : Heap α} {root : Ptr} {t : Tree α} (hrep : Rep h root none t)
    (path : List Nat) (m : Ptr) (hm : nodeAt h root path = some m) (leafF : α → α) :
    ∃ qs b bs, Chain h (some m) qs (b :: bs) ∧ qs.length = path.length + 1 ∧
      (∀ fuel, path.length + 1 ≤ fuel → parentChain h m fuel = some (b :: bs)) ∧
      (∀ fuel, path.length ≤ fuel →
        cloneHierarchy h m leafF fuel = .ok (h ++ cloneNodes h.length (leafF b :: bs), h.length)) :=
  HeapLemmas.cloneHierarchy_terminates hrep path m hm leafF

/-- the invariant is needed: on a heap with a parent cycle the loop of `cloneHierarchy` runs out
    of every fuel -/
theorem cycle_never_ends (leafF : Nat → Nat) (fuel : Nat) : cloneHierarchy cycleHeap 0 leafF fuel = .oof :=
  cloneHierarchy_cycle_oof (by decide) leafF fuel

/-- **the invariant is decidable**: the executable abstraction function answers `some t` exactly
    on the heaps that represent `t` (run on every heap the harness dumps from the real code) -/
theorem abs_iff {h : Heap α} {root : Ptr} {t : Tree α} : HeapAbs.abs h root = some t ↔ Rep h root none t :=
  HeapAbs.abs_iff

/-- **tree.go's construction, in any order**: whatever the order of the `newMIME` calls (Go
    initialises the package-level node variables in dependency order, and allocates `errMIME`, a
    node outside the tree, in between), every node that has not yet been handed to a call as a
    child represents its tree, with no parent — in particular the root, when everything else is used -/
theorem construction_order_free {h : Heap α} {avail : List (Ptr × Tree α)} {p : Ptr} {t : Tree α}
    (hs : HeapBuild.Sched h avail) (hm : (p, t) ∈ avail) : Rep h p none t := by
  obtain ⟨fp, hr⟩ := HeapBuild.sched_inv hs
  exact HeapBuild.repPairs_mem avail hr hm

/-- the post-order construction (children first, left to right) is one such order, and the heap it
    builds for the regenerated tree represents that tree -/
theorem builtin_rep : Rep HeapBuild.builtinHeap.1 HeapBuild.builtinHeap.2 none Mime.Gen.builtin :=
  HeapBuild.build_rep_nil _

/-- **`Detect` on the heap built for the regenerated tree**: the pointer-level `match` from the
    root with the heap size as fuel succeeds, and the `Parent()` chain of its result is the chain
    of `Mime.detect` — for every input, limit and external behaviour -/
theorem builtin_detect (ext : Ext) (x : Bytes) (lim : Nat) (leafF : Info → Info) :
    ∃ h' r, matchH (accepts ext (header x lim) lim) leafF HeapBuild.builtinHeap.1 HeapBuild.builtinHeap.2
        HeapBuild.builtinHeap.1.length = .ok (h', r) ∧
      ∀ f, (detect ext Gen.builtin x lim).chain.length ≤ f →
        parentChain h' r f = some (applyHead leafF (detect ext Gen.builtin x lim).chain) :=
  heap_detect ext x lim leafF builtin_rep _ (Nat.le_refl _)

/-- non-vacuity: a root with two children and a grandchild, built bottom-up by `newMIME` -/
example : ∃ t : Tree Nat, Rep exHeap 3 none t := ⟨_, HeapAbs.abs_iff.mp (by decide +kernel : HeapAbs.abs exHeap 3 = some exTree)⟩

end Mime.C03
