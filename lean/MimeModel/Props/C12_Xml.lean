import MimeModel.Lemmas.XmlTok
import MimeModel.Lemmas.OfString
/-
  C12, XML clause, at *byte level*: the decoder step that Props/C12.lean takes as a parameter
  (`inst`: the first raw token of encoding/xml when it is a processing instruction) is computed
  here by `XmlTok.firstProcInst`, a model of `(*xml.Decoder).RawToken` for the first token of a
  fresh decoder with a pass-through CharsetReader (Model/XmlTok.lean: `<?` target, name check
  with the library's name tables, white space, instruction up to `?>`, the version check for
  target `xml`).  The model is compared with the installed library on every run (`xmlinst` in the
  walk / cs ops).
-/
namespace Mime.C12
open Mime Mime.Charset Mime.XmlTok Mime.XmlTokLemmas

/-- C12 (XML 1.0 declaration, byte level): `doc = lead <?xml version=q1.0q S encoding=qLq tail ?> rest`
    — `lead` white space that `trimLWS` strips, `q` either quote, `S` XML white space, `L` a
    non-empty label of ASCII token characters, `tail` white space or a standalone
    pseudo-attribute: the charset reported by `FromXML` (and by the unexported `fromXML`) is
    `L` in lower case, whatever follows the declaration -/
theorem xml_declared_bytes (lead S L tail rest : Bytes) (q : Nat)
    (hlead : ∀ c ∈ lead, isWS c = true) (hq : q = 0x22 ∨ q = 0x27)
    (hS : ∀ c ∈ S, isXmlSpace c = true)
    (hL : ∀ c ∈ L, MT.isTokenChar c = true ∧ c ≠ 0x27) (hne : L ≠ [])
    (ht : TailForm tail) :
    fromXMLBytes (lead ++ prologStart ++ [0x20] ++ kwVersionEq ++ [q] ++ v10 ++ [q] ++ S ++
        kwEncodingEq ++ [q] ++ L ++ [q] ++ tail ++ piEnd ++ rest) = lowerASCII L ∧
    fromXMLDecl (lead ++ prologStart ++ [0x20] ++ kwVersionEq ++ [q] ++ v10 ++ [q] ++ S ++
        kwEncodingEq ++ [q] ++ L ++ [q] ++ tail ++ piEnd ++ rest) = lowerASCII L :=
  by
  have hL1 : ∀ c ∈ L, MT.isTokenChar c = true := fun c hc => (hL c hc).1
  have hLq : ∀ c ∈ L, c ≠ q := by
    intro c hc
    rcases hq with rfl | rfl
    · exact (tokenChar_ne_q (hL c hc).1).2
    · exact (hL c hc).2
  have hidx := declInst_encoding_at q S L tail hq hS
  have hdrop := declInst_drop q S L tail
  have hinst := declared_inst lead q S L tail rest hlead hq hS hL1 ht
  constructor
  · unfold fromXMLBytes
    rw [hinst]
    exact C12.xml_declared _ _ (13 + S.length) q L tail hidx hq hdrop hLq hne
  · unfold fromXMLDecl
    rw [hinst]
    exact congrArg lowerASCII (C12.xmlEncoding_spec _ (13 + S.length) q L tail hidx hq hdrop hLq)

/-- what the decoder hands over for a prolog: the instruction without its leading white space -/
theorem xml_prolog_inst (ws : Nat) (inst rest : Bytes) (hws : isXmlSpace ws = true) (hno : ¬ piEnd <:+: inst)
    (hver : procInst kwVersionEq (inst.dropWhile isXmlSpace) = [] ∨ procInst kwVersionEq (inst.dropWhile isXmlSpace) = v10) :
    firstProcInst (prologStart ++ [ws] ++ inst ++ piEnd ++ rest) = some (inst.dropWhile isXmlSpace) := by
  have hv : versionOk (inst.dropWhile isXmlSpace) = true := by
    unfold versionOk
    rcases hver with h | h <;> rw [h] <;> rfl
  unfold firstProcInst
  rw [prolog_token ws inst rest hws hno hv]

/-- a declaration with a version other than 1.0 is an error of the decoder: the declaration is
    not used (the property is about XML 1.0) -/
theorem xml_other_version_ignored (ws : Nat) (inst rest : Bytes) (hws : isXmlSpace ws = true)
    (hno : ¬ piEnd <:+: inst) (hver : versionOk (inst.dropWhile isXmlSpace) = false) :
    firstProcInst (prologStart ++ [ws] ++ inst ++ piEnd ++ rest) = none := by
  unfold firstProcInst
  rw [firstPI_prolog ws inst rest hws hno, hver]
  rfl

/-- input that does not start (after white space) with `<?` has no declaration: the bytes are sniffed -/
theorem xml_no_prolog (content : Bytes)
    (h : (trimLWS content)[0]? ≠ some 0x3C ∨ (trimLWS content)[1]? ≠ some 0x3F) :
    fromXMLBytes content = fromPlain content ∧ fromXMLDecl content = [] := by
  unfold fromXMLBytes fromXMLDecl
  rw [not_prolog_none h]
  exact ⟨rfl, rfl⟩

/-- soundness of the decoder model: a reported processing instruction is really there -/
theorem xml_inst_sound (b target inst : Bytes) (h : firstPI b = some (target, inst)) :
    ∃ ws rest, b = ltQ ++ target ++ ws ++ inst ++ piEnd ++ rest ∧
      isName target = true ∧ (∀ c ∈ target, nameStop c = false) ∧
      (∀ c ∈ ws, isXmlSpace c = true) ∧ (∀ x, inst.head? = some x → isXmlSpace x = false) ∧
      ¬ piEnd <:+: inst ∧ (target = tXml → versionOk inst = true) :=
  firstPI_sound b target inst h

/- <?xml version="1.0" encoding="Shift_JIS"?><a/> -/
example : fromXMLBytes (ofString "<?xml version=\"1.0\" encoding=\"Shift_JIS\"?><a/>") = ofString "shift_jis" := by
  repeat rw [ofString_ofList]
  decide +kernel

-- the hypotheses of `xml_declared_bytes` are satisfiable, and its conclusion is the
-- expected label on a concrete document:  "\n<?xml version='1.0'\t encoding='Shift_JIS' standalone='no' ?><r/>"
example : TailForm ([0x20] ++ kwStandaloneEq ++ [0x27] ++ vNo ++ [0x27] ++ [0x20]) :=
  .standalone [0x20] [0x20] vNo 0x27 (by decide) (by decide) (Or.inr rfl) (Or.inr rfl)

example : fromXMLBytes ([0x0A] ++ prologStart ++ [0x20] ++ kwVersionEq ++ [0x27] ++ v10 ++ [0x27] ++ [0x09, 0x20] ++
      kwEncodingEq ++ [0x27] ++ [83, 104, 105, 102, 116, 95, 74, 73, 83] ++ [0x27] ++
      ([0x20] ++ kwStandaloneEq ++ [0x27] ++ vNo ++ [0x27] ++ [0x20]) ++ piEnd ++ [60, 114, 47, 62])
    = [115, 104, 105, 102, 116, 95, 106, 105, 115] :=
  (xml_declared_bytes [0x0A] [0x09, 0x20] [83, 104, 105, 102, 116, 95, 74, 73, 83] _ [60, 114, 47, 62] 0x27
    (by decide) (Or.inr rfl) (by decide) (by decide) (by decide)
    (.standalone [0x20] [0x20] vNo 0x27 (by decide) (by decide) (Or.inr rfl) (Or.inr rfl))).1

end Mime.C12
