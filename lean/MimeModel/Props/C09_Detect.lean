import MimeModel.Lemmas.OfString
import MimeModel.Props.C09
import MimeModel.Lemmas.DetectPath
import MimeModel.Gen.Tree
import MimeModel.Model.Closed
/-
  C09 through `Detect`: malformed JSON is not *reported* as JSON.  Whenever the reported leaf of
  `detect ext Gen.builtin x lim` is of the JSON family — application/json (the `json` node and the
  `har` node, whose type is application/json with extension .har), application/geo+json,
  model/gltf+json — the examined header is a document of the relaxed grammar (whole input
  examined) or a viable, completable prefix of one (input cut at the limit).  For every behaviour
  of the external parameters `ext`.
-/
namespace Mime.C09
open Mime Mime.Json Mime.Spec Mime.Tree Mime.DetectSound Mime.DetectPath

def mimeJson : Bytes := [97, 112, 112, 108, 105, 99, 97, 116, 105, 111, 110, 47, 106, 115, 111, 110]
def mimeGeoJson : Bytes :=
  [97, 112, 112, 108, 105, 99, 97, 116, 105, 111, 110, 47, 103, 101, 111, 43, 106, 115, 111, 110]
def mimeGltfJson : Bytes := [109, 111, 100, 101, 108, 47, 103, 108, 116, 102, 43, 106, 115, 111, 110]

example : mimeJson = ofString "application/json" ∧ mimeGeoJson = ofString "application/geo+json" ∧
    mimeGltfJson = ofString "model/gltf+json" := by
  repeat rw [ofString_ofList]
  decide +kernel

/-- the three types of the JSON family (HAR is application/json with extension .har) -/
def JsonFamily (m : Bytes) : Prop := m = mimeJson ∨ m = mimeGeoJson ∨ m = mimeGltfJson

instance (m : Bytes) : Decidable (JsonFamily m) := by unfold JsonFamily; infer_instance

def isFamilyMime (m : Bytes) : Bool := m == mimeJson || m == mimeGeoJson || m == mimeGltfJson

def isFamilyDet (d : Det) : Bool :=
  decide (d = .custom .json) || decide (d = .custom .geojson) || decide (d = .custom .har) ||
    decide (d = .custom .gltf)

/-- **regenerated fact** about tree.go: the nodes whose type is in the JSON family are exactly
    json, geoJSON, har, gltf; each of them is checked by one of the four JSON-family detectors;
    the root is not one of them -/
theorem family_nodes :
    (Gen.builtin.flatten.filter (fun i => isFamilyMime i.mime)).map (fun i => (i.name, i.det)) =
      [("json", .custom .json), ("geoJSON", .custom .geojson), ("har", .custom .har), ("gltf", .custom .gltf)] ∧
    Gen.builtin.flatten.all (fun i => !isFamilyMime i.mime || isFamilyDet i.det) = true ∧
    isFamilyMime Gen.builtin.info.mime = false := by
  decide +kernel

theorem isFamilyMime_of (m : Bytes) (h : JsonFamily m) : isFamilyMime m = true := by
  unfold isFamilyMime
  rcases h with rfl | rfl | rfl <;> decide

theorem not_family_spelled {m : Bytes} (h : ¬ JsonFamily m) :
    m ≠ mimeJson ∧ m ≠ mimeGeoJson ∧ m ≠ mimeGltfJson :=
  ⟨fun e => h (Or.inl e), fun e => h (Or.inr (Or.inl e)), fun e => h (Or.inr (Or.inr e))⟩

/-- what the four detectors are: each runs `jsonHelper` with its own query and wanted token -/
theorem family_det_accepts (ext : Ext) {h : Bytes} (lim : Nat) (i : Info) (hd : isFamilyDet i.det = true)
    (hacc : accepts ext h lim i = true) : ∃ qs w, jsonHelper h lim qs w = true := by
  simp only [isFamilyDet, Bool.or_eq_true, decide_eq_true_eq] at hd
  rcases hd with ((hd | hd) | hd) | hd
  · exact ⟨Gen.Json.q_json, tokObject ||| tokArray, accepts_custom_total ext h lim i .json _ hd rfl ▸ hacc⟩
  · exact ⟨Gen.Json.q_geo, tokObject, accepts_custom_total ext h lim i .geojson _ hd rfl ▸ hacc⟩
  · exact ⟨Gen.Json.q_har, tokObject, accepts_custom_total ext h lim i .har _ hd rfl ▸ hacc⟩
  · exact ⟨Gen.Json.q_gltf, tokObject, accepts_custom_total ext h lim i .gltf _ hd rfl ▸ hacc⟩

/-- the JSON family never sits anywhere else in the hierarchy than below text/plain: every element
    of the chain of the JSON family accepted the header too (so the clause also holds for the
    *parent* application/json of a GeoJSON / HAR / glTF leaf) -/
theorem json_in_chain_sound (ext : Ext) (x : Bytes) (lim : Nat) (i : Info)
    (hi : i ∈ (detect ext Gen.builtin x lim).chain) (hm : JsonFamily i.mime) :
    ∃ qs w, jsonHelper (header x lim) lim qs w = true := by
  obtain ⟨hdet, hacc⟩ := chain_kind ext Gen.builtin x lim (fun i => isFamilyMime i.mime)
    (fun i => isFamilyDet i.det) family_nodes.2.1 family_nodes.2.2 i hi (isFamilyMime_of _ hm)
  exact family_det_accepts ext lim i hdet hacc

theorem json_leaf_helper (ext : Ext) (x : Bytes) (lim : Nat) (leaf : Info)
    (hleaf : (detect ext Gen.builtin x lim).chain.head? = some leaf) (hm : JsonFamily leaf.mime) :
    ∃ qs w, jsonHelper (header x lim) lim qs w = true :=
  json_in_chain_sound ext x lim leaf (List.mem_of_mem_head? hleaf) hm

/-- **C09 through `Detect`**: if the reported leaf is of the JSON family (application/json incl.
    HAR, application/geo+json, model/gltf+json) then the examined header `header x lim` is
    — when the whole input was examined (limit 0, or input shorter than the limit) — a document
    of the relaxed JSON grammar, and — when the input was cut at the limit — a viable prefix of
    such a document, one that some continuation completes to a document.  For every `ext`. -/
theorem json_verdict_sound (ext : Ext) (x : Bytes) (lim : Nat) (leaf : Info)
    (hleaf : (detect ext Gen.builtin x lim).chain.head? = some leaf) (hm : JsonFamily leaf.mime) :
    (lim = 0 ∨ x.length < lim → J.relaxedDoc (header x lim) = true) ∧
    (lim ≠ 0 → lim ≤ x.length →
      J.viable (header x lim) = true ∧ ∃ rest : Bytes, J.relaxedDoc (header x lim ++ rest) = true) := by
  obtain ⟨qs, w, hh⟩ := json_leaf_helper ext x lim leaf hleaf hm
  obtain ⟨f1, f2⟩ := family_sound (header x lim) lim qs w hh
  refine ⟨fun hw => f1 (hw.imp_right fun h => ?_), fun h0 hl => f2 h0 ?_⟩
  · rwa [header_whole x lim (Or.inr (Nat.le_of_lt h))]
  · rw [header_cut_length x lim h0 hl]
    exact Nat.le_refl _

/-- **malformed JSON is not reported as JSON**: an input examined in full that is not a document
    of the relaxed grammar is reported with a leaf outside the JSON family -/
theorem malformed_not_json (ext : Ext) (x : Bytes) (lim : Nat) (leaf : Info)
    (hleaf : (detect ext Gen.builtin x lim).chain.head? = some leaf)
    (hw : lim = 0 ∨ x.length < lim) (hbad : J.relaxedDoc x = false) :
    leaf.mime ≠ mimeJson ∧ leaf.mime ≠ mimeGeoJson ∧ leaf.mime ≠ mimeGltfJson := by
  refine not_family_spelled (fun hm => ?_)
  have := (json_verdict_sound ext x lim leaf hleaf hm).1 hw
  rw [header_whole x lim (hw.imp_right Nat.le_of_lt), hbad] at this
  cases this

/-- … and a cut input whose examined prefix is not viable is not reported as JSON either -/
theorem unviable_not_json (ext : Ext) (x : Bytes) (lim : Nat) (leaf : Info)
    (hleaf : (detect ext Gen.builtin x lim).chain.head? = some leaf)
    (h0 : lim ≠ 0) (hl : lim ≤ x.length) (hbad : J.viable (x.take lim) = false) :
    leaf.mime ≠ mimeJson ∧ leaf.mime ≠ mimeGeoJson ∧ leaf.mime ≠ mimeGltfJson := by
  refine not_family_spelled (fun hm => ?_)
  have := ((json_verdict_sound ext x lim leaf hleaf hm).2 h0 hl).1
  rw [header, if_neg h0, hbad] at this
  cases this

/- The same about `Closed.detect`, the model with no external parameter left: what
   `mimetype.Detect` computes on the built-in tree. -/

theorem closed_json_verdict_sound (x : Bytes) (lim : Nat) (leaf : Info)
    (hleaf : (Closed.detect x lim).chain.head? = some leaf) (hm : JsonFamily leaf.mime) :
    (lim = 0 ∨ x.length < lim → J.relaxedDoc (header x lim) = true) ∧
    (lim ≠ 0 → lim ≤ x.length →
      J.viable (header x lim) = true ∧ ∃ rest : Bytes, J.relaxedDoc (header x lim ++ rest) = true) :=
  json_verdict_sound Closed.ext x lim leaf hleaf hm

theorem closed_malformed_not_json (x : Bytes) (lim : Nat) (leaf : Info)
    (hleaf : (Closed.detect x lim).chain.head? = some leaf)
    (hw : lim = 0 ∨ x.length < lim) (hbad : J.relaxedDoc x = false) :
    leaf.mime ≠ mimeJson ∧ leaf.mime ≠ mimeGeoJson ∧ leaf.mime ≠ mimeGltfJson :=
  malformed_not_json Closed.ext x lim leaf hleaf hw hbad

/-- `{"a":[1,true]}` -/
def exDoc : Bytes := [0x7B, 0x22, 0x61, 0x22, 0x3A, 0x5B, 0x31, 0x2C, 0x74, 0x72, 0x75, 0x65, 0x5D, 0x7D]

/-- a whole document at limit 0: the leaf is application/json, the hypothesis of the first clause
    holds, and the conclusion is what the reference recogniser says -/
example : ((Closed.detect exDoc 0).chain.map (·.mime)) = [mimeJson, mimeTextPlain, mimeOctet] := by
  decide +kernel
example : J.relaxedDoc (header exDoc 0) = true := by
  obtain ⟨leaf, h1, h2⟩ := Option.map_eq_some_iff.1
    (by decide +kernel : ((Closed.detect exDoc 0).chain.head?.map (·.mime)) = some mimeJson)
  exact (closed_json_verdict_sound exDoc 0 leaf h1 (Or.inl h2)).1 (Or.inl rfl)
example : J.relaxedDoc exDoc = true := by decide +kernel

/-- `[1,` cut at limit 3 (the input goes on: `[1,2]`): reported as application/json; the examined
    prefix is viable and not a document -/
example : ((Closed.detect [0x5B, 0x31, 0x2C, 0x32, 0x5D] 3).chain.map (·.mime)) =
      [mimeJson, mimeTextPlain, mimeOctet] ∧
    header [0x5B, 0x31, 0x2C, 0x32, 0x5D] 3 = [0x5B, 0x31, 0x2C] ∧
    J.viable [0x5B, 0x31, 0x2C] = true ∧ J.relaxedDoc [0x5B, 0x31, 0x2C] = false ∧
    J.relaxedDoc ([0x5B, 0x31, 0x2C] ++ [0x5D]) = true := by
  decide +kernel

/-- the same three bytes as a *whole* input (limit 0) are malformed — and reported as text/plain -/
example : J.relaxedDoc [0x5B, 0x31, 0x2C] = false ∧
    ((Closed.detect [0x5B, 0x31, 0x2C] 0).chain.map (·.mime)) = [mimeTextPlain, mimeOctet] := by
  decide +kernel

/-- a relaxed (trailing comma, liberal number) document is reported as JSON: the bound is the
    relaxed grammar, not RFC 8259 -/
example : ((Closed.detect [0x5B, 0x31, 0x2E, 0x2C, 0x5D] 0).chain.map (·.mime)) =
      [mimeJson, mimeTextPlain, mimeOctet] ∧
    J.relaxedDoc [0x5B, 0x31, 0x2E, 0x2C, 0x5D] = true ∧ J.strictDoc [0x5B, 0x31, 0x2E, 0x2C, 0x5D] = false := by
  decide +kernel

/-- a GeoJSON leaf: `{"type":"Point"}` -/
example : ((Closed.detect (ofString "{\"type\":\"Point\"}") 0).chain.map (·.mime)) =
      [mimeGeoJson, mimeJson, mimeTextPlain, mimeOctet] := by
  repeat rw [ofString_ofList]
  decide +kernel

end Mime.C09
