import MimeModel.Lemmas.C13Base
import MimeModel.Lemmas.Csv
/-
  C13 — line-oriented formats survive truncation and require well-formed lines.

  Lemmas/C13Base.lean: `dropLastLine`, NDJSON in both directions (uses the JSON simulations of
  C08/C09).  Model/Csv.lean: a byte-level model of Go's `encoding/csv` reader in the configuration
  `sv` uses (LazyQuotes, Comment '#', ReuseRecord, FieldsPerRecord 0), compared with the real
  package by the `det Csv|Tsv` and `lines` ops on every run; Lemmas/Csv.lean: what it computes.
-/
namespace Mime.C13
open Mime Mime.Cust Mime.Json Mime.Spec Mime.Csv Mime.CsvLemmas
open Mime.C13Base (lines LineOK ContainerLine joinLF NoLF RecordOK RecordContainer)

theorem dropLastLine_whole (b : Bytes) (lim : Nat) (h : lim = 0 ∨ b.length < lim) : dropLastLine b lim = b :=
  C13Base.dropLastLine_whole b lim h

theorem dropLastLine_prefix (b : Bytes) (lim : Nat) : dropLastLine b lim <+: b := C13Base.dropLastLine_prefix b lim

/-- in truncated mode everything from the last newline on is dropped: complete lines remain -/
theorem dropLastLine_cut (a p : Bytes) (lim : Nat) (ha : a ≠ []) (hp : NoLF p) (hl : lim ≠ 0)
    (hlen : lim ≤ (a ++ 0x0A :: p).length) : dropLastLine (a ++ 0x0A :: p) lim = a :=
  C13Base.dropLastLine_cut a p lim ha hp hl hlen

/-- **converse**: NDJSON reported ⇒ among the complete lines of the examined bytes there are at
    least two, each is blank or one complete JSON value (relaxed grammar) with only white space
    around it, and at least one is an object or array -/
theorem ndjson_sound (raw : Bytes) (lim : Nat) (h : ndjson raw lim = true) :
    let ls := lines (dropLastLine raw lim)
    2 ≤ ls.length ∧ (∀ l ∈ ls, LineOK l) ∧ ∃ l ∈ ls, ContainerLine l :=
  C13Base.ndjson_sound raw lim h

/-- **forward**: ≥ 2 records, one RFC 8259 value per line, at least one object/array ⇒ reported
    when examined whole (with or without a final newline) and when the limit cuts anywhere after
    these lines -/
theorem ndjson_complete (ls : List Bytes) (h2 : 2 ≤ ls.length) (hall : ∀ l ∈ ls, NoLF l ∧ RecordOK l)
    (hcont : ∃ l ∈ ls, RecordContainer l) :
    (∀ tail lim, (tail = [] ∨ tail = [0x0A]) → (lim = 0 ∨ (joinLF ls ++ tail).length < lim) →
      ndjson (joinLF ls ++ tail) lim = true) ∧
    (∀ part lim, NoLF part → lim ≠ 0 → lim ≤ (joinLF ls ++ 0x0A :: part).length →
      ndjson (joinLF ls ++ 0x0A :: part) lim = true) :=
  C13Base.ndjson_complete ls h2 hall hcont

/-- regenerated tie: the `Csv` and `Tsv` nodes of tree.go run `sv` with ',' and TAB -/
theorem csv_wiring :
    Gen.d_Csv = .custom .csv ∧ Gen.d_Tsv = .custom .tsv ∧
    (∀ raw lim, (Cust.customModel .csv).map (fun f => f raw lim) = some (some (sv raw lim 0x2C))) ∧
    (∀ raw lim, (Cust.customModel .tsv).map (fun f => f raw lim) = some (some (sv raw lim 0x09))) ∧
    validComma 0x2C = true ∧ validComma 0x09 = true :=
  ⟨by decide, by decide, fun _ _ => rfl, fun _ _ => rfl, by decide, by decide⟩

/-- what the `for { r.Read() }` loop and the final test of `sv` compute: at least two records,
    all with the same number k ≥ 2 of fields -/
theorem sv_iff (raw : Bytes) (lim comma : Nat) :
    sv raw lim comma = true ↔
      validComma comma = true ∧ ∃ k, 2 ≤ k ∧ 2 ≤ (records comma (dropLastLine raw lim)).length ∧
        ∀ c ∈ records comma (dropLastLine raw lim), c = k :=
  CsvLemmas.sv_iff raw lim comma

/-- on input without a double quote the csv reader is a plain line/delimiter counter: the records
    are the non-empty lines not starting with '#' (LF-separated, one CR before the LF or at the
    very end removed), each with (number of delimiters + 1) fields -/
theorem records_quoteFree (comma : Nat) (b : Bytes) (hl : comma ≠ 0x0A) (hq : 0x22 ∉ b) :
    records comma b = specCounts comma b :=
  CsvLemmas.records_quoteFree comma b hl hq

/-- **converse (quote-free input)**: CSV/TSV reported ⇒ the complete lines of the examined bytes
    contain at least two record lines, all with the same number (≥ 2) of fields -/
theorem sv_converse_quoteFree (raw : Bytes) (lim comma : Nat) (hq : 0x22 ∉ raw) (h : sv raw lim comma = true) :
    let cs := specCounts comma (dropLastLine raw lim)
    2 ≤ cs.length ∧ ∃ k, 2 ≤ k ∧ ∀ c ∈ cs, c = k :=
  CsvLemmas.sv_converse_quoteFree raw lim comma hq h

/-- **forward (plain cells, LF)**: a rectangular table (≥ 2 rows, ≥ 2 columns; cells free of
    delimiter, quote, CR, LF; no row empty or starting with '#') is reported when examined whole
    (with or without the final newline) and when the limit cuts anywhere after these rows -/
theorem sv_forward (comma : Nat) (hv : validComma comma = true) (rows : List (List Bytes)) (k : Nat)
    (h2 : 2 ≤ rows.length) (hk : 2 ≤ k) (hall : ∀ r ∈ rows, PlainRow comma r ∧ r.length = k) :
    (∀ tail lim, (tail = [] ∨ tail = [0x0A]) → (lim = 0 ∨ (table comma rows ++ tail).length < lim) →
      sv (table comma rows ++ tail) lim comma = true) ∧
    (∀ part lim, NoLF part → lim ≠ 0 → lim ≤ (table comma rows ++ 0x0A :: part).length →
      sv (table comma rows ++ 0x0A :: part) lim comma = true) :=
  CsvLemmas.sv_forward comma hv rows k h2 hk hall

/-- **forward (plain cells, CRLF)** -/
theorem sv_forward_crlf (comma : Nat) (hv : validComma comma = true) (rows : List (List Bytes)) (k : Nat)
    (h2 : 2 ≤ rows.length) (hk : 2 ≤ k) (hall : ∀ r ∈ rows, PlainRow comma r ∧ r.length = k) :
    (∀ tail lim, (tail = [] ∨ tail = [0x0A]) → (lim = 0 ∨ (tableCRLF comma rows ++ tail).length < lim) →
      sv (tableCRLF comma rows ++ tail) lim comma = true) ∧
    (∀ part lim, NoLF part → lim ≠ 0 → lim ≤ (tableCRLF comma rows ++ 0x0A :: part).length →
      sv (tableCRLF comma rows ++ 0x0A :: part) lim comma = true) :=
  CsvLemmas.sv_forward_crlf comma hv rows k h2 hk hall

/-- **forward (RFC 4180 quoted cells)**: cells may be quoted (`"` doubled inside; the body may
    contain delimiters, newlines, quotes, '#').  The cut must fall after a row-ending newline: a
    cut inside a quoted cell that spans lines is not covered (`dropLastLine` cuts at the last LF
    even inside quotes, and such input can be refused: `sv_cut_inside_quoted_cell` below) -/
theorem sv_forward_rfc4180 (comma : Nat) (hv : validComma comma = true) (rows : List (List Cell)) (k : Nat)
    (h2 : 2 ≤ rows.length) (hk : 2 ≤ k) (hall : ∀ r ∈ rows, QRow comma r ∧ r.length = k) :
    (∀ tail lim, (tail = [] ∨ tail = [0x0A]) → (lim = 0 ∨ (qtable comma rows ++ tail).length < lim) →
      sv (qtable comma rows ++ tail) lim comma = true) ∧
    (∀ part lim, NoLF part → lim ≠ 0 → lim ≤ (qtable comma rows ++ 0x0A :: part).length →
      sv (qtable comma rows ++ 0x0A :: part) lim comma = true) :=
  CsvLemmas.sv_forward_rfc4180 comma hv rows k h2 hk hall

/- non-vacuity / documented boundary: `a,b,c⏎d,"e⏎f",g⏎` is CSV when whole, but cut inside the
   quoted two-line cell (limit = 13 = length of the cut) it is refused: records of 3 and 2 fields -/
example : sv [0x61, 0x2C, 0x62, 0x2C, 0x63, 0x0A, 0x64, 0x2C, 0x22, 0x65, 0x0A, 0x66, 0x22, 0x2C, 0x67, 0x0A] 0 0x2C = true := by decide +kernel
theorem sv_cut_inside_quoted_cell :
    sv [0x61, 0x2C, 0x62, 0x2C, 0x63, 0x0A, 0x64, 0x2C, 0x22, 0x65, 0x0A, 0x66, 0x22] 13 0x2C = false := by decide +kernel
example : sv [0x61, 0x2C, 0x62, 0x0A, 0x31, 0x2C, 0x32, 0x0A] 0 0x2C = true := by decide +kernel
example : sv [0x61, 0x2C, 0x62, 0x0A, 0x31, 0x0A] 0 0x2C = false := by decide +kernel

/-- regenerated tie: `Detect` / `DetectReader` load the limit once, atomically (see Lemmas/DetectTie.lean) -/
theorem tie_single_limit : Mime.DetectTie.SingleLimit := Mime.DetectTie.single_limit

end Mime.C13
