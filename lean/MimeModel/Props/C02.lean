import MimeModel.Model.Detect
import MimeModel.Lemmas.MediaType
import MimeModel.Model.MediaType
import MimeModel.Lemmas.DetectSound
import MimeModel.Props.C15
import MimeModel.Gen.Tree
import MimeModel.Gen.Sync
/-
  C02 — the result is always a valid, registered MIME type with a rooted hierarchy.
-/
namespace Mime.C02
open Mime Mime.Tree Mime.MT

/-- **regenerated obligation**: every registered type is a lower-case `token/token` that
    `ParseMediaType` accepts unchanged and without parameters -/
theorem static_names_valid :
    Gen.builtin.flatten.all (fun i => decide (parse i.mime = (i.mime, [], .none))) = true := by
  rw [List.all_eq_true]
  intro i hi
  obtain ⟨maj, sub, hok⟩ := C15.registered_ok i hi i.mime (List.mem_cons_self ..)
  exact decide_eq_true (parse_typeOK i.mime maj sub hok)

/-- the root and the error value are application/octet-stream -/
theorem builtin_root : Gen.builtin.info.mime = mimeOctet ∧ Gen.n_errMIME.info.mime = mimeOctet := by decide

/-- regenerated fact: the charset parameter is attached for exactly the three text types -/
theorem needs_charset_keys :
    Gen.Sync.needsCharset = ["text/html=charset.FromHTML", "text/plain=charset.FromPlain", "text/xml=charset.FromXML"] := by
  decide

/-- **only the three text types carry a parameter** (for every tree, input and limit) -/
theorem charset_only_on_three (ext : Ext) (mime h : Bytes)
    (hne : charsetFor ext mime h ≠ []) : mime = mimeTextPlain ∨ mime = mimeTextHtml ∨ mime = mimeTextXml := by
  unfold charsetFor at hne
  by_cases h1 : (mime == mimeTextPlain) = true
  · left; simpa using h1
  · by_cases h2 : (mime == mimeTextHtml) = true
    · right; left; simpa using h2
    · by_cases h3 : (mime == mimeTextXml) = true
      · right; right; simpa using h3
      · simp [h1, h2, h3] at hne

/-- **the hierarchy is rooted and registered**: the chain of a detection result is the walked
    path reversed — it ends at the root of the tree and consists of nodes of the tree -/
theorem chain_rooted (ext : Ext) (T : Tree Info) (x : Bytes) (lim : Nat) :
    (detect ext T x lim).chain.getLast? = some T.info ∧
    ∀ i ∈ (detect ext T x lim).chain, i ∈ T.flatten :=
  ⟨DetectSound.chain_last ext T x lim, fun i hi => (DetectSound.chain_cases ext T x lim i hi).1⟩

/- non-vacuity -/
example : format1 mimeTextHtml kCharset [0x61, 0x3B, 0x62] =
    mimeTextHtml ++ [0x3B, 0x20] ++ kCharset ++ [0x3D, 0x22, 0x61, 0x3B, 0x62, 0x22] := by decide
example : parse (format1 mimeTextHtml kCharset [0x61, 0x3B, 0x62]) = (mimeTextHtml, [(kCharset, [0x61, 0x3B, 0x62])], .none) := by
  decide +kernel

theorem three_typeOK (mime : Bytes) (hm : mime = mimeTextPlain ∨ mime = mimeTextHtml ∨ mime = mimeTextXml) :
    ∃ maj sub, MT.TypeOK mime maj sub := by
  rcases hm with rfl | rfl | rfl
  · exact C15.typeOK_of_b _ (by decide)
  · exact C15.typeOK_of_b _ (by decide)
  · exact C15.typeOK_of_b _ (by decide)

/-- **the result string always parses**: whatever charset label detection attaches to one of
    the three text types — a token, something that has to be quoted, or arbitrary bytes that
    have to be RFC 2231-encoded — `String()` is read back by `mime.ParseMediaType` as that type
    with the single parameter `charset` = the label, and without error -/
theorem text_result_parses (mime cs : Bytes) (hm : mime = mimeTextPlain ∨ mime = mimeTextHtml ∨ mime = mimeTextXml)
    (hb : AllBytes cs) :
    MT.parse (MT.withCharset mime cs) = (mime, if cs.isEmpty then [] else [(MT.kCharset, cs)], .none) := by
  obtain ⟨maj, sub, hok⟩ := three_typeOK mime hm
  unfold MT.withCharset
  cases cs with
  | nil => exact MT.parse_typeOK mime maj sub hok
  | cons c cs' => exact MT.format_parse_roundtrip mime maj sub (c :: cs') hok (List.cons_ne_nil _ _) hb

/-- **C02 (String of every detection result over the built-in tree)**: it parses, its type is the
    registered type of the reported leaf, and it carries a parameter — `charset` — only when
    the leaf is one of the three text types -/
theorem result_string (ext : Ext) (x : Bytes) (lim : Nat) (leaf : Info) (rest : List Info)
    (hchain : (detect ext Gen.builtin x lim).chain = leaf :: rest)
    (hb : AllBytes (detect ext Gen.builtin x lim).charset) :
    ∃ ps, MT.parse (MT.withCharset leaf.mime (detect ext Gen.builtin x lim).charset) = (leaf.mime, ps, .none) ∧
      (ps = [] ∨ (ps = [(MT.kCharset, (detect ext Gen.builtin x lim).charset)] ∧
        (leaf.mime = mimeTextPlain ∨ leaf.mime = mimeTextHtml ∨ leaf.mime = mimeTextXml))) := by
  have hmem : leaf ∈ Gen.builtin.flatten := (chain_rooted ext Gen.builtin x lim).2 leaf (by rw [hchain]; exact List.mem_cons_self ..)
  have hcs : (detect ext Gen.builtin x lim).charset = charsetFor ext leaf.mime (header x lim) := by
    simp only [detect] at hchain ⊢
    rw [hchain]
  by_cases hne : (detect ext Gen.builtin x lim).charset = []
  · rw [hne]
    refine ⟨[], ?_, Or.inl rfl⟩
    have hs := static_names_valid
    rw [List.all_eq_true] at hs
    have := hs leaf hmem
    simp only [decide_eq_true_eq] at this
    simpa [MT.withCharset] using this
  · have h3 := charset_only_on_three ext leaf.mime (header x lim) (by rw [← hcs]; exact hne)
    refine ⟨[(MT.kCharset, (detect ext Gen.builtin x lim).charset)], ?_, Or.inr ⟨rfl, h3⟩⟩
    have := text_result_parses leaf.mime _ h3 hb
    have he : (detect ext Gen.builtin x lim).charset.isEmpty = false := by
      cases h : (detect ext Gen.builtin x lim).charset with
      | nil => exact absurd h hne
      | cons _ _ => rfl
    rw [he] at this
    simpa using this

end Mime.C02
