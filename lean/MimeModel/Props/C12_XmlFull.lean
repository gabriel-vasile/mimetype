import MimeModel.Lemmas.XmlFull
/-
  C12, XML clause, for every label.  charset.go lower-cases the label of an XML declaration with Go's
  Unicode `strings.ToLower`; `Model/ToLower.lean` models that function for every byte string (UTF-8
  decoding as Go does it, the simple lower-case mapping of the installed toolchain's unicode tables —
  `Model/ToLowerTable.lean`, 1433 pairs, regenerated by `./check prepare` —, U+FFFD for every invalid
  byte, the ASCII fast path), compared with the real function on every `walk` / `cs xml` op of every run.
-/
namespace Mime.C12
open Mime Mime.Charset Mime.XmlTok Mime.Lower Mime.XmlFull

/-- on ASCII the full model is the byte-wise lower-casing `Props/C12_Xml.lean` speaks of -/
theorem goToLower_ascii (s : Bytes) (h : ∀ b ∈ s, b < 0x80) : goToLower s = Charset.lowerASCII s :=
  Lower.goToLower_ascii s h

/-- lower-casing twice changes nothing, for every byte string (invalid UTF-8 included) -/
theorem goToLower_idem (s : Bytes) : goToLower (goToLower s) = goToLower s := Lower.goToLower_idem s

/-- C12 (XML), every label: when the first raw token of the document is a processing instruction
    with a non-empty encoding value, `FromXML` reports that value lower-cased by `strings.ToLower` -/
theorem xml_label_reported (content i : Bytes) (hi : firstProcInst (trimLWS content) = some i)
    (hne : xmlEncoding i ≠ []) :
    fromXMLBytesFull content = goToLower (xmlEncoding i) ∧ fromXMLDeclFull content = goToLower (xmlEncoding i) :=
  XmlFull.fromXMLBytesFull_declared content i hi hne

/-- the byte-level theorem `xml_declared_bytes` carries over to the full model -/
theorem xml_declared_bytes_full (lead S L tail rest : Bytes) (q : Nat)
    (hlead : ∀ c ∈ lead, isWS c = true) (hq : q = 0x22 ∨ q = 0x27)
    (hS : ∀ c ∈ S, isXmlSpace c = true)
    (hL : ∀ c ∈ L, MT.isTokenChar c = true ∧ c ≠ 0x27) (hne : L ≠ [])
    (ht : XmlTokLemmas.TailForm tail) :
    fromXMLBytesFull (lead ++ XmlTokLemmas.prologStart ++ [0x20] ++ kwVersionEq ++ [q] ++ v10 ++ [q] ++ S ++
        kwEncodingEq ++ [q] ++ L ++ [q] ++ tail ++ piEnd ++ rest) = lowerASCII L ∧
    fromXMLDeclFull (lead ++ XmlTokLemmas.prologStart ++ [0x20] ++ kwVersionEq ++ [q] ++ v10 ++ [q] ++ S ++
        kwEncodingEq ++ [q] ++ L ++ [q] ++ tail ++ piEnd ++ rest) = lowerASCII L :=
  XmlFull.xml_declared_bytes_full lead S L tail rest q hlead hq hS hL hne ht

/-- the full model agrees with the ASCII one whenever the label is ASCII -/
theorem fromXMLFull_of_ascii_label (content : Bytes) (inst : Option Bytes)
    (h : ∀ i, inst = some i → ∀ b ∈ xmlEncoding i, b < 0x80) :
    fromXMLFull content inst = Charset.fromXML content inst := XmlFull.fromXMLFull_of_ascii_label content inst h

/-- `É` → `é`, the Kelvin sign → `k`, an invalid byte → U+FFFD -/
example : goToLower [0xC3, 0x89] = [0xC3, 0xA9] ∧ goToLower [0xE2, 0x84, 0xAA] = [0x6B] ∧ goToLower [0xFF] = [0xEF, 0xBF, 0xBD] := by
  simp only [goToLower_eq_fast]; decide +kernel

end Mime.C12
