import MimeModel.Lemmas.C19Reported
/-
  C19, the OOXML, JAR and APK clauses, from the zip layout (Spec/Zip.lean) to the result of `Detect`
  (limit 0): "a package whose first entry is [Content_Types].xml and that has a word/, xl/ or ppt/
  part among its first six entries is reported as docx, xlsx or pptx respectively; an archive whose
  first entry is META-INF/MANIFEST.MF is reported as JAR; … parent application/zip."
  The archive is `archive (e1 :: mid ++ em :: rest) tail`, `em` the marker entry among entries 2..6;
  sizes in the first header (`hcsize : … = e1.data.length`, `hsmall`) or streamed (`… = 0`).
  Every rival rejects by proof except the OOXML siblings in front of the format and apk in front of
  jar, which accept when their marker is reachable: hence `hprio` / `hapk` on entry names — within the
  first six entries (what the walk of zip.go visits), or, `…_clean`, in a wholly clean archive.
  `incomp a b`: neither starts with the other; the walk reads past the end of a shorter name.
-/
namespace Mime.C19
open Mime Mime.Spec.Zip Mime.ZipLayout Mime.ZipConverse Mime.ZipOdf Mime.C19Odf Mime.C19Rep

/-- the five entry names the APK check looks for -/
theorem apk_markers : apkMarkers =
    [ofString "AndroidManifest.xml", ofString "META-INF/com/android/build/gradle/app-metadata.properties",
     ofString "classes.dex", ofString "resources.arsc", ofString "res/drawable"] :=
  congrArg (List.take 5) apkJarMarkers_eq

/-- regenerated: what is consulted before each of the five formats (at the root, then below zip),
    and which of these detectors do not reject by shape — the OOXML siblings, apk -/
theorem reported_rivals :
    (WalkPath.rivals (zipPath "xlsx") Gen.builtin).map (·.info.name) = ["xpm", "sevenZ"] ∧
    (WalkPath.rivals (zipPath "docx") Gen.builtin).map (·.info.name) = ["xpm", "sevenZ", "xlsx"] ∧
    (WalkPath.rivals (zipPath "pptx") Gen.builtin).map (·.info.name) = ["xpm", "sevenZ", "xlsx", "docx"] ∧
    (WalkPath.rivals (zipPath "apk") Gen.builtin).map (·.info.name) =
      ["xpm", "sevenZ", "xlsx", "docx", "pptx", "epub", "odt", "ods", "odp", "odg", "odf", "odc", "sxc"] ∧
    (WalkPath.rivals (zipPath "jar") Gen.builtin).map (·.info.name) =
      ["xpm", "sevenZ", "xlsx", "docx", "pptx", "epub", "odt", "ods", "odp", "odg", "odf", "odc", "sxc", "apk"] ∧
    ((WalkPath.rivals (zipPath "docx") Gen.builtin).filter (fun d => !rejN ctB d.info.det)).map (·.info.name) = ["xlsx"] ∧
    ((WalkPath.rivals (zipPath "pptx") Gen.builtin).filter (fun d => !rejN ctB d.info.det)).map (·.info.name) = ["xlsx", "docx"] ∧
    ((WalkPath.rivals (zipPath "jar") Gen.builtin).filter (fun d => !rejN mfB d.info.det)).map (·.info.name) = ["apk"] := by
  refine ⟨by decide, by decide, by decide, by decide, by decide, by decide, by decide, by decide⟩

/-- the registered types of the five formats -/
theorem reported_mimes :
    (zipChild "xlsx").info.mime = ofString "application/vnd.openxmlformats-officedocument.spreadsheetml.sheet" ∧
    (zipChild "docx").info.mime = ofString "application/vnd.openxmlformats-officedocument.wordprocessingml.document" ∧
    (zipChild "pptx").info.mime = ofString "application/vnd.openxmlformats-officedocument.presentationml.presentation" ∧
    (zipChild "apk").info.mime = ofString "application/vnd.android.package-archive" ∧
    (zipChild "jar").info.mime = ofString "application/jar" := by
  repeat rw [ofString_ofList]
  decide +kernel

/-- **xlsx**: first entry `[Content_Types].xml`, an `xl/` part among entries 2..6 ⇒ reported as
    xlsx, parent application/zip (no sibling in front: the hypotheses of `ooxml_layout`) -/
theorem xlsx_reported (ext : Ext) (e1 : Entry) (mid : List Entry) (em : Entry) (rest : List Entry) (tail : Bytes)
    (hwf : ∀ e ∈ e1 :: mid ++ [em], e.WF) (hclean : ∀ e ∈ e1 :: mid, e.Clean)
    (hreal : ∀ e ∈ mid, e.Realistic) (hmid : mid.length ≤ 4)
    (hname : e1.name = ofString "[Content_Types].xml") (hcsize : e1.csizeField = e1.data.length)
    (hsmall : (archive (e1 :: mid ++ em :: rest) tail).length < 4294967296)
    (hmark : hasPrefix em.name (ofString "xl/") = true) :
    (detect ext Gen.builtin (archive (e1 :: mid ++ em :: rest) tail) 0).chain =
      [(zipChild "xlsx").info, zipNode.info, Gen.builtin.info] ∧
    zipNode.info.mime = ofString "application/zip" := by
  rw [xlB_eq] at hmark
  exact ⟨ooxml_found ext ("xlsx", xlB, []) (by simp [ooxmlTable]) e1 mid em rest tail hwf hclean hreal hmid hname
    (ct_first_hop e1 (mid ++ em :: rest) tail (hwf e1 (by simp)) hname (Or.inl hcsize) (fun _ => hsmall)) hmark
    (by simp), zip_parent.1⟩

theorem xlsx_reported_streamed (ext : Ext) (e1 : Entry) (mid : List Entry) (em : Entry) (rest : List Entry) (tail : Bytes)
    (hwf : ∀ e ∈ e1 :: mid ++ [em], e.WF) (hclean : ∀ e ∈ e1 :: mid, e.Clean)
    (hreal : ∀ e ∈ mid, e.Realistic) (hmid : mid.length ≤ 4)
    (hname : e1.name = ofString "[Content_Types].xml") (hcsize : e1.csizeField = 0)
    (hmark : hasPrefix em.name (ofString "xl/") = true) :
    (detect ext Gen.builtin (archive (e1 :: mid ++ em :: rest) tail) 0).chain =
      [(zipChild "xlsx").info, zipNode.info, Gen.builtin.info] ∧
    zipNode.info.mime = ofString "application/zip" := by
  rw [xlB_eq] at hmark
  exact ⟨ooxml_found ext ("xlsx", xlB, []) (by simp [ooxmlTable]) e1 mid em rest tail hwf hclean hreal hmid hname
    (ct_first_hop e1 (mid ++ em :: rest) tail (hwf e1 (by simp)) hname (Or.inr hcsize) (fun h => absurd hcsize h))
    hmark (by simp), zip_parent.1⟩

/-- **docx**: first entry `[Content_Types].xml`, a `word/` part among entries 2..6, and none of the
    other names among the first six entries is comparable with `xl/` (`hprio`: sibling priority)
    ⇒ reported as docx, parent application/zip.  The first six entries are well-formed, the first
    five clean, entries 2..5 of realistic length; with fewer than six entries the tail is clean. -/
theorem docx_reported (ext : Ext) (e1 : Entry) (mid : List Entry) (em : Entry) (rest : List Entry) (tail : Bytes)
    (hwf : ∀ e ∈ e1 :: (mid ++ em :: rest).take 5, e.WF)
    (hclean : ∀ e ∈ e1 :: (mid ++ em :: rest).take 4, e.Clean)
    (hreal : ∀ e ∈ (mid ++ em :: rest).take 4, e.Realistic) (hmid : mid.length ≤ 4)
    (hend : 5 ≤ (mid ++ em :: rest).length ∨ CleanTail tail)
    (hname : e1.name = ofString "[Content_Types].xml") (hcsize : e1.csizeField = e1.data.length)
    (hsmall : (archive (e1 :: mid ++ em :: rest) tail).length < 4294967296)
    (hmark : hasPrefix em.name (ofString "word/") = true)
    (hprio : ∀ e ∈ mid ++ rest.take (4 - mid.length), incomp e.name (ofString "xl/") = true) :
    (detect ext Gen.builtin (archive (e1 :: mid ++ em :: rest) tail) 0).chain =
      [(zipChild "docx").info, zipNode.info, Gen.builtin.info] ∧
    zipNode.info.mime = ofString "application/zip" := by
  rw [wordB_eq] at hmark
  rw [xlB_eq] at hprio
  exact ⟨ooxml_reported_window ext ("docx", wordB, [xlB]) (by simp [ooxmlTable]) e1 mid em rest tail hwf hclean
    hreal hmid hend hname (Or.inl hcsize) (fun _ => hsmall) hmark (prio_one hprio), zip_parent.1⟩

theorem docx_reported_streamed (ext : Ext) (e1 : Entry) (mid : List Entry) (em : Entry) (rest : List Entry) (tail : Bytes)
    (hwf : ∀ e ∈ e1 :: (mid ++ em :: rest).take 5, e.WF)
    (hclean : ∀ e ∈ e1 :: (mid ++ em :: rest).take 4, e.Clean)
    (hreal : ∀ e ∈ (mid ++ em :: rest).take 4, e.Realistic) (hmid : mid.length ≤ 4)
    (hend : 5 ≤ (mid ++ em :: rest).length ∨ CleanTail tail)
    (hname : e1.name = ofString "[Content_Types].xml") (hcsize : e1.csizeField = 0)
    (hmark : hasPrefix em.name (ofString "word/") = true)
    (hprio : ∀ e ∈ mid ++ rest.take (4 - mid.length), incomp e.name (ofString "xl/") = true) :
    (detect ext Gen.builtin (archive (e1 :: mid ++ em :: rest) tail) 0).chain =
      [(zipChild "docx").info, zipNode.info, Gen.builtin.info] ∧
    zipNode.info.mime = ofString "application/zip" := by
  rw [wordB_eq] at hmark
  rw [xlB_eq] at hprio
  exact ⟨ooxml_reported_window ext ("docx", wordB, [xlB]) (by simp [ooxmlTable]) e1 mid em rest tail hwf
    hclean hreal hmid hend hname (Or.inr hcsize) (fun h => absurd hcsize h) hmark (prio_one hprio), zip_parent.1⟩

/-- the whole-archive form: every entry well-formed and clean, clean tail, no name (other than the
    first and the marker entry's) comparable with `xl/`; realistic length only in front of the
    marker entry -/
theorem docx_reported_clean (ext : Ext) (e1 : Entry) (mid : List Entry) (em : Entry) (rest : List Entry) (tail : Bytes)
    (hwf : ∀ e ∈ e1 :: mid ++ em :: rest, e.WF)
    (hclean : ∀ e ∈ e1 :: mid ++ em :: rest, e.Clean) (htail : CleanTail tail)
    (hreal : ∀ e ∈ mid, e.Realistic) (hmid : mid.length ≤ 4)
    (hname : e1.name = ofString "[Content_Types].xml") (hcsize : e1.csizeField = e1.data.length)
    (hsmall : (archive (e1 :: mid ++ em :: rest) tail).length < 4294967296)
    (hmark : hasPrefix em.name (ofString "word/") = true)
    (hprio : ∀ e ∈ mid ++ rest, incomp e.name (ofString "xl/") = true) :
    (detect ext Gen.builtin (archive (e1 :: mid ++ em :: rest) tail) 0).chain =
      [(zipChild "docx").info, zipNode.info, Gen.builtin.info] ∧
    zipNode.info.mime = ofString "application/zip" := by
  rw [wordB_eq] at hmark
  rw [xlB_eq] at hprio
  exact ⟨ooxml_reported ext ("docx", wordB, [xlB]) (by simp [ooxmlTable]) e1 mid em rest tail hwf hclean htail
    hreal hmid hname (Or.inl hcsize) (fun _ => hsmall) hmark (prio_one hprio), zip_parent.1⟩

theorem docx_reported_clean_streamed (ext : Ext) (e1 : Entry) (mid : List Entry) (em : Entry) (rest : List Entry)
    (tail : Bytes)
    (hwf : ∀ e ∈ e1 :: mid ++ em :: rest, e.WF)
    (hclean : ∀ e ∈ e1 :: mid ++ em :: rest, e.Clean) (htail : CleanTail tail)
    (hreal : ∀ e ∈ mid, e.Realistic) (hmid : mid.length ≤ 4)
    (hname : e1.name = ofString "[Content_Types].xml") (hcsize : e1.csizeField = 0)
    (hmark : hasPrefix em.name (ofString "word/") = true)
    (hprio : ∀ e ∈ mid ++ rest, incomp e.name (ofString "xl/") = true) :
    (detect ext Gen.builtin (archive (e1 :: mid ++ em :: rest) tail) 0).chain =
      [(zipChild "docx").info, zipNode.info, Gen.builtin.info] ∧
    zipNode.info.mime = ofString "application/zip" := by
  rw [wordB_eq] at hmark
  rw [xlB_eq] at hprio
  exact ⟨ooxml_reported ext ("docx", wordB, [xlB]) (by simp [ooxmlTable]) e1 mid em rest tail hwf hclean
    htail hreal hmid hname (Or.inr hcsize) (fun h => absurd hcsize h) hmark (prio_one hprio), zip_parent.1⟩

/-- **pptx**: first entry `[Content_Types].xml`, a `ppt/` part among entries 2..6, and none of the
    other names among the first six entries is comparable with `xl/` or `word/` -/
theorem pptx_reported (ext : Ext) (e1 : Entry) (mid : List Entry) (em : Entry) (rest : List Entry) (tail : Bytes)
    (hwf : ∀ e ∈ e1 :: (mid ++ em :: rest).take 5, e.WF)
    (hclean : ∀ e ∈ e1 :: (mid ++ em :: rest).take 4, e.Clean)
    (hreal : ∀ e ∈ (mid ++ em :: rest).take 4, e.Realistic) (hmid : mid.length ≤ 4)
    (hend : 5 ≤ (mid ++ em :: rest).length ∨ CleanTail tail)
    (hname : e1.name = ofString "[Content_Types].xml") (hcsize : e1.csizeField = e1.data.length)
    (hsmall : (archive (e1 :: mid ++ em :: rest) tail).length < 4294967296)
    (hmark : hasPrefix em.name (ofString "ppt/") = true)
    (hprio : ∀ e ∈ mid ++ rest.take (4 - mid.length),
      incomp e.name (ofString "xl/") = true ∧ incomp e.name (ofString "word/") = true) :
    (detect ext Gen.builtin (archive (e1 :: mid ++ em :: rest) tail) 0).chain =
      [(zipChild "pptx").info, zipNode.info, Gen.builtin.info] ∧
    zipNode.info.mime = ofString "application/zip" := by
  rw [pptB_eq] at hmark
  rw [xlB_eq, wordB_eq] at hprio
  exact ⟨ooxml_reported_window ext ("pptx", pptB, [xlB, wordB]) (by simp [ooxmlTable]) e1 mid em rest tail hwf
    hclean hreal hmid hend hname (Or.inl hcsize) (fun _ => hsmall) hmark (prio_two hprio), zip_parent.1⟩

theorem pptx_reported_streamed (ext : Ext) (e1 : Entry) (mid : List Entry) (em : Entry) (rest : List Entry) (tail : Bytes)
    (hwf : ∀ e ∈ e1 :: (mid ++ em :: rest).take 5, e.WF)
    (hclean : ∀ e ∈ e1 :: (mid ++ em :: rest).take 4, e.Clean)
    (hreal : ∀ e ∈ (mid ++ em :: rest).take 4, e.Realistic) (hmid : mid.length ≤ 4)
    (hend : 5 ≤ (mid ++ em :: rest).length ∨ CleanTail tail)
    (hname : e1.name = ofString "[Content_Types].xml") (hcsize : e1.csizeField = 0)
    (hmark : hasPrefix em.name (ofString "ppt/") = true)
    (hprio : ∀ e ∈ mid ++ rest.take (4 - mid.length),
      incomp e.name (ofString "xl/") = true ∧ incomp e.name (ofString "word/") = true) :
    (detect ext Gen.builtin (archive (e1 :: mid ++ em :: rest) tail) 0).chain =
      [(zipChild "pptx").info, zipNode.info, Gen.builtin.info] ∧
    zipNode.info.mime = ofString "application/zip" := by
  rw [pptB_eq] at hmark
  rw [xlB_eq, wordB_eq] at hprio
  exact ⟨ooxml_reported_window ext ("pptx", pptB, [xlB, wordB]) (by simp [ooxmlTable]) e1 mid em rest tail
    hwf hclean hreal hmid hend hname (Or.inr hcsize) (fun h => absurd hcsize h) hmark (prio_two hprio), zip_parent.1⟩

theorem pptx_reported_clean (ext : Ext) (e1 : Entry) (mid : List Entry) (em : Entry) (rest : List Entry) (tail : Bytes)
    (hwf : ∀ e ∈ e1 :: mid ++ em :: rest, e.WF)
    (hclean : ∀ e ∈ e1 :: mid ++ em :: rest, e.Clean) (htail : CleanTail tail)
    (hreal : ∀ e ∈ mid, e.Realistic) (hmid : mid.length ≤ 4)
    (hname : e1.name = ofString "[Content_Types].xml") (hcsize : e1.csizeField = e1.data.length)
    (hsmall : (archive (e1 :: mid ++ em :: rest) tail).length < 4294967296)
    (hmark : hasPrefix em.name (ofString "ppt/") = true)
    (hprio : ∀ e ∈ mid ++ rest,
      incomp e.name (ofString "xl/") = true ∧ incomp e.name (ofString "word/") = true) :
    (detect ext Gen.builtin (archive (e1 :: mid ++ em :: rest) tail) 0).chain =
      [(zipChild "pptx").info, zipNode.info, Gen.builtin.info] ∧
    zipNode.info.mime = ofString "application/zip" := by
  rw [pptB_eq] at hmark
  rw [xlB_eq, wordB_eq] at hprio
  exact ⟨ooxml_reported ext ("pptx", pptB, [xlB, wordB]) (by simp [ooxmlTable]) e1 mid em rest tail hwf
    hclean htail hreal hmid hname (Or.inl hcsize) (fun _ => hsmall) hmark (prio_two hprio), zip_parent.1⟩

theorem pptx_reported_clean_streamed (ext : Ext) (e1 : Entry) (mid : List Entry) (em : Entry) (rest : List Entry)
    (tail : Bytes)
    (hwf : ∀ e ∈ e1 :: mid ++ em :: rest, e.WF)
    (hclean : ∀ e ∈ e1 :: mid ++ em :: rest, e.Clean) (htail : CleanTail tail)
    (hreal : ∀ e ∈ mid, e.Realistic) (hmid : mid.length ≤ 4)
    (hname : e1.name = ofString "[Content_Types].xml") (hcsize : e1.csizeField = 0)
    (hmark : hasPrefix em.name (ofString "ppt/") = true)
    (hprio : ∀ e ∈ mid ++ rest,
      incomp e.name (ofString "xl/") = true ∧ incomp e.name (ofString "word/") = true) :
    (detect ext Gen.builtin (archive (e1 :: mid ++ em :: rest) tail) 0).chain =
      [(zipChild "pptx").info, zipNode.info, Gen.builtin.info] ∧
    zipNode.info.mime = ofString "application/zip" := by
  rw [pptB_eq] at hmark
  rw [xlB_eq, wordB_eq] at hprio
  exact ⟨ooxml_reported ext ("pptx", pptB, [xlB, wordB]) (by simp [ooxmlTable]) e1 mid em rest tail hwf
    hclean htail hreal hmid hname (Or.inr hcsize) (fun h => absurd hcsize h) hmark (prio_two hprio), zip_parent.1⟩

/-- **JAR**: first entry `META-INF/MANIFEST.MF` ⇒ reported as JAR, parent application/zip — when
    the APK check, consulted first, finds none of its five marker names: here the first six
    entries are well-formed, the first five clean, entries 2..5 of realistic length, none of the
    names of entries 2..6 is comparable with an APK marker, and the manifest's header carries its
    stored size (or 0: streamed).  Nothing is asked of the entries after the sixth. -/
theorem jar_reported (ext : Ext) (e1 : Entry) (es : List Entry) (tail : Bytes)
    (hname : e1.name = ofString "META-INF/MANIFEST.MF")
    (hwf : ∀ e ∈ e1 :: es.take 5, e.WF)
    (hclean : ∀ e ∈ e1 :: es.take 4, e.Clean) (hreal : ∀ e ∈ es.take 4, e.Realistic)
    (hcsize : e1.csizeField = e1.data.length ∨ e1.csizeField = 0)
    (hsmall : (archive (e1 :: es) tail).length < 4294967296)
    (hend : 5 ≤ es.length ∨ CleanTail tail)
    (hapk : ∀ e ∈ es.take 5, ∀ s ∈ apkMarkers, incomp e.name s = true) :
    (detect ext Gen.builtin (archive (e1 :: es) tail) 0).chain =
      [(zipChild "jar").info, zipNode.info, Gen.builtin.info] ∧
    zipNode.info.mime = ofString "application/zip" := by
  have hwf1 := hwf e1 (by simp)
  have hhop := mf_first_hop e1 es tail hwf1 hname hcsize (fun _ => hsmall)
  exact ⟨jar_core ext e1 es tail hwf1 hname fun s hs =>
    C19Rep.window_absent e1 es tail s false hwf hclean hreal hhop.1 hhop.2 hend
      (List.forall_mem_cons.mpr ⟨mf_apk_incomp e1 hname s hs, fun e he => hapk e he s hs⟩), zip_parent.1⟩

/-- the whole-archive form: every entry well-formed and clean, clean tail, no name comparable with
    an APK marker; nothing about lengths, nothing about the size field -/
theorem jar_reported_clean (ext : Ext) (e1 : Entry) (es : List Entry) (tail : Bytes)
    (hname : e1.name = ofString "META-INF/MANIFEST.MF")
    (hwf : ∀ e ∈ e1 :: es, e.WF) (hclean : ∀ e ∈ e1 :: es, e.Clean) (htail : CleanTail tail)
    (hapk : ∀ e ∈ es, ∀ s ∈ apkMarkers, incomp e.name s = true) :
    (detect ext Gen.builtin (archive (e1 :: es) tail) 0).chain =
      [(zipChild "jar").info, zipNode.info, Gen.builtin.info] ∧
    zipNode.info.mime = ofString "application/zip" :=
  ⟨C19Rep.jar_reported ext e1 es tail hname hwf hclean htail hapk, zip_parent.1⟩

/-- **APK before JAR**: manifest first and a name starting with one of the five APK markers among
    entries 2..6 ⇒ reported as APK, parent application/zip.  No rival hypothesis: everything
    consulted before apk rejects an archive whose first entry is the manifest. -/
theorem apk_reported (ext : Ext) (e1 : Entry) (mid : List Entry) (em : Entry) (rest : List Entry)
    (tail s : Bytes) (hs : s ∈ apkMarkers)
    (hwf : ∀ e ∈ e1 :: mid ++ [em], e.WF) (hclean : ∀ e ∈ e1 :: mid, e.Clean)
    (hreal : ∀ e ∈ mid, e.Realistic) (hmid : mid.length ≤ 4)
    (hname : e1.name = ofString "META-INF/MANIFEST.MF") (hcsize : e1.csizeField = e1.data.length)
    (hsmall : (archive (e1 :: mid ++ em :: rest) tail).length < 4294967296)
    (hmark : hasPrefix em.name s = true) :
    (detect ext Gen.builtin (archive (e1 :: mid ++ em :: rest) tail) 0).chain =
      [(zipChild "apk").info, zipNode.info, Gen.builtin.info] ∧
    zipNode.info.mime = ofString "application/zip" :=
  ⟨C19Rep.apk_reported ext e1 mid em rest tail s hs hwf hclean hreal hmid hname hcsize hsmall hmark, zip_parent.1⟩

theorem apk_reported_streamed (ext : Ext) (e1 : Entry) (mid : List Entry) (em : Entry) (rest : List Entry)
    (tail s : Bytes) (hs : s ∈ apkMarkers)
    (hwf : ∀ e ∈ e1 :: mid ++ [em], e.WF) (hclean : ∀ e ∈ e1 :: mid, e.Clean)
    (hreal : ∀ e ∈ mid, e.Realistic) (hmid : mid.length ≤ 4)
    (hname : e1.name = ofString "META-INF/MANIFEST.MF") (hcsize : e1.csizeField = 0)
    (hmark : hasPrefix em.name s = true) :
    (detect ext Gen.builtin (archive (e1 :: mid ++ em :: rest) tail) 0).chain =
      [(zipChild "apk").info, zipNode.info, Gen.builtin.info] ∧
    zipNode.info.mime = ofString "application/zip" :=
  ⟨apk_found ext e1 mid em rest tail s hs hwf hclean hreal hmid hname (Or.inr hcsize) (fun h => absurd hcsize h) hmark,
    zip_parent.1⟩

/-- **the walk sees only the first six entries** (what the main theorems rest on): the first six
    entries well-formed with names not comparable with the marker, the first five clean, entries
    2..5 of realistic length, the first hop inside entry 1, a clean tail if the archive ends
    earlier ⇒ `false`, whatever follows -/
theorem window_absent (e1 : Entry) (es : List Entry) (tail sig : Bytes) (mso : Bool)
    (hwf : ∀ e ∈ e1 :: es.take 5, e.WF)
    (hclean : ∀ e ∈ e1 :: es.take 4, e.Clean) (hreal : ∀ e ∈ es.take 4, e.Realistic)
    (hfirst : e1.csizeField + 49 ≤ 30 + e1.name.length + e1.extra.length + e1.data.length + e1.desc.length)
    (hnowrap : e1.csizeField + 49 < 4294967296)
    (hend : 5 ≤ es.length ∨ CleanTail tail)
    (hno : ∀ e ∈ e1 :: es.take 5, incomp e.name sig = true) :
    zipContains (archive (e1 :: es) tail) sig mso = some false :=
  C19Rep.window_absent e1 es tail sig mso hwf hclean hreal hfirst hnowrap hend hno

namespace RepEx

/-- `xl/workbook.xml`, `ppt/presentation.xml`, `classes.dex`, `Main.class`: stored, 20/10/20/20 bytes -/
def exXl : Entry := ⟨exFixed 20 15, [120, 108, 47, 119, 111, 114, 107, 98, 111, 111, 107, 46, 120, 109, 108], [], List.replicate 20 120, []⟩
def exPpt : Entry := ⟨exFixed 10 20, [112, 112, 116, 47, 112, 114, 101, 115, 101, 110, 116, 97, 116, 105, 111, 110, 46, 120, 109, 108], [], List.replicate 10 120, []⟩
def exDex : Entry := ⟨exFixed 20 11, [99, 108, 97, 115, 115, 101, 115, 46, 100, 101, 120], [], List.replicate 20 120, []⟩
def exClass : Entry := ⟨exFixed 20 10, [77, 97, 105, 110, 46, 99, 108, 97, 115, 115], [], List.replicate 20 120, []⟩
/-- a 16-byte data descriptor -/
def exDesc : Bytes := [0x50, 0x4B, 7, 8, 0xDE, 0xAD, 0xBE, 0xEF, 5, 0, 0, 0, 5, 0, 0, 0]
/-- streamed first entries: size fields 0, descriptor after the data -/
def ex1s : Entry := ⟨exFixed 0 19, C19Base.exContentTypes, [], List.replicate 5 120, exDesc⟩
def exMfS : Entry := ⟨exFixed 0 20, C19Base.kManifest, [], List.replicate 5 120, exDesc⟩

example : exXl.name = ofString "xl/workbook.xml" ∧ exPpt.name = ofString "ppt/presentation.xml" ∧
    exDex.name = ofString "classes.dex" ∧ exClass.name = ofString "Main.class" ∧
    ex1.name = ofString "[Content_Types].xml" ∧ ex2.name = ofString "_rels/.rels" ∧
    ex3.name = ofString "docProps/app.xml" ∧ ex4.name = ofString "word/document.xml" ∧
    exManifest.name = ofString "META-INF/MANIFEST.MF" := by
  repeat rw [ofString_ofList]
  decide +kernel

def mimes (es : List Entry) (tail : Bytes) : List Bytes := (Closed.detect (archive es tail) 0).chain.map (·.mime)

def docxChain : List Bytes := [ofString "application/vnd.openxmlformats-officedocument.wordprocessingml.document",
  ofString "application/zip", ofString "application/octet-stream"]
def xlsxChain : List Bytes := [ofString "application/vnd.openxmlformats-officedocument.spreadsheetml.sheet",
  ofString "application/zip", ofString "application/octet-stream"]
def pptxChain : List Bytes := [ofString "application/vnd.openxmlformats-officedocument.presentationml.presentation",
  ofString "application/zip", ofString "application/octet-stream"]
def jarChain : List Bytes := [ofString "application/jar", ofString "application/zip", ofString "application/octet-stream"]
def apkChain : List Bytes := [ofString "application/vnd.android.package-archive", ofString "application/zip",
  ofString "application/octet-stream"]

/- the chains as the tree's own byte lists: the evaluations below then compare byte lists and the
   kernel does not decode the strings again -/
theorem docxChain_eq : docxChain = [(zipChild "docx").info.mime, zipNode.info.mime, Gen.builtin.info.mime] := by
  obtain ⟨hxlsx, hdocx, hpptx, hapk, hjar⟩ := reported_mimes
  rw [docxChain, hdocx, zip_parent.1, zip_parent.2]
theorem xlsxChain_eq : xlsxChain = [(zipChild "xlsx").info.mime, zipNode.info.mime, Gen.builtin.info.mime] := by
  obtain ⟨hxlsx, hdocx, hpptx, hapk, hjar⟩ := reported_mimes
  rw [xlsxChain, hxlsx, zip_parent.1, zip_parent.2]
theorem pptxChain_eq : pptxChain = [(zipChild "pptx").info.mime, zipNode.info.mime, Gen.builtin.info.mime] := by
  obtain ⟨hxlsx, hdocx, hpptx, hapk, hjar⟩ := reported_mimes
  rw [pptxChain, hpptx, zip_parent.1, zip_parent.2]
theorem jarChain_eq : jarChain = [(zipChild "jar").info.mime, zipNode.info.mime, Gen.builtin.info.mime] := by
  obtain ⟨hxlsx, hdocx, hpptx, hapk, hjar⟩ := reported_mimes
  rw [jarChain, hjar, zip_parent.1, zip_parent.2]
theorem apkChain_eq : apkChain = [(zipChild "apk").info.mime, zipNode.info.mime, Gen.builtin.info.mime] := by
  obtain ⟨hxlsx, hdocx, hpptx, hapk, hjar⟩ := reported_mimes
  rw [apkChain, hapk, zip_parent.1, zip_parent.2]

/-- **docx**: `[Content_Types].xml, _rels/.rels, docProps/app.xml, word/document.xml` + central
    directory: all hypotheses of `docx_reported` hold … -/
example (ext : Ext) : (detect ext Gen.builtin (archive (ex1 :: [ex2, ex3] ++ ex4 :: []) exTail) 0).chain =
    [(zipChild "docx").info, zipNode.info, Gen.builtin.info] :=
  (docx_reported ext ex1 [ex2, ex3] ex4 [] exTail (by decide +kernel) (by decide +kernel) (by decide +kernel)
    (by decide) (Or.inr exTail_clean) ctB_eq.symm (by decide +kernel) (by decide +kernel)
    (by decide +kernel) (by decide +kernel)).1

/-- … of `docx_reported_clean` … -/
example (ext : Ext) : (detect ext Gen.builtin (archive (ex1 :: [ex2, ex3] ++ ex4 :: []) exTail) 0).chain =
    [(zipChild "docx").info, zipNode.info, Gen.builtin.info] :=
  (docx_reported_clean ext ex1 [ex2, ex3] ex4 [] exTail (by decide +kernel) (by decide +kernel) exTail_clean
    (by decide +kernel) (by decide) ctB_eq.symm (by decide +kernel) (by decide +kernel)
    (by decide +kernel) (by decide +kernel)).1

/-- … and, streamed, of `docx_reported_streamed` … -/
example (ext : Ext) : (detect ext Gen.builtin (archive (ex1s :: [ex2, ex3] ++ ex4 :: []) exTail) 0).chain =
    [(zipChild "docx").info, zipNode.info, Gen.builtin.info] :=
  (docx_reported_streamed ext ex1s [ex2, ex3] ex4 [] exTail (by decide +kernel) (by decide +kernel) (by decide +kernel)
    (by decide) (Or.inr exTail_clean) ctB_eq.symm (by decide +kernel) (by decide +kernel)
    (by decide +kernel)).1

/-- … which direct evaluation of the closed model confirms -/
example : mimes [ex1, ex2, ex3, ex4] exTail = docxChain ∧ mimes [ex1s, ex2, ex3, ex4] exTail = docxChain := by
  rw [docxChain_eq]
  decide +kernel

/-- **the window**: seven entries, an `xl/` part as the seventh — `docx_reported` applies (its
    `hprio` speaks of the first six entries only), `docx_reported_clean` does not; the closed
    model says docx -/
example (ext : Ext) : (detect ext Gen.builtin (archive (ex1 :: [ex2, ex3] ++ ex4 :: [ex2, ex3, exXl]) exTail) 0).chain =
    [(zipChild "docx").info, zipNode.info, Gen.builtin.info] :=
  (docx_reported ext ex1 [ex2, ex3] ex4 [ex2, ex3, exXl] exTail (by decide +kernel) (by decide +kernel)
    (by decide +kernel) (by decide) (Or.inl (by decide)) ctB_eq.symm (by decide +kernel) (by decide +kernel)
    (by decide +kernel) (by decide +kernel)).1

example : mimes [ex1, ex2, ex3, ex4, ex2, ex3, exXl] exTail = docxChain ∧
    ¬ (∀ e ∈ [ex2, ex3] ++ [ex2, ex3, exXl], incomp e.name (ofString "xl/") = true) := by
  rw [docxChain_eq]
  decide +kernel

/-- **xlsx** and **pptx** -/
example (ext : Ext) : (detect ext Gen.builtin (archive (ex1 :: [ex2, ex3] ++ exXl :: []) exTail) 0).chain =
    [(zipChild "xlsx").info, zipNode.info, Gen.builtin.info] :=
  (xlsx_reported ext ex1 [ex2, ex3] exXl [] exTail (by decide +kernel) (by decide +kernel) (by decide +kernel)
    (by decide) ctB_eq.symm (by decide +kernel) (by decide +kernel) (by decide +kernel)).1

example (ext : Ext) : (detect ext Gen.builtin (archive (ex1s :: [ex2, ex3] ++ exXl :: []) exTail) 0).chain =
    [(zipChild "xlsx").info, zipNode.info, Gen.builtin.info] :=
  (xlsx_reported_streamed ext ex1s [ex2, ex3] exXl [] exTail (by decide +kernel) (by decide +kernel)
    (by decide +kernel) (by decide) ctB_eq.symm (by decide +kernel) (by decide +kernel)).1

example (ext : Ext) : (detect ext Gen.builtin (archive (ex1 :: [ex2, ex3] ++ exPpt :: []) exTail) 0).chain =
    [(zipChild "pptx").info, zipNode.info, Gen.builtin.info] :=
  (pptx_reported ext ex1 [ex2, ex3] exPpt [] exTail (by decide +kernel) (by decide +kernel) (by decide +kernel)
    (by decide) (Or.inr exTail_clean) ctB_eq.symm (by decide +kernel) (by decide +kernel)
    (by decide +kernel) (by decide +kernel)).1

example (ext : Ext) : (detect ext Gen.builtin (archive (ex1s :: [ex2, ex3] ++ exPpt :: []) exTail) 0).chain =
    [(zipChild "pptx").info, zipNode.info, Gen.builtin.info] :=
  (pptx_reported_clean_streamed ext ex1s [ex2, ex3] exPpt [] exTail (by decide +kernel) (by decide +kernel)
    exTail_clean (by decide +kernel) (by decide) ctB_eq.symm (by decide +kernel) (by decide +kernel)
    (by decide +kernel)).1

example : mimes [ex1, ex2, ex3, exXl] exTail = xlsxChain ∧ mimes [ex1s, ex2, ex3, exXl] exTail = xlsxChain ∧
    mimes [ex1, ex2, ex3, exPpt] exTail = pptxChain ∧ mimes [ex1s, ex2, ex3, exPpt] exTail = pptxChain := by
  rw [xlsxChain_eq, pptxChain_eq]
  decide +kernel

/-- **jar**: `META-INF/MANIFEST.MF, Main.class` + central directory (sizes in the header, and streamed) -/
example (ext : Ext) : (detect ext Gen.builtin (archive [exManifest, exClass] exTail) 0).chain =
    [(zipChild "jar").info, zipNode.info, Gen.builtin.info] :=
  (jar_reported ext exManifest [exClass] exTail mfB_eq.symm (by decide +kernel) (by decide +kernel)
    (by decide +kernel) (by decide +kernel) (by decide +kernel) (Or.inr exTail_clean) (by decide +kernel)).1

example (ext : Ext) : (detect ext Gen.builtin (archive [exMfS, exClass] exTail) 0).chain =
    [(zipChild "jar").info, zipNode.info, Gen.builtin.info] :=
  (jar_reported ext exMfS [exClass] exTail mfB_eq.symm (by decide +kernel) (by decide +kernel)
    (by decide +kernel) (by decide +kernel) (by decide +kernel) (Or.inr exTail_clean) (by decide +kernel)).1

example (ext : Ext) : (detect ext Gen.builtin (archive [exManifest, exClass] exTail) 0).chain =
    [(zipChild "jar").info, zipNode.info, Gen.builtin.info] :=
  (jar_reported_clean ext exManifest [exClass] exTail mfB_eq.symm (by decide +kernel) (by decide +kernel)
    exTail_clean (by decide +kernel)).1

/-- **apk before jar**: `META-INF/MANIFEST.MF, Main.class, classes.dex` -/
example (ext : Ext) : (detect ext Gen.builtin (archive (exManifest :: [exClass] ++ exDex :: []) exTail) 0).chain =
    [(zipChild "apk").info, zipNode.info, Gen.builtin.info] :=
  (apk_reported ext exManifest [exClass] exDex [] exTail (ofString "classes.dex") (by decide +kernel)
    (by decide +kernel) (by decide +kernel) (by decide +kernel) (by decide) mfB_eq.symm (by decide +kernel)
    (by decide +kernel) (by decide +kernel)).1

example (ext : Ext) : (detect ext Gen.builtin (archive (exMfS :: [exClass] ++ exDex :: []) exTail) 0).chain =
    [(zipChild "apk").info, zipNode.info, Gen.builtin.info] :=
  (apk_reported_streamed ext exMfS [exClass] exDex [] exTail (ofString "classes.dex") (by decide +kernel)
    (by decide +kernel) (by decide +kernel) (by decide +kernel) (by decide) mfB_eq.symm (by decide +kernel)
    (by decide +kernel)).1

example : mimes [exManifest, exClass] exTail = jarChain ∧ mimes [exMfS, exClass] exTail = jarChain ∧
    mimes [exManifest, exClass, exDex] exTail = apkChain ∧ mimes [exMfS, exClass, exDex] exTail = apkChain := by
  rw [jarChain_eq, apkChain_eq]
  decide +kernel

/- Each hypothesis beyond the property's sentence (first entry, marker part among entries 2..6,
   standard writer: the first hop lands inside entry 1) is needed; the archives below, with the
   verdict of the closed model, show it for sibling priority (`hprio`, `hapk`), for names that are
   a proper beginning of the marker, for cleanliness and realistic length of the marker entry and
   the window behind it, and for the clean tail.  xlsx and apk have no accepting rival and need
   none of these. -/

/-- cx_front — sibling priority (the DESIGN scope reading): a package with an `xl/` part in
    front of its `word/` part is reported as xlsx -/
example : mimes [ex1, exXl, ex4] exTail = xlsxChain ∧
    zipContains (archive [ex1, exXl, ex4] exTail) (ofString "word/") true = some true := by
  rw [xlsxChain_eq]
  decide +kernel

/-- cx_behind — … and so is one with the `xl/` part *behind* the `word/` part, as long as it is
    among the first six entries: `hprio` has to cover `rest.take (4 - mid.length)` too.  All other
    hypotheses of `docx_reported` hold. -/
example : mimes [ex1, ex2, ex4, exXl] exTail = xlsxChain ∧
    (∀ e ∈ ex1 :: ([ex2] ++ ex4 :: [exXl]).take 5, e.WF) ∧ (∀ e ∈ ex1 :: ([ex2] ++ ex4 :: [exXl]).take 4, e.Clean) ∧
    (∀ e ∈ ([ex2] ++ ex4 :: [exXl]).take 4, e.Realistic) ∧ CleanTail exTail ∧
    (∀ e ∈ [ex2], incomp e.name (ofString "xl/") = true) := by
  rw [xlsxChain_eq]
  decide +kernel

/-- an entry named `xl` whose stored data begin with `/` -/
def exXlShort : Entry := ⟨exFixed 24 2, [120, 108], [], [47] ++ List.replicate 23 120, []⟩

/-- cx_short — names that are a proper beginning of the marker (`hshort` of `layout_converse_name`): no
    name starts with `xl/`, everything is clean and realistic — xlsx, because the walk reads
    `xl` + `/` across the end of the name -/
example : mimes [ex1, ex2, exXlShort, ex4] exTail = xlsxChain ∧
    (∀ e ∈ [ex1, ex2, exXlShort, ex4], e.WF ∧ e.Clean ∧ hasPrefix e.name (ofString "xl/") = false) ∧
    (∀ e ∈ [ex2, exXlShort, ex4], e.Realistic) ∧ CleanTail exTail ∧
    incomp exXlShort.name (ofString "xl/") = false := by
  rw [xlsxChain_eq]
  decide +kernel

/-- `word/document.xml` whose stored data embed (after 30 bytes) the local header of `xl/workbook.xml` -/
def exWordDirty : Entry := ⟨exFixed 0 17, C19Base.exWordDoc, [], List.replicate 30 120 ++ exXl.image, []⟩

/-- cx_dirty — cleanliness of the marker entry (which `ooxml_layout` does not need): the xlsx
    walk goes on behind the `word/` part and finds the embedded header -/
example : mimes [ex1, ex2, exWordDirty] exTail = xlsxChain ∧
    (∀ e ∈ [ex1, ex2, exWordDirty], e.WF) ∧ incomp ex2.name (ofString "xl/") = true ∧
    hasPrefix exWordDirty.name (ofString "word/") = true ∧ (∀ e ∈ [ex1, ex2], e.Clean) ∧ ¬ exWordDirty.Clean ∧ CleanTail exTail := by
  rw [xlsxChain_eq]
  decide +kernel

/-- a tail that embeds the image of `xl/workbook.xml` (say, in an archive comment) -/
def exTailDirty : Bytes :=
  [0x50, 0x4B, 1, 2] ++ List.replicate 42 0 ++ exXl.image ++ [0x50, 0x4B, 5, 6] ++ List.replicate 18 0

/-- cx_tail — clean tail (for archives of fewer than six entries): all entries clean, realistic,
    no `xl/` name — xlsx from the tail -/
example : mimes [ex1, ex2, ex4] exTailDirty = xlsxChain ∧
    (∀ e ∈ [ex1, ex2, ex4], e.WF ∧ e.Clean) ∧ (∀ e ∈ [ex2, ex4], e.Realistic ∧ incomp e.name (ofString "xl/") = true) ∧
    ¬ CleanTail exTailDirty := by
  rw [xlsxChain_eq]
  decide +kernel

/-- a directory entry `word/`: no data, 5 bytes of name -/
def exWordShort : Entry := ⟨exFixed 0 5, [119, 111, 114, 100, 47], [], [], []⟩

/-- cx_overshoot — realistic length of the marker entry (window form): the `word/` part is the
    fourth entry and too short; the xlsx walk, going on behind it, skips the fifth entry and so
    reaches the *seventh*, `xl/workbook.xml`.  Everything is clean, no name among the first six is
    comparable with `xl/`. -/
example : mimes [ex1, ex2, ex3, exWordShort, ex2, ex3, exXl] exTail = xlsxChain ∧
    (∀ e ∈ [ex1, ex2, ex3, exWordShort, ex2, ex3, exXl], e.WF ∧ e.Clean) ∧
    (∀ e ∈ [ex2, ex3] ++ [ex2, ex3, exXl].take (4 - 2), incomp e.name (ofString "xl/") = true) ∧
    ¬ exWordShort.Realistic := by
  rw [xlsxChain_eq]
  decide +kernel

/-- `lib.zip`, stored, embedding (after 30 bytes) the local header of `classes.dex` -/
def exNested : Entry := ⟨exFixed 0 7, [108, 105, 98, 46, 122, 105, 112], [], List.replicate 30 120 ++ exDex.image, []⟩

/-- cx_nested — cleanliness, jar: a jar that stores an archive holding `classes.dex` is
    reported as APK; no entry name of the jar is comparable with an APK marker -/
example : mimes [exManifest, exClass, exNested] exTail = apkChain ∧
    (∀ e ∈ [exClass, exNested], ∀ s ∈ apkMarkers, incomp e.name s = true) ∧
    (∀ e ∈ [exManifest, exClass, exNested], e.WF) ∧ ¬ exNested.Clean := by
  rw [apkChain_eq]
  decide +kernel

/-- the directory entry `META-INF/` as the JDK's `jar` tool writes it (extra field `FE CA 00 00`) -/
def exMetaDir : Entry :=
  ⟨[20, 0, 0, 0, 0, 0, 0, 0, 0x21, 0x5A, 0, 0, 0, 0, 0, 0, 0, 0, 0, 0, 0, 0, 9, 0, 4, 0],
   [77, 69, 84, 65, 45, 73, 78, 70, 47], [0xFE, 0xCA, 0, 0], [], []⟩

/-- **outside the clause** (the sentence asks for the manifest as *first* entry), for the record:
    `META-INF/`, `META-INF/MANIFEST.MF`, `Main.class` — the manifest second, behind the directory
    entry — is a plain zip: entry 1 is shorter than 49 bytes, the first hop (`hfirst` of
    `layout_forward`) lands behind the signature of entry 2 and the walk never looks at its name -/
example : mimes [exMetaDir, exManifest, exClass] exTail = [ofString "application/zip", ofString "application/octet-stream"] ∧
    exMetaDir.name = ofString "META-INF/" ∧ (∀ e ∈ [exMetaDir, exManifest, exClass], e.WF ∧ e.Clean) ∧
    zipContains (archive [exMetaDir, exManifest, exClass] exTail) C19Base.kManifest false = some false := by
  decide +kernel

end RepEx

end Mime.C19
