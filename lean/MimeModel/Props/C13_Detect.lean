import MimeModel.Props.C13
import MimeModel.Props.C08
import MimeModel.Lemmas.DetectText
/-
  C13 through `Detect`: when the NDJSON / CSV / TSV check accepts a header that text/plain accepts
  (no binary-data byte), the walk reports that format as the leaf — unless a format consulted
  before it accepts the same header.  The rivals are listed by name (regenerated).
-/
namespace Mime.C13
open Mime Mime.Cust Mime.Spec Mime.Tree Mime.WalkPath Mime.Csv Mime.DetectPath Mime.DetectText

abbrev isNamed := C08.isNamed

def linePath (n : String) : List (Tree Info → Bool) := [isNamed "text", isNamed n]
def lineNode (n : String) : Tree Info := (C08.textNode.children.find? (isNamed n)).getD Gen.builtin

/-- regenerated: the three nodes exist below text/plain, with their detectors and without children -/
theorem line_node_facts :
    ((C08.textNode.children.find? (isNamed "ndJSON")).isSome = true ∧
      (lineNode "ndJSON").info.det = .custom .ndjson ∧ (lineNode "ndJSON").children = []) ∧
    ((C08.textNode.children.find? (isNamed "csv")).isSome = true ∧
      (lineNode "csv").info.det = .custom .csv ∧ (lineNode "csv").children = []) ∧
    ((C08.textNode.children.find? (isNamed "tsv")).isSome = true ∧
      (lineNode "tsv").info.det = .custom .tsv ∧ (lineNode "tsv").children = []) := by
  decide +kernel

/-- regenerated: what is consulted before each of the three formats below text/plain -/
theorem line_rivals :
    (C08.textNode.children.takeWhile (fun x => !isNamed "ndJSON" x)).map (·.info.name) =
      ["html", "svg", "xml", "php", "js", "lua", "perl", "python", "json"] ∧
    (C08.textNode.children.takeWhile (fun x => !isNamed "csv" x)).map (·.info.name) =
      ["html", "svg", "xml", "php", "js", "lua", "perl", "python", "json", "ndJSON", "rtf", "srt", "tcl"] ∧
    (C08.textNode.children.takeWhile (fun x => !isNamed "tsv" x)).map (·.info.name) =
      ["html", "svg", "xml", "php", "js", "lua", "perl", "python", "json", "ndJSON", "rtf", "srt", "tcl", "csv"] := by
  decide +kernel

theorem line_detected (ext : Ext) (x : Bytes) (lim : Nat) (n : String) (c : Custom) (g : Bytes → Nat → Bool)
    (hnode : (C08.textNode.children.find? (isNamed n)).isSome = true ∧
      (lineNode n).info.det = .custom c ∧ (lineNode n).children = [])
    (hm : customModel c = some (fun raw lim => some (g raw lim)))
    (htext : Cust.text (header x lim) = true) (hacc : g (header x lim) lim = true) :
    (detect ext Gen.builtin x lim).chain.head? = some (lineNode n).info ∨
    (∃ d ∈ rivals (linePath n) Gen.builtin, accepts ext (header x lim) lim d.info = true) := by
  have hfound : C08.textNode.children.find? (isNamed n) = some (lineNode n) := found _ hnode.1
  refine (detect_along_childless ext Gen.builtin x lim (linePath n) (lineNode n) (descend_text hfound)
    (accepted_text ext _ lim hfound htext ?_) hnode.2.2).imp_left (fun h => by rw [h.1]; rfl)
  rw [accepts_custom_total ext _ lim _ c g hnode.2.1 hm]
  exact hacc

/-- **NDJSON through `Detect`** -/
theorem ndjson_detected (ext : Ext) (x : Bytes) (lim : Nat) (htext : Cust.text (header x lim) = true)
    (h : ndjson (header x lim) lim = true) :
    (detect ext Gen.builtin x lim).chain.head? = some (lineNode "ndJSON").info ∨
    (∃ d ∈ rivals (linePath "ndJSON") Gen.builtin, accepts ext (header x lim) lim d.info = true) :=
  line_detected ext x lim "ndJSON" .ndjson ndjson line_node_facts.1 rfl htext h

/-- **CSV through `Detect`** -/
theorem csv_detected (ext : Ext) (x : Bytes) (lim : Nat) (htext : Cust.text (header x lim) = true)
    (h : sv (header x lim) lim 0x2C = true) :
    (detect ext Gen.builtin x lim).chain.head? = some (lineNode "csv").info ∨
    (∃ d ∈ rivals (linePath "csv") Gen.builtin, accepts ext (header x lim) lim d.info = true) :=
  line_detected ext x lim "csv" .csv (sv · · 0x2C) line_node_facts.2.1 rfl htext h

/-- **TSV through `Detect`** -/
theorem tsv_detected (ext : Ext) (x : Bytes) (lim : Nat) (htext : Cust.text (header x lim) = true)
    (h : sv (header x lim) lim 0x09 = true) :
    (detect ext Gen.builtin x lim).chain.head? = some (lineNode "tsv").info ∨
    (∃ d ∈ rivals (linePath "tsv") Gen.builtin, accepts ext (header x lim) lim d.info = true) :=
  line_detected ext x lim "tsv" .tsv (sv · · 0x09) line_node_facts.2.2 rfl htext h

end Mime.C13
