import MimeModel.Lemmas.Sig
import MimeModel.Lemmas.JsonFuel
import MimeModel.Lemmas.Tree
import MimeModel.Model.Detect
import MimeModel.Gen.Tree
/-
  C01 — detection never crashes and always answers.

  In the model every Go index / slice expression of a signature check is a *checked*
  operation (`none` = the Go code would panic).  The theorems below show that no
  signature check of the current tree can evaluate to `none`, for every input and every
  limit, and that `Detect` always yields a non-empty hierarchy.  Termination is the
  totality of the Lean definitions (structural recursion; the JSON scanner recurses on
  fuel, see `json_fuel_irrelevant`).
-/
namespace Mime.C01
open Mime Mime.Cust

/-- static bounds check of a descriptor: translated expressions are analysed, the
    hand-modelled kinds are covered by the lemmas below -/
def Det.staticSafe : Det → Bool
  | .expr e => e.safe 0
  | .custom .unknown => false
  | _ => true

/-- **regenerated obligation**: every signature check extracted from internal/magic
    passes the static bounds analysis, and none is left unmodelled -/
theorem all_detectors_static_safe : Gen.dets.all (fun d => Det.staticSafe d.2) = true := by decide +kernel

/-- **regenerated obligation**: every node of tree.go uses a modelled detector -/
theorem coverage_complete :
    Gen.builtin.flatten.all (fun i => Det.staticSafe i.det) = true := by decide +kernel

theorem ciMatch_total (sig raw : Bytes) (h : sig.length ≤ raw.length) : ∃ v, ciMatch sig raw = some v := by
  induction sig generalizing raw with
  | nil => exact ⟨_, rfl⟩
  | cons b bs ih =>
    cases raw with
    | nil => simp at h
    | cons d ds =>
      rw [ciMatch]
      cases (b != if 0x41 ≤ b ∧ b ≤ 0x5A then d &&& 0xDF else d)
      · exact ih ds (Nat.le_of_succ_le_succ h)
      · exact ⟨_, rfl⟩

theorem ciCheck_total (sig raw : Bytes) : ∃ v, ciCheck sig raw = some v := by
  unfold ciCheck
  split
  · exact ⟨_, rfl⟩
  · exact ciMatch_total sig raw (by omega)

theorem markupCheck_total (sig raw : Bytes) : ∃ v, markupCheck sig raw = some v := by
  unfold markupCheck
  split
  · exact ⟨_, rfl⟩
  · rename_i h
    obtain ⟨v, hv⟩ := ciMatch_total sig raw (by omega)
    rw [hv]
    cases v with
    | false => exact ⟨_, rfl⟩
    | true =>
      simp only
      rw [getB_isSome (by omega)]
      exact ⟨_, rfl⟩

theorem shebangCheck_total (sig raw : Bytes) : ∃ v, shebangCheck sig raw = some v := by
  unfold shebangCheck
  split
  · exact ⟨_, rfl⟩
  · rw [getB_isSome (by omega), getB_isSome (by omega)]
    simp only
    split <;> exact ⟨_, rfl⟩

theorem anyG_total {α} {f : α → Option Bool} {l : List α} (h : ∀ a ∈ l, ∃ v, f a = some v) :
    ∃ v, anyG f l = some v := by
  induction l with
  | nil => exact ⟨_, rfl⟩
  | cons a as ih =>
    obtain ⟨v, hv⟩ := h a (List.mem_cons_self ..)
    simp only [anyG, hv]
    cases v with
    | true => exact ⟨_, rfl⟩
    | false => exact ih (fun b hb => h b (List.mem_cons_of_mem _ hb))

/-- regenerated fact: `Zip` (called by `CRX` on a suffix) is a safe expression -/
theorem zip_is_safe_expr : ∃ e, Gen.d_Zip = .expr e ∧ e.safe 0 = true := ⟨_, rfl, by decide⟩

theorem crx_total (raw : Bytes) : ∃ v, crx raw = some v := by
  unfold crx
  split
  · exact ⟨_, rfl⟩
  · rename_i h
    have hl : 16 ≤ raw.length := by
      simp only [Bool.or_eq_true, decide_eq_true_eq, not_or, Nat.not_lt] at h; exact h.1
    rw [getU32le_isSome (by omega), getU32le_isSome (by omega)]
    simp only
    split
    · exact ⟨_, rfl⟩
    · rename_i h2
      have : (16 + u32le raw 8 + u32le raw 12) % 4294967296 ≤ raw.length := by
        have := Nat.mod_le raw.length 4294967296
        omega
      rw [if_pos this]
      obtain ⟨e, he, hs⟩ := zip_is_safe_expr
      rw [he]
      exact BExp.safe_sound e 0 _ hs (Nat.zero_le _)

theorem matroska_total (raw fl : Bytes) : ∃ v, matroska raw fl = some v := by
  unfold matroska
  split
  · exact ⟨_, rfl⟩
  · cases indexOf [0x42, 0x82] (raw.take 4096) with
    | none => exact ⟨_, rfl⟩
    | some ind =>
      dsimp only
      split
      · rename_i h
        -- both slice expressions are guarded by the length tests in front of them
        have h2 : ind + 2 < raw.length := (Bool.and_eq_true_iff.1 h).2 |> of_decide_eq_true
        rw [getB_isSome h2]
        dsimp only
        split
        · rename_i h3
          rw [if_pos (Nat.le_of_lt h3)]
          exact ⟨_, rfl⟩
        · exact ⟨_, rfl⟩
      · exact ⟨_, rfl⟩

/-- every combinator kind is panic-free, for every table (so for whatever `Gen/Sigs`
    contains), and every hand-modelled custom check is panic-free -/
theorem evalWith_total (ext : Custom → Bytes → Nat → Bool) (d : Det) (hs : Det.staticSafe d = true)
    (raw : Bytes) (lim : Nat) : ∃ v, detEval ext d raw lim = some v := by
  unfold detEval
  cases d with
  | expr e => exact BExp.safe_sound e 0 raw (by simpa [Det.staticSafe] using hs) (Nat.zero_le _)
  | ciPrefix sigs => exact anyG_total (fun s _ => ciCheck_total s raw)
  | markup sigs =>
    simp only [Det.evalWith]
    repeat' split
    all_goals first | exact ⟨_, rfl⟩ | exact anyG_total (fun s _ => markupCheck_total s _)
  | xml sigs =>
    simp only [Det.evalWith]
    split <;> exact ⟨_, rfl⟩
  | shebang sigs => exact anyG_total (fun s _ => shebangCheck_total s _)
  | custom c =>
    simp only [Det.evalWith, custEval]
    cases c with
    | unknown => simp [Det.staticSafe] at hs
    | text | json | geojson | har | gltf | ndjson | tar => exact ⟨_, rfl⟩
    | srt | csv | tsv => exact ⟨_, rfl⟩
    | crx => exact crx_total raw
    | webm => exact matroska_total raw kWebm
    | mkv => exact matroska_total raw kMatroska
    | php =>
      simp only [customModel]
      obtain ⟨v, hv⟩ : ∃ v, Gen.d_phpPageF.evalWith noCustom raw lim = some v :=
        anyG_total (fun s _ => ciCheck_total s raw)
      rw [hv]
      cases v with
      | true => exact ⟨_, rfl⟩
      | false => exact anyG_total (fun s _ => shebangCheck_total s _)

/-- **C01 (a)**: every registered signature check, called directly with any
    (header, limit) pair, returns without panicking -/
theorem magic_safe (ext : Custom → Bytes → Nat → Bool) :
    ∀ d ∈ Gen.dets, ∀ (raw : Bytes) (lim : Nat), ∃ v, detEval ext d.2 raw lim = some v := by
  intro d hd raw lim
  have := all_detectors_static_safe
  rw [List.all_eq_true] at this
  exact evalWith_total ext d.2 (this d hd) raw lim

/-- **C01 (b)**: every detector attached to a node of the current tree is panic-free -/
theorem tree_detectors_safe (ext : Custom → Bytes → Nat → Bool) :
    ∀ i ∈ Gen.builtin.flatten, ∀ (raw : Bytes) (lim : Nat), ∃ v, detEval ext i.det raw lim = some v := by
  intro i hi raw lim
  have := coverage_complete
  rw [List.all_eq_true] at this
  exact evalWith_total ext i.det (this i hi) raw lim

/-- **C01 (c)**: `Detect` always answers: the reported hierarchy is never empty (for
    every tree, input and limit) -/
theorem detect_total (ext : Ext) (T : Tree Info) (x : Bytes) (lim : Nat) :
    (detect ext T x lim).chain ≠ [] := by
  simp only [detect]
  intro h
  exact Tree.walk_ne_nil (accepts ext (header x lim) lim) T (by simpa using h)

/- non-vacuity: the zip walk with an attacker-controlled compressed size that wraps
   around uint32 is evaluated, not skipped -/
example : zipContains ([0x50, 0x4B, 3, 4] ++ List.replicate 14 0 ++ [0xCF, 0xFF, 0xFF, 0xFF] ++ List.replicate 40 0x41)
    [0x78, 0x6C, 0x2F] false = some false := by decide +kernel

/-- the fuel of the JSON scanner model is a modelling device only: any two fuels above `2·len + 1`
    give the same run, so the unbounded recursion of the Go code terminates with the result the
    model computes with the fuel `parse` supplies -/
theorem json_fuel_irrelevant (qs : List Gen.Json.Query) (cap lvl : Nat) (b : Bytes) (s : Json.PState) (f g : Nat)
    (hf : 2 * b.length + 1 ≤ f) (hg : 2 * b.length + 1 ≤ g) :
    Json.consumeAny qs cap f lvl b s = Json.consumeAny qs cap g lvl b s :=
  JsonPrefix.consumeAny_fuel qs cap lvl b s f g hf hg

end Mime.C01
