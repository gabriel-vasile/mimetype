import MimeModel.Model.Detect
import MimeModel.Lemmas.Bytes
import MimeModel.Gen.Tree
import MimeModel.Spec.All
/-
  C18 — tar detection tracks header checksum validity.

  `Conforming B`: a 512-byte first block whose checksum field (bytes 148..155) holds the
  unsigned byte sum of the block (field counted as spaces) written the way `archive/tar`,
  GNU and BSD tar write it: six octal digits, NUL, space.
-/
namespace Mime.C18
open Mime Mime.Tree Mime.Cust

/-- the `k` low octal digits of `n`, most significant first, as ASCII -/
def octDigits : Nat → Nat → Bytes
  | 0, _ => []
  | k + 1, n => octDigits k (n / 8) ++ [0x30 + n % 8]

def oct6 (n : Nat) : Bytes := octDigits 6 n

structure Conforming (B : Bytes) : Prop where
  len : B.length = 512
  bytes : AllBytes B
  chk : slice B 148 156 = oct6 (tarSumU 0 B) ++ [0, 0x20]

theorem octDigits_length (k n : Nat) : (octDigits k n).length = k := by
  induction k generalizing n with
  | zero => rfl
  | succ k ih => simp [octDigits, ih]

theorem octalLoop_append_digit {ds : Bytes} {d : Nat} (acc : Nat) (hd : d < 8)
    (hds : ∀ x ∈ ds, 0x30 ≤ x ∧ x ≤ 0x37) :
    octalLoop (ds ++ [0x30 + d]) acc = (octalLoop ds acc).map (fun v => v * 8 + d) := by
  induction ds generalizing acc with
  | nil =>
    simp only [List.nil_append, octalLoop]
    have h2 : ¬ (0x30 + d < 0x30 ∨ 0x30 + d > 0x37) := by omega
    simp [h2]
  | cons x xs ih =>
    have hx := hds x (List.mem_cons_self ..)
    simp only [List.cons_append, octalLoop]
    have h1 : ¬ (x = 0) := by omega
    have h2 : ¬ (x < 0x30 ∨ x > 0x37) := by omega
    simp only [beq_iff_eq, h1, ↓reduceIte, Bool.or_eq_true, decide_eq_true_eq, h2]
    exact ih _ (fun y hy => hds y (List.mem_cons_of_mem _ hy))

theorem octDigits_range (k n : Nat) : ∀ x ∈ octDigits k n, 0x30 ≤ x ∧ x ≤ 0x37 := by
  induction k generalizing n with
  | zero => intro x hx; cases hx
  | succ k ih =>
    intro x hx
    simp only [octDigits, List.mem_append, List.mem_singleton] at hx
    cases hx with
    | inl h => exact ih _ x h
    | inr h => subst h; omega

theorem octalLoop_octDigits (k n : Nat) (h : n < 8 ^ k) : octalLoop (octDigits k n) 0 = some n := by
  induction k generalizing n with
  | zero => simp at h; subst h; rfl
  | succ k ih =>
    simp only [octDigits]
    rw [octalLoop_append_digit _ (Nat.mod_lt _ (by omega)) (octDigits_range k _)]
    have : n / 8 < 8 ^ k := by
      rw [Nat.pow_succ] at h
      exact Nat.div_lt_of_lt_mul (by omega)
    rw [ih _ this]
    simp only [Option.map_some, Option.some.injEq]
    omega

theorem oct6_ne_nil (n : Nat) : oct6 n ≠ [] := fun h => by
  have := octDigits_length 6 n
  rw [show octDigits 6 n = [] from h] at this
  cases this

theorem trimTar_oct6 (n : Nat) : trimTar (oct6 n ++ [0, 0x20]) = oct6 n := by
  -- digits are not blanks, so nothing goes at the front and only the two blanks at the back
  have hp : ∀ x ∈ oct6 n, (x == 0x20 || x == 0) = false := fun x hx => by
    have := octDigits_range 6 n x hx
    simp; omega
  simp only [trimTar]
  rw [dropWhile_append_none _ _ _ hp (oct6_ne_nil n), List.reverse_append]
  simp only [List.reverse_cons, List.reverse_nil, List.nil_append, List.cons_append, List.dropWhile,
    beq_self_eq_true, Bool.true_or, Bool.or_true]
  have := dropWhile_append_none (fun c => c == 0x20 || c == 0) (oct6 n).reverse [] (fun x hx => hp x (List.mem_reverse.1 hx))
    (fun h => oct6_ne_nil n (List.reverse_eq_nil_iff.1 h))
  rw [List.append_nil] at this
  rw [this, List.reverse_reverse]

/-- **octal round trip**: the writer's encoding of any sum below 8^6 is read back exactly -/
theorem octal_roundtrip (n : Nat) (h : n < 8 ^ 6) : tarParseOctal (oct6 n ++ [0, 0x20]) = some n := by
  simp only [tarParseOctal, trimTar_oct6]
  have hne : (oct6 n).isEmpty = false := by simpa using oct6_ne_nil n
  simp only [hne, Bool.false_eq_true, ↓reduceIte]
  exact octalLoop_octDigits 6 n h

theorem tarByte_le (i c : Nat) (hc : c < 256) : tarByte i c ≤ 255 := by
  unfold tarByte; split <;> omega

theorem tarSumU_le (l : Bytes) (h : AllBytes l) : ∀ i, tarSumU i l ≤ 255 * l.length := by
  induction l with
  | nil => intro i; simp [tarSumU]
  | cons c cs ih =>
    intro i
    simp only [tarSumU, List.length_cons]
    have := tarByte_le i c (h c (List.mem_cons_self ..))
    have := ih (fun x hx => h x (List.mem_cons_of_mem _ hx)) (i + 1)
    omega

/-- number of bytes counted as negative by the signed (Sun) checksum -/
def negCount : Nat → Bytes → Nat
  | _, [] => 0
  | i, c :: cs => (if tarByte i c ≥ 128 then 1 else 0) + negCount (i + 1) cs

theorem signed_eq (l : Bytes) (h : AllBytes l) : ∀ i, tarSumS i l = (tarSumU i l : Int) - 256 * (negCount i l : Int) := by
  induction l with
  | nil => intro i; simp [tarSumS, tarSumU, negCount]
  | cons c cs ih =>
    intro i
    simp only [tarSumS, tarSumU, negCount]
    rw [ih (fun x hx => h x (List.mem_cons_of_mem _ hx)) (i + 1)]
    have hb := tarByte_le i c (h c (List.mem_cons_self ..))
    unfold int8
    split <;> split <;> omega

/-- the checksum field itself never contributes to the sums -/
theorem tarSumU_set (l : Bytes) : ∀ (i k v : Nat), k < l.length → ¬ (148 ≤ i + k ∧ i + k < 156) →
    tarSumU i (l.set k v) + l.getD k 0 = tarSumU i l + v := by
  induction l with
  | nil => intro i k v hk; simp at hk
  | cons c cs ih =>
    intro i k v hk hout
    cases k with
    | zero =>
      simp only [List.set_cons_zero, tarSumU, List.getD_cons_zero]
      have : tarByte i v = v ∧ tarByte i c = c := by
        unfold tarByte
        have : (decide (148 ≤ i) && decide (i < 156)) = false := by simp; omega
        simp [this]
      omega
    | succ k =>
      simp only [List.set_cons_succ, tarSumU, List.getD_cons_succ]
      have := ih (i + 1) k v (by simpa using hk) (by omega)
      omega

/-- the checksum field of a conforming block parses to the block's unsigned sum (at most 512 · 255 < 8^6) -/
theorem conforming_sum {B : Bytes} (hc : Conforming B) : tarParseOctal (slice B 148 156) = some (tarSumU 0 B) := by
  rw [hc.chk]
  apply octal_roundtrip
  have := tarSumU_le B hc.bytes 0
  rw [hc.len] at this
  omega

/-- **C18 (forward)**: every conforming first block — any member name other than a
    Gentoo gpkg name, any modes, ids, sizes, types — is accepted, whatever follows it -/
theorem tar_accepts (B rest : Bytes) (hc : Conforming B)
    (hg : containsSub (B.take 100) gpkgMarker = false) : tar (B ++ rest) = true := by
  unfold tar
  have hl : ¬ (B ++ rest).length < 512 := by simp [hc.len]
  simp only [hl, ↓reduceIte]
  rw [List.take_left' hc.len]
  simp only [hg, Bool.false_eq_true, ↓reduceIte]
  rw [conforming_sum hc]
  simp

/-- **C18 (corruption)**: changing any single byte of a conforming first block outside the
    checksum field makes `Tar` reject it.  (The recorded sum is unchanged, the unsigned sum
    moves by a non-zero amount below 256, and the signed sum differs from it by a multiple
    of 256.) -/
theorem corruption_rejected (B rest : Bytes) (hc : Conforming B) (i v : Nat)
    (hi : i < 512) (hout : ¬ (148 ≤ i ∧ i < 156)) (hv : v < 256) (hne : v ≠ B.getD i 0) :
    tar (B.set i v ++ rest) = false := by
  unfold tar
  have hlen : (B.set i v).length = 512 := by simp [hc.len]
  have hl : ¬ (B.set i v ++ rest).length < 512 := by simp [hc.len]
  simp only [hl, ↓reduceIte]
  rw [List.take_left' hlen]
  by_cases hg : containsSub ((B.set i v).take 100) gpkgMarker = true
  · simp [hg]
  · simp only [hg, Bool.false_eq_true, ↓reduceIte]
    rw [slice_set_outside B i v 148 156 (by omega), conforming_sum hc]
    simp only
    have hset := tarSumU_set B 0 i v (by rw [hc.len]; exact hi) (by simpa using hout)
    have hb' : AllBytes (B.set i v) := by
      intro x hx
      rcases List.mem_or_eq_of_mem_set hx with h | h
      · exact hc.bytes x h
      · subst h; exact hv
    have hs := signed_eq (B.set i v) hb' 0
    have hbi : B.getD i 0 < 256 := by
      have : i < B.length := by rw [hc.len]; exact hi
      have hm : B.getD i 0 ∈ B := by
        simp only [List.getD_eq_getElem?_getD, List.getElem?_eq_getElem this, Option.getD_some]
        exact List.getElem_mem this
      exact hc.bytes _ hm
    simp only [Bool.or_eq_false_iff, beq_eq_false_iff_ne, ne_eq]
    constructor
    · omega
    · rw [hs]; omega

def mimeTar : Bytes := [97, 112, 112, 108, 105, 99, 97, 116, 105, 111, 110, 47, 120, 45, 116, 97, 114]

/-- regenerated facts about tree.go: `application/x-tar` names exactly one node, a root
    child without sub-formats, whose detector is `Tar` -/
theorem tree_facts :
    (Gen.builtin.flatten.filter (fun i => i.mime == mimeTar)).length = 1 ∧
    Gen.builtin.children.any (fun c => c.info.name == "tar" && decide (c.info.det = .custom .tar) &&
      c.children.isEmpty && c.info.mime == mimeTar) = true := by
  decide +kernel

/-- regenerated fact: the root formats consulted before tar are exactly the ones the property
    lists ("tar sits after exe/elf/ar and before the remaining root formats"); the oracle excuses a
    conforming archive only when one of these accepts it -/
theorem tar_priority :
    (Gen.builtin.children.map (·.info.name)).takeWhile (· != "tar") = Spec.tarOutrankers ∧
    ((Gen.builtin.children.map (·.info.name)).dropWhile (· != "tar")).take 2 = ["tar", "xar"] := by
  decide +kernel

/- non-vacuity: an all-zero block with the right checksum (8 spaces = 256 = 000400) conforms -/
set_option maxRecDepth 100000 in
example : tar (List.replicate 148 0 ++ [0x30, 0x30, 0x30, 0x34, 0x30, 0x30, 0, 0x20] ++ List.replicate 356 0) = true := by
  decide +kernel
set_option maxRecDepth 100000 in
example : tar ((List.replicate 148 0 ++ [0x30, 0x30, 0x30, 0x34, 0x30, 0x30, 0, 0x20] ++ List.replicate 356 0).set 5 1) = false := by
  decide +kernel

end Mime.C18
