import MimeModel.Props.C16_Depth
import MimeModel.Props.C09_Detect
import MimeModel.Props.C10_Detect
import MimeModel.Lemmas.DetectSound
import MimeModel.Lemmas.JsonDeepPrefix
import MimeModel.Model.Closed
/-
  C16, second sentence, through `Detect`: "inputs … are simply not reported as JSON once their
  nesting exceeds the cap": the reported leaf is outside the JSON family (`C09.JsonFamily`).
  The limit matters at `Detect` level in a way it does not at check level: `Detect` cuts the input
  before the checks see it, and the first `lim ≤ cap + 1` bytes of a bracket tower are an
  unfinished but viable array, which IS reported as JSON (example at the end; this is C09's
  "viable prefix" reading, not a defect).  Hence the hypotheses on `lim`.
-/
namespace Mime.C16
open Mime Mime.Json Mime.Spec Mime.Tree Mime.DetectSound Mime.JsonDepth
open Mime.C09 (mimeJson mimeGeoJson mimeGltfJson JsonFamily)

abbrev cap : Nat := Gen.Json.maxRecursion

theorem not_json_of_refused (ext : Ext) (x : Bytes) (lim : Nat) (leaf : Info)
    (hleaf : (detect ext Gen.builtin x lim).chain.head? = some leaf)
    (href : ∀ qs w, jsonHelper (header x lim) lim qs w = false) : ¬ JsonFamily leaf.mime := by
  intro hm
  obtain ⟨qs, w, hh⟩ := C09.json_leaf_helper ext x lim leaf hleaf hm
  rw [href qs w] at hh
  cases hh

/-- **C16 through `Detect`, general form**: if the examined header is a document of the relaxed
    grammar whose syntax tree is nested deeper than cap + 1, the reported leaf is not of the JSON
    family — for every `ext`, input and limit -/
theorem over_cap_not_json (ext : Ext) (x : Bytes) (lim : Nat) (leaf : Info)
    (hleaf : (detect ext Gen.builtin x lim).chain.head? = some leaf) (v : J.JVal)
    (hdoc : J.doc false (header x lim) = some v) (hdeep : cap + 1 < J.depth v) :
    ¬ JsonFamily leaf.mime :=
  not_json_of_refused ext x lim leaf hleaf
    (fun qs w => over_cap_never_reported (header x lim) lim qs w v hdoc hdeep)

/-- the same for a whole input: a relaxed document deeper than cap + 1, examined in full -/
theorem over_cap_not_json_whole (ext : Ext) (x : Bytes) (lim : Nat) (leaf : Info)
    (hleaf : (detect ext Gen.builtin x lim).chain.head? = some leaf) (v : J.JVal)
    (hdoc : J.doc false x = some v) (hdeep : cap + 1 < J.depth v) (hw : lim = 0 ∨ x.length ≤ lim) :
    leaf.mime ≠ mimeJson ∧ leaf.mime ≠ mimeGeoJson ∧ leaf.mime ≠ mimeGltfJson := by
  apply C09.not_family_spelled
  apply over_cap_not_json ext x lim leaf hleaf v _ hdeep
  rwa [header_whole x lim hw]

/-- **the bracket tower** `[`ⁿ `]`ⁿ with n > cap + 1, examined in full, is not reported as JSON -/
theorem bracket_tower_not_json (ext : Ext) (n : Nat) (hn : cap + 1 < n) (lim : Nat) (leaf : Info)
    (hw : lim = 0 ∨ 2 * n ≤ lim)
    (hleaf : (detect ext Gen.builtin (List.replicate n 0x5B ++ List.replicate n 0x5D) lim).chain.head? = some leaf) :
    leaf.mime ≠ mimeJson ∧ leaf.mime ≠ mimeGeoJson ∧ leaf.mime ≠ mimeGltfJson := by
  apply C09.not_family_spelled
  apply not_json_of_refused ext _ lim leaf hleaf
  intro qs w
  rw [header_whole _ lim (hw.imp_right fun h => by simp; omega)]
  exact bracket_tower_not_reported n hn lim qs w

/-- **the object tower** (`{"k":`)ⁿ `{}` `}`ⁿ with n > cap, examined in full, is not reported as JSON -/
theorem object_tower_not_json (ext : Ext) (n : Nat) (hn : cap < n) (lim : Nat) (leaf : Info)
    (hw : lim = 0 ∨ 6 * n + 2 ≤ lim)
    (hleaf : (detect ext Gen.builtin
      ((List.replicate n okey).flatten ++ [0x7B, 0x7D] ++ List.replicate n 0x7D) lim).chain.head? = some leaf) :
    leaf.mime ≠ mimeJson ∧ leaf.mime ≠ mimeGeoJson ∧ leaf.mime ≠ mimeGltfJson := by
  apply C09.not_family_spelled
  apply not_json_of_refused ext _ lim leaf hleaf
  intro qs w
  have hlen : ((List.replicate n okey).flatten ++ [0x7B, 0x7D] ++ List.replicate n 0x7D).length = 6 * n + 2 := by
    have := otower_length n []
    rw [otower_eq, List.append_nil] at this
    simpa using this
  rw [header_whole _ lim (hw.imp_right fun h => hlen ▸ h)]
  exact object_tower_not_reported n hn lim qs w

/-- **an input that begins with cap + 2 = 4098 opening brackets is not reported as JSON**,
    whatever follows, with no limit or any limit of at least cap + 2 -/
theorem deep_input_not_json (ext : Ext) (rest : Bytes) (lim : Nat) (leaf : Info)
    (hlim : lim = 0 ∨ cap + 2 ≤ lim)
    (hleaf : (detect ext Gen.builtin (List.replicate (cap + 2) 0x5B ++ rest) lim).chain.head? = some leaf) :
    leaf.mime ≠ mimeJson ∧ leaf.mime ≠ mimeGeoJson ∧ leaf.mime ≠ mimeGltfJson := by
  obtain ⟨rest', hh⟩ := header_keeps_prefix (List.replicate (cap + 2) 0x5B) rest lim (by simpa using hlim)
  refine C09.not_family_spelled (not_json_of_refused ext _ lim leaf hleaf fun qs w => ?_)
  rw [hh]
  exact JsonDeep.deep_prefix_refused_real rest' lim qs w

/-- the bracket tower **whatever follows it and for every limit that does not cut
    inside the first cap + 2 brackets** (in particular cut anywhere inside the tower beyond them) -/
theorem bracket_tower_then_anything_not_json (ext : Ext) (n : Nat) (hn : cap + 1 < n) (rest : Bytes)
    (lim : Nat) (leaf : Info) (hlim : lim = 0 ∨ cap + 2 ≤ lim)
    (hleaf : (detect ext Gen.builtin
      (List.replicate n 0x5B ++ List.replicate n 0x5D ++ rest) lim).chain.head? = some leaf) :
    leaf.mime ≠ mimeJson ∧ leaf.mime ≠ mimeGeoJson ∧ leaf.mime ≠ mimeGltfJson := by
  obtain ⟨m, rfl⟩ : ∃ m, n = (cap + 2) + m := ⟨n - (cap + 2), by omega⟩
  rw [← List.replicate_append_replicate, List.append_assoc, List.append_assoc] at hleaf
  exact deep_input_not_json ext _ lim leaf hlim hleaf

theorem object_tower_prefix (k m : Nat) (rest : Bytes) :
    ∃ t, (List.replicate (k + m) okey).flatten ++ [0x7B, 0x7D] ++ List.replicate (k + m) 0x7D ++ rest =
      ((List.replicate k okey).flatten ++ [0x7B]) ++ t := by
  rw [← List.replicate_append_replicate, List.flatten_append]
  cases m with
  | zero => exact ⟨0x7D :: (List.replicate (k + 0) 0x7D ++ rest), by simp⟩
  | succ m => exact ⟨0x22 :: 0x6B :: 0x22 :: 0x3A :: ((List.replicate m okey).flatten ++ [0x7B, 0x7D] ++
      List.replicate (k + (m + 1)) 0x7D ++ rest), by simp [List.replicate_succ, okey]⟩

theorem object_prefix_length (k : Nat) : ((List.replicate k okey).flatten ++ [0x7B]).length = 5 * k + 1 := by
  simp [okey]
  omega

/-- the object tower **whatever follows it and for every limit that does not cut inside its
    first cap + 1 keys and the next brace** (5 (cap + 1) + 1 = 20486 bytes) -/
theorem object_tower_then_anything_not_json (ext : Ext) (n : Nat) (hn : cap < n) (rest : Bytes)
    (lim : Nat) (leaf : Info) (hlim : lim = 0 ∨ 5 * (cap + 1) + 1 ≤ lim)
    (hleaf : (detect ext Gen.builtin
      ((List.replicate n okey).flatten ++ [0x7B, 0x7D] ++ List.replicate n 0x7D ++ rest) lim).chain.head? = some leaf) :
    leaf.mime ≠ mimeJson ∧ leaf.mime ≠ mimeGeoJson ∧ leaf.mime ≠ mimeGltfJson := by
  obtain ⟨m, rfl⟩ : ∃ m, n = (cap + 1) + m := ⟨n - (cap + 1), by omega⟩
  obtain ⟨t, ht⟩ := object_tower_prefix (cap + 1) m rest
  rw [ht] at hleaf
  obtain ⟨rest', hh⟩ := header_keeps_prefix ((List.replicate (cap + 1) okey).flatten ++ [0x7B]) t lim
    (by rw [object_prefix_length]; exact hlim)
  refine C09.not_family_spelled (not_json_of_refused ext _ lim leaf hleaf fun qs w => ?_)
  rw [hh, List.append_assoc]
  exact JsonDeep.deep_object_prefix_refused_real rest' lim qs w

/- The same about `Closed.detect`, the model with no external parameter left: what
   `mimetype.Detect` computes on the built-in tree. -/

theorem closed_over_cap_not_json (x : Bytes) (lim : Nat) (leaf : Info)
    (hleaf : (Closed.detect x lim).chain.head? = some leaf) (v : J.JVal)
    (hdoc : J.doc false (header x lim) = some v) (hdeep : cap + 1 < J.depth v) :
    ¬ JsonFamily leaf.mime :=
  over_cap_not_json Closed.ext x lim leaf hleaf v hdoc hdeep

theorem closed_bracket_tower_not_json (n : Nat) (hn : cap + 1 < n) (lim : Nat) (leaf : Info)
    (hw : lim = 0 ∨ 2 * n ≤ lim)
    (hleaf : (Closed.detect (List.replicate n 0x5B ++ List.replicate n 0x5D) lim).chain.head? = some leaf) :
    leaf.mime ≠ mimeJson ∧ leaf.mime ≠ mimeGeoJson ∧ leaf.mime ≠ mimeGltfJson :=
  bracket_tower_not_json Closed.ext n hn lim leaf hw hleaf

theorem closed_object_tower_not_json (n : Nat) (hn : cap < n) (lim : Nat) (leaf : Info)
    (hw : lim = 0 ∨ 6 * n + 2 ≤ lim)
    (hleaf : (Closed.detect
      ((List.replicate n okey).flatten ++ [0x7B, 0x7D] ++ List.replicate n 0x7D) lim).chain.head? = some leaf) :
    leaf.mime ≠ mimeJson ∧ leaf.mime ≠ mimeGeoJson ∧ leaf.mime ≠ mimeGltfJson :=
  object_tower_not_json Closed.ext n hn lim leaf hw hleaf

theorem closed_deep_input_not_json (rest : Bytes) (lim : Nat) (leaf : Info)
    (hlim : lim = 0 ∨ cap + 2 ≤ lim)
    (hleaf : (Closed.detect (List.replicate (cap + 2) 0x5B ++ rest) lim).chain.head? = some leaf) :
    leaf.mime ≠ mimeJson ∧ leaf.mime ≠ mimeGeoJson ∧ leaf.mime ≠ mimeGltfJson :=
  deep_input_not_json Closed.ext rest lim leaf hlim hleaf

/- Towers beyond the real cap (4096) are too big to evaluate.  What can be evaluated is why the
   hypothesis on `lim` is there: a tower cut inside its opening brackets is a viable array prefix. -/

/-- `[[[[[[]]]]]]` examined in full: JSON; the same input examined with limit 3 (`[[[`): JSON too,
    as the viable prefix of a document — the check never sees the nesting behind the cut -/
example : ((Closed.detect (List.replicate 6 0x5B ++ List.replicate 6 0x5D) 0).chain.map (·.mime)) =
      [mimeJson, mimeTextPlain, mimeOctet] ∧
    ((Closed.detect (List.replicate 6 0x5B ++ List.replicate 6 0x5D) 3).chain.map (·.mime)) =
      [mimeJson, mimeTextPlain, mimeOctet] := by decide +kernel

/- **the default limit**: `mimetype.go` examines 3072 bytes unless `SetLimit` is called, and
   3072 < cap + 2 = 4098.  So with the default limit the cap is never reached by `Detect`: a tower
   of 5000 brackets (deeper than the cap) is cut to `[`³⁰⁷², a viable array prefix, and IS reported
   as application/json.  The theorems above therefore need `lim = 0 ∨ cap + 2 ≤ lim`; with the
   default limit the sentence of C16 holds only vacuously (no examined header exceeds the cap). -/
set_option maxRecDepth 1000000 in
example : ((Closed.detect (List.replicate 5000 0x5B ++ List.replicate 5000 0x5D) 3072).chain.map (·.mime)) =
      [mimeJson, mimeTextPlain, mimeOctet] := by
  -- evaluated piece by piece along root → text → json: the three sub-formats below `json` are not
  -- run (they reject an array by its first byte)
  have hh : header (List.replicate 5000 0x5B ++ List.replicate 5000 0x5D) 3072 = List.replicate 3072 0x5B := by
    rw [header, if_neg (by decide), List.take_append_of_le_length (by rw [List.length_replicate]; decide),
      List.take_replicate]
    rfl
  have hjson : accepts Closed.ext (List.replicate 3072 0x5B) 3072 C08.jsonNode.info = true := by
    rw [C08.accepts_json _ _ _ C08.node_dets.2]
    decide +kernel
  have hriv : ∀ d ∈ WalkPath.rivals C10.jsonPath Gen.builtin,
      ¬ accepts Closed.ext (List.replicate 3072 0x5B) 3072 d.info = true := by decide +kernel
  rcases DetectPath.detect_along Closed.ext Gen.builtin _ 3072 C10.jsonPath C08.jsonNode
      (DetectText.descend_text C08.json_found)
      (hh ▸ DetectText.accepted_text Closed.ext _ 3072 C08.json_found (by decide +kernel) hjson)
      (hh ▸ C10.array_no_subtype Closed.ext 3072 (List.replicate 3071 0x5B) rfl) with h | ⟨d, hd, ha⟩
  · rw [Closed.detect, h.1]
    decide +kernel
  · exact absurd (hh ▸ ha) (hriv d hd)

end Mime.C16
