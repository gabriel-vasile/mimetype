import MimeModel.Props.C18
import MimeModel.Lemmas.DetectPath
/-
  C18 through `Detect`: a conforming first block is *reported* as application/x-tar (leaf tar,
  parent root) unless one of the formats in front of tar (`Spec.tarOutrankers`) accepts the header.
-/
namespace Mime.C18
open Mime Mime.Cust Mime.Spec Mime.Tree Mime.WalkPath Mime.DetectSound Mime.DetectPath

def isNamed (n : String) (t : Tree Info) : Bool := t.info.name == n

def tarPath : List (Tree Info → Bool) := [isNamed "tar"]
def tarNode : Tree Info := (Gen.builtin.children.find? (isNamed "tar")).getD Gen.builtin

theorem tar_found : Gen.builtin.children.find? (isNamed "tar") = some tarNode :=
  found _ (by decide +kernel)

theorem tar_node_facts : tarNode.info.det = .custom .tar ∧ tarNode.children = [] ∧ tarNode.info.mime = mimeTar := by
  decide +kernel

/-- regenerated: the formats consulted before tar are the anchored list -/
theorem tar_rivals : (rivals tarPath Gen.builtin).map (·.info.name) = Spec.tarOutrankers := by
  rw [tarPath, rivals_step tar_found, rivals, List.append_nil]
  decide +kernel

theorem accepts_tar (ext : Ext) (h : Bytes) (lim : Nat) (i : Info) (hd : i.det = .custom .tar) :
    accepts ext h lim i = tar h :=
  accepts_custom_total ext h lim i .tar (fun raw _ => tar raw) hd rfl

/-- **C18 through `Detect`**: an input whose first 512 bytes are a conforming tar header (not a
    gpkg name), examined with no limit or a limit of at least one block, is reported as
    `application/x-tar` directly below the root — unless a format the property lists in front of
    tar accepts the same header -/
theorem tar_detected (ext : Ext) (B rest : Bytes) (lim : Nat) (hc : Conforming B)
    (hg : containsSub (B.take 100) gpkgMarker = false) (hlim : lim = 0 ∨ 512 ≤ lim) :
    (detect ext Gen.builtin (B ++ rest) lim).chain = [tarNode.info, Gen.builtin.info] ∨
    (∃ d ∈ rivals tarPath Gen.builtin, accepts ext (header (B ++ rest) lim) lim d.info = true) := by
  obtain ⟨rest', hh⟩ := header_keeps_prefix B rest lim (hc.len ▸ hlim)
  have hacc : accepts ext (header (B ++ rest) lim) lim tarNode.info = true := by
    rw [accepts_tar ext _ lim _ tar_node_facts.1, hh]
    exact tar_accepts B rest' hc hg
  have hp : pathNodes tarPath Gen.builtin = [tarNode] := pathNodes_step tar_found
  refine (detect_along_childless ext Gen.builtin _ lim tarPath tarNode (descend_step tar_found) ?_
    tar_node_facts.2.1).imp_left (fun h => ?_)
  · rw [hp]
    exact List.forall_mem_singleton.2 hacc
  · rw [h.1, hp]
    rfl

end Mime.C18
