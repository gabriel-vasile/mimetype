import MimeModel.Lemmas.OfString
import MimeModel.Props.C13
import MimeModel.Props.C13_Detect
import MimeModel.Lemmas.DetectSound
import MimeModel.Model.Closed
/-
  C13, converse clauses, through `Detect`: "CSV/TSV is reported only if all complete non-comment
  lines have the same number (at least two) of fields, and NDJSON only if there are at least two
  lines, every complete line is blank or a complete JSON value, and at least one is an object or
  array."  Whenever the reported leaf of `detect ext Gen.builtin x lim` has one of the three types,
  the corresponding check said yes on the examined header, with the limit `Detect` was run with.
-/
namespace Mime.C13
open Mime Mime.Cust Mime.Spec Mime.Tree Mime.Csv Mime.CsvLemmas Mime.DetectSound Mime.DetectPath
open Mime.C13Base (lines LineOK ContainerLine)

def mimeNdjson : Bytes :=
  [97, 112, 112, 108, 105, 99, 97, 116, 105, 111, 110, 47, 120, 45, 110, 100, 106, 115, 111, 110]
def mimeCsv : Bytes := [116, 101, 120, 116, 47, 99, 115, 118]
def mimeTsv : Bytes :=
  [116, 101, 120, 116, 47, 116, 97, 98, 45, 115, 101, 112, 97, 114, 97, 116, 101, 100, 45, 118, 97, 108, 117, 101, 115]

example : mimeNdjson = ofString "application/x-ndjson" ∧ mimeCsv = ofString "text/csv" ∧
    mimeTsv = ofString "text/tab-separated-values" := by
  repeat rw [ofString_ofList]
  decide +kernel

/-- **regenerated fact** about tree.go: each of the three types is carried by exactly one node —
    `ndJSON` checked by NdJSON, `csv` by Csv, `tsv` by Tsv —; stated also in the form used below
    (every node of the type has that detector); the root carries none of them -/
theorem line_nodes :
    (Gen.builtin.flatten.filter (fun i => i.mime == mimeNdjson)).map (fun i => (i.name, i.det)) =
      [("ndJSON", .custom .ndjson)] ∧
    (Gen.builtin.flatten.filter (fun i => i.mime == mimeCsv)).map (fun i => (i.name, i.det)) =
      [("csv", .custom .csv)] ∧
    (Gen.builtin.flatten.filter (fun i => i.mime == mimeTsv)).map (fun i => (i.name, i.det)) =
      [("tsv", .custom .tsv)] ∧
    Gen.builtin.flatten.all (fun i => !(i.mime == mimeNdjson) || decide (i.det = .custom .ndjson)) = true ∧
    Gen.builtin.flatten.all (fun i => !(i.mime == mimeCsv) || decide (i.det = .custom .csv)) = true ∧
    Gen.builtin.flatten.all (fun i => !(i.mime == mimeTsv) || decide (i.det = .custom .tsv)) = true ∧
    (Gen.builtin.info.mime == mimeNdjson) = false ∧ (Gen.builtin.info.mime == mimeCsv) = false ∧
    (Gen.builtin.info.mime == mimeTsv) = false := by
  decide +kernel

/-- **C13 (NDJSON) through `Detect`, converse**: if the reported leaf has type
    application/x-ndjson then among the complete lines of the examined header (everything when the
    whole input was examined; up to the last line feed when it was cut at the limit) there are at
    least two, each is blank or one complete JSON value of the relaxed grammar with only white
    space around it, and at least one is an object or array.  For every `ext`, input, limit. -/
theorem ndjson_verdict_sound (ext : Ext) (x : Bytes) (lim : Nat) (leaf : Info)
    (hleaf : (detect ext Gen.builtin x lim).chain.head? = some leaf) (hm : leaf.mime = mimeNdjson) :
    let ls := lines (dropLastLine (header x lim) lim)
    2 ≤ ls.length ∧ (∀ l ∈ ls, LineOK l) ∧ ∃ l ∈ ls, ContainerLine l := by
  obtain ⟨_, _, _, hall, _, _, hroot, _, _⟩ := line_nodes
  exact ndjson_sound (header x lim) lim
    (leaf_custom_accepted ext Gen.builtin x lim leaf mimeNdjson .ndjson ndjson hleaf hm hall hroot rfl)

/-- what `sv` saying yes gives: the csv reader's records of the complete lines are at least two,
    all with the same number k ≥ 2 of fields; and when the header has no double quote these records
    are the non-empty non-comment lines, fields counted by the delimiter -/
def SvSound (h : Bytes) (lim comma : Nat) : Prop :=
  sv h lim comma = true ∧
  (∃ k, 2 ≤ k ∧ 2 ≤ (records comma (dropLastLine h lim)).length ∧
      ∀ c ∈ records comma (dropLastLine h lim), c = k) ∧
  (0x22 ∉ h →
    let cs := specCounts comma (dropLastLine h lim)
    2 ≤ cs.length ∧ ∃ k, 2 ≤ k ∧ ∀ c ∈ cs, c = k)

theorem svSound_of {h : Bytes} {lim comma : Nat} (hs : sv h lim comma = true) : SvSound h lim comma :=
  ⟨hs, ((sv_iff h lim comma).1 hs).2, fun hq => sv_converse_quoteFree h lim comma hq hs⟩

/-- **C13 (CSV) through `Detect`, converse**: if the reported leaf has type text/csv then `sv` with
    ',' accepted the examined header: the records the csv reader returns for its complete lines are
    at least two and all have the same number k ≥ 2 of fields; when the header contains no double
    quote, these records are exactly its non-empty lines not starting with '#', each with (number
    of commas + 1) fields.  For every `ext`, input, limit. -/
theorem csv_verdict_sound (ext : Ext) (x : Bytes) (lim : Nat) (leaf : Info)
    (hleaf : (detect ext Gen.builtin x lim).chain.head? = some leaf) (hm : leaf.mime = mimeCsv) :
    SvSound (header x lim) lim 0x2C := by
  obtain ⟨_, _, _, _, hall, _, _, hroot, _⟩ := line_nodes
  exact svSound_of
    (leaf_custom_accepted ext Gen.builtin x lim leaf mimeCsv .csv (sv · · 0x2C) hleaf hm hall hroot rfl)

/-- **C13 (TSV) through `Detect`, converse** -/
theorem tsv_verdict_sound (ext : Ext) (x : Bytes) (lim : Nat) (leaf : Info)
    (hleaf : (detect ext Gen.builtin x lim).chain.head? = some leaf) (hm : leaf.mime = mimeTsv) :
    SvSound (header x lim) lim 0x09 := by
  obtain ⟨_, _, _, _, _, hall, _, _, hroot⟩ := line_nodes
  exact svSound_of
    (leaf_custom_accepted ext Gen.builtin x lim leaf mimeTsv .tsv (sv · · 0x09) hleaf hm hall hroot rfl)

/-- contrapositive, quote-free: an input examined in full without a double quote whose non-empty
    non-comment lines do not all have the same number of fields, or fewer than two fields, or are
    fewer than two, is not reported as text/csv -/
theorem ragged_not_csv (ext : Ext) (x : Bytes) (lim : Nat) (leaf : Info)
    (hleaf : (detect ext Gen.builtin x lim).chain.head? = some leaf) (hq : 0x22 ∉ header x lim)
    (hbad : ¬ (2 ≤ (specCounts 0x2C (dropLastLine (header x lim) lim)).length ∧
      ∃ k, 2 ≤ k ∧ ∀ c ∈ specCounts 0x2C (dropLastLine (header x lim) lim), c = k)) :
    leaf.mime ≠ mimeCsv :=
  fun hm => hbad ((csv_verdict_sound ext x lim leaf hleaf hm).2.2 hq)

theorem ragged_not_tsv (ext : Ext) (x : Bytes) (lim : Nat) (leaf : Info)
    (hleaf : (detect ext Gen.builtin x lim).chain.head? = some leaf) (hq : 0x22 ∉ header x lim)
    (hbad : ¬ (2 ≤ (specCounts 0x09 (dropLastLine (header x lim) lim)).length ∧
      ∃ k, 2 ≤ k ∧ ∀ c ∈ specCounts 0x09 (dropLastLine (header x lim) lim), c = k)) :
    leaf.mime ≠ mimeTsv :=
  fun hm => hbad ((tsv_verdict_sound ext x lim leaf hleaf hm).2.2 hq)

/- The same about `Closed.detect`, the model with no external parameter left: what
   `mimetype.Detect` computes on the built-in tree. -/

theorem closed_ndjson_verdict_sound (x : Bytes) (lim : Nat) (leaf : Info)
    (hleaf : (Closed.detect x lim).chain.head? = some leaf) (hm : leaf.mime = mimeNdjson) :
    let ls := lines (dropLastLine (header x lim) lim)
    2 ≤ ls.length ∧ (∀ l ∈ ls, LineOK l) ∧ ∃ l ∈ ls, ContainerLine l :=
  ndjson_verdict_sound Closed.ext x lim leaf hleaf hm

theorem closed_csv_verdict_sound (x : Bytes) (lim : Nat) (leaf : Info)
    (hleaf : (Closed.detect x lim).chain.head? = some leaf) (hm : leaf.mime = mimeCsv) :
    SvSound (header x lim) lim 0x2C :=
  csv_verdict_sound Closed.ext x lim leaf hleaf hm

theorem closed_tsv_verdict_sound (x : Bytes) (lim : Nat) (leaf : Info)
    (hleaf : (Closed.detect x lim).chain.head? = some leaf) (hm : leaf.mime = mimeTsv) :
    SvSound (header x lim) lim 0x09 :=
  tsv_verdict_sound Closed.ext x lim leaf hleaf hm

/-- `a,b⏎1,2⏎` -/
def exCsv : Bytes := [0x61, 0x2C, 0x62, 0x0A, 0x31, 0x2C, 0x32, 0x0A]
/-- `a,b⏎1⏎` (ragged) -/
def exRagged : Bytes := [0x61, 0x2C, 0x62, 0x0A, 0x31, 0x0A]
/-- `a⇥b⏎1⇥2⏎` -/
def exTsv : Bytes := [0x61, 0x09, 0x62, 0x0A, 0x31, 0x09, 0x32, 0x0A]
/-- `{"a":1}⏎[2]⏎` -/
def exNd : Bytes := [0x7B, 0x22, 0x61, 0x22, 0x3A, 0x31, 0x7D, 0x0A, 0x5B, 0x32, 0x5D, 0x0A]
/-- `1⏎2⏎`: two lines, both JSON values, neither an object or array -/
def exNdScalars : Bytes := [0x31, 0x0A, 0x32, 0x0A]

example : ((Closed.detect exCsv 0).chain.map (·.mime)) = [mimeCsv, mimeTextPlain, mimeOctet] := by
  decide +kernel
example : ((Closed.detect exRagged 0).chain.map (·.mime)) = [mimeTextPlain, mimeOctet] := by
  decide +kernel
example : ((Closed.detect exTsv 0).chain.map (·.mime)) = [mimeTsv, mimeTextPlain, mimeOctet] := by
  decide +kernel
example : ((Closed.detect exNd 0).chain.map (·.mime)) = [mimeNdjson, mimeTextPlain, mimeOctet] := by
  decide +kernel
example : ((Closed.detect exNdScalars 0).chain.map (·.mime)) = [mimeTextPlain, mimeOctet] := by
  decide +kernel

/-- the theorem applied to the concrete CSV: its conclusion, and the reference's own count -/
example : specCounts 0x2C (dropLastLine (header exCsv 0) 0) = [2, 2] ∧
    specCounts 0x2C (dropLastLine (header exRagged 0) 0) = [2, 1] := by decide +kernel
example : SvSound (header exCsv 0) 0 0x2C := by
  obtain ⟨leaf, h1, h2⟩ := Option.map_eq_some_iff.1
    (by decide +kernel : ((Closed.detect exCsv 0).chain.head?.map (·.mime)) = some mimeCsv)
  exact closed_csv_verdict_sound exCsv 0 leaf h1 h2

/-- `a,b⏎1,2⏎33` (10 bytes) examined with limit 9: the header is `a,b⏎1,2⏎3`, its incomplete last
    line is dropped and not counted -/
example : ((Closed.detect [0x61, 0x2C, 0x62, 0x0A, 0x31, 0x2C, 0x32, 0x0A, 0x33, 0x33] 9).chain.map (·.mime)) =
      [mimeCsv, mimeTextPlain, mimeOctet] ∧
    specCounts 0x2C (dropLastLine (header [0x61, 0x2C, 0x62, 0x0A, 0x31, 0x2C, 0x32, 0x0A, 0x33, 0x33] 9) 9) = [2, 2] := by
  decide +kernel

end Mime.C13
