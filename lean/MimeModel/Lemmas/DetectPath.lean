import MimeModel.Lemmas.WalkPath
import MimeModel.Lemmas.DetectSound
/-
  From the verdicts of single detectors to the result of `detect`, generically: what `accepts`
  is on a node whose detector is known, how a node of a concrete tree is named, and the result of
  `detect` when the examined header is accepted along a path of the tree.
-/
namespace Mime.DetectPath
open Mime Mime.Cust Mime.Tree Mime.WalkPath Mime.DetectSound

theorem accepts_det (ext : Ext) (h : Bytes) (lim : Nat) (i : Info) {d : Det} (hd : i.det = d) :
    accepts ext h lim i = (detEval ext.cust d h lim == some true) := by
  rw [accepts, hd]

theorem accepts_custom (ext : Ext) (h : Bytes) (lim : Nat) (i : Info) (c : Custom) {f : Bytes → Nat → Option Bool}
    (hd : i.det = .custom c) (hm : customModel c = some f) :
    accepts ext h lim i = (f h lim == some true) := by
  rw [accepts_det ext h lim i hd, detEval, Det.evalWith, custEval, hm]

theorem accepts_custom_total (ext : Ext) (h : Bytes) (lim : Nat) (i : Info) (c : Custom) (g : Bytes → Nat → Bool)
    (hd : i.det = .custom c) (hm : customModel c = some (fun raw lim => some (g raw lim))) :
    accepts ext h lim i = g h lim := by
  rw [accepts_custom ext h lim i c hd hm]
  cases g h lim <;> rfl

theorem leaf_custom_accepted (ext : Ext) (T : Tree Info) (x : Bytes) (lim : Nat) (leaf : Info) (m : Bytes)
    (c : Custom) (g : Bytes → Nat → Bool)
    (hleaf : (detect ext T x lim).chain.head? = some leaf) (hm : leaf.mime = m)
    (hall : T.flatten.all (fun i => !(i.mime == m) || decide (i.det = .custom c)) = true)
    (hroot : (T.info.mime == m) = false)
    (hg : customModel c = some (fun raw lim => some (g raw lim))) :
    g (header x lim) lim = true := by
  obtain ⟨hdet, hacc⟩ := chain_kind ext T x lim (fun i => i.mime == m) (fun i => decide (i.det = .custom c))
    hall hroot leaf (List.mem_of_mem_head? hleaf) (beq_iff_eq.2 hm)
  rwa [accepts_custom_total ext _ lim leaf c g (of_decide_eq_true hdet) hg] at hacc

/-- a node defined as "the one the search finds, or else a default" is what the search finds, once
    the search is known to succeed (a decidable fact about a concrete tree) -/
theorem found {α : Type} {o : Option α} (d : α) (h : o.isSome = true) : o = some (o.getD d) := by
  cases o with
  | none => cases h
  | some a => rfl

/-- **the result of `detect` along an accepted path** whose end has no accepting child: the path
    reversed up to the root, with the charset parameter of the path's end — unless a rival accepts -/
theorem detect_along (ext : Ext) (T : Tree Info) (x : Bytes) (lim : Nat) (ps : List (Tree Info → Bool))
    (target : Tree Info) (hd : descend ps T = some target)
    (hall : ∀ n ∈ pathNodes ps T, accepts ext (header x lim) lim n.info = true)
    (hleaf : ∀ c ∈ target.children, accepts ext (header x lim) lim c.info = false) :
    ((detect ext T x lim).chain = target.info :: ((T :: pathNodes ps T).dropLast.map (·.info)).reverse ∧
      (detect ext T x lim).charset = charsetFor ext target.info.mime (header x lim)) ∨
    (∃ d ∈ rivals ps T, accepts ext (header x lim) lim d.info = true) := by
  refine (walk_along_leaf ps T target hd hall hleaf).imp_left (fun hw => ?_)
  have hc : (detect ext T x lim).chain =
      target.info :: ((T :: pathNodes ps T).dropLast.map (·.info)).reverse := by
    rw [chain_eq, hw, List.reverse_append]
    rfl
  exact ⟨hc, charset_of_leaf ext T x lim target.info (by rw [hc]; rfl)⟩

theorem detect_along_childless (ext : Ext) (T : Tree Info) (x : Bytes) (lim : Nat) (ps : List (Tree Info → Bool))
    (target : Tree Info) (hd : descend ps T = some target)
    (hall : ∀ n ∈ pathNodes ps T, accepts ext (header x lim) lim n.info = true)
    (hleaf : target.children = []) :
    ((detect ext T x lim).chain = target.info :: ((T :: pathNodes ps T).dropLast.map (·.info)).reverse ∧
      (detect ext T x lim).charset = charsetFor ext target.info.mime (header x lim)) ∨
    (∃ d ∈ rivals ps T, accepts ext (header x lim) lim d.info = true) :=
  detect_along ext T x lim ps target hd hall (fun c hc => by rw [hleaf] at hc; cases hc)

end Mime.DetectPath
