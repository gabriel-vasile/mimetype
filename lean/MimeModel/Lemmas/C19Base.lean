import MimeModel.Model.Detect
import MimeModel.Gen.Tree
import MimeModel.Lemmas.OfString
import MimeModel.Lemmas.ZipBytes
/-
  C19 — zip-based formats are identified from their leading entry names.  Here for arbitrary byte
  strings, with offsets: a positive verdict of the walk of zip.go finds the marker at offset 30 or
  30 bytes after a signature `PK\x03\x04`; conversely the marker at such a position, reached by the
  hops of the walk, gives a positive verdict.  The archive layout comes in Lemmas/ZipLayout.lean.
-/
namespace Mime.C19Base
open Mime Mime.Tree Mime.ZipLayout

/-- `zipLoop` and `zipWalk` work on successive suffixes `b.drop …`; here on offsets into `raw`: with
    the cursor at `p` the search for the next local header starts at `p + 26`, the header found `nh`
    bytes from there is complete if `p + 56 + nh ≤ raw.length`, and the next cursor is its name
    position `p + 56 + nh` -/
theorem zipLoop_succ (sig raw : Bytes) (n p : Nat) :
    zipLoop sig (n + 1) (raw.drop p) =
      match indexOf pk34 (raw.drop (p + 26)) with
      | none => false
      | some nh => decide (p + 56 + nh ≤ raw.length) &&
          (hasPrefix (raw.drop (p + 56 + nh)) sig || zipLoop sig n (raw.drop (p + 56 + nh))) := by
  rw [zipLoop]
  simp only [List.drop_drop, List.length_drop]
  by_cases h0 : raw.length - p < 0x1A
  · -- nothing left to search: `indexOf` on the empty rest finds nothing
    rw [if_pos h0, List.drop_eq_nil_of_le (show raw.length ≤ p + 26 by omega)]; rfl
  · rw [if_neg h0]
    cases indexOf pk34 (raw.drop (p + 26)) with
    | none => rfl
    | some nh =>
      have e : p + 0x1A + (nh + 0x1E) = p + 56 + nh := by omega
      simp only [e]
      by_cases h1 : p + 56 + nh ≤ raw.length
      · rw [if_neg (by omega), decide_eq_true h1]
        cases hasPrefix (raw.drop (p + 56 + nh)) sig <;> rfl
      · rw [if_pos (by omega), decide_eq_false h1]; rfl

/-- the walk of `zipContains` after its guards: the first name position is 30, the search for the
    second header starts at `so = compressedSize + 49` (32-bit), the second name position is
    `30 + so + nh` -/
theorem zipWalk_eq (raw sig : Bytes) (mso : Bool) (hl : 30 ≤ raw.length) :
    zipWalk raw sig mso =
      if hasPrefix (raw.drop 30) sig then some true else
      if mso && !(msoSkipFiles.any fun sf => hasPrefix (raw.drop 30) sf) then some false else
      match indexOf pk34 (raw.drop ((u32le raw 18 + 49) % 4294967296)) with
      | none => some false
      | some nh => some (decide (30 + (u32le raw 18 + 49) % 4294967296 + nh ≤ raw.length) &&
          (hasPrefix (raw.drop (30 + (u32le raw 18 + 49) % 4294967296 + nh)) sig ||
            zipLoop sig 4 (raw.drop (30 + (u32le raw 18 + 49) % 4294967296 + nh)))) := by
  unfold zipWalk
  rw [getU32le_isSome (by omega)]
  simp only [List.drop_drop, List.length_drop]
  generalize (u32le raw 18 + 49) % 4294967296 = so
  generalize hasPrefix (raw.drop 30) sig = c1
  generalize (mso && !(msoSkipFiles.any fun sf => hasPrefix (raw.drop 30) sf)) = c2
  generalize raw.length = L at hl
  cases c1
  · cases c2
    · simp only [Bool.false_eq_true, ↓reduceIte]
      cases indexOf pk34 (raw.drop so) with
      | none =>
        by_cases h1 : L - 30 < so
        · rw [if_pos h1]
        · rw [if_neg h1, if_neg (by omega)]
      | some nh =>
        simp only
        generalize hasPrefix (raw.drop (30 + so + nh)) sig = c3
        generalize zipLoop sig 4 (raw.drop (30 + so + nh)) = c4
        by_cases h2 : 30 + so + nh ≤ L
        · rw [if_neg (by omega), if_neg (by omega), if_neg (by omega), decide_eq_true h2]
          cases c3 <;> rfl
        · rw [decide_eq_false h2, Bool.false_and]
          -- the search starts behind the end of the file, or the header found is incomplete
          by_cases h1 : L - 30 < so
          · rw [if_pos h1]
          · rw [if_neg h1, if_neg (by omega), if_pos (by omega)]
    · rfl
  · rfl

/-- "the marker sits at a name position": at offset 30 of the file, or 30 bytes after a
    local-header signature -/
def AtNamePos (raw sig : Bytes) : Prop :=
  ∃ k, hasPrefix (raw.drop k) sig = true ∧ (k = 30 ∨ (30 ≤ k ∧ hasPrefix (raw.drop (k - 30)) pk34 = true))

theorem atNamePos_of_index {raw sig : Bytes} {s nh : Nat} (hi : indexOf pk34 (raw.drop s) = some nh)
    (hp : hasPrefix (raw.drop (s + 30 + nh)) sig = true) : AtNamePos raw sig := by
  refine ⟨s + 30 + nh, hp, Or.inr ⟨by omega, ?_⟩⟩
  have := indexOf_spec pk34 nh hi
  rwa [List.drop_drop, show s + nh = s + 30 + nh - 30 by omega] at this

theorem zipLoop_sound (sig raw : Bytes) : ∀ (n p : Nat), zipLoop sig n (raw.drop p) = true →
    AtNamePos raw sig := by
  intro n
  induction n with
  | zero => intro p h; cases h
  | succ n ih =>
    intro p h
    rw [zipLoop_succ] at h
    split at h
    · cases h
    · rename_i nh hi
      rw [Bool.and_eq_true, Bool.or_eq_true] at h
      rcases h.2 with hp | hrec
      · exact atNamePos_of_index hi (by rwa [show p + 26 + 30 + nh = p + 56 + nh by omega])
      · exact ih _ hrec

theorem verdict_implies_marker (raw sig : Bytes) (mso : Bool) (h : zipContains raw sig mso = some true) :
    AtNamePos raw sig := by
  obtain ⟨h0, _, h⟩ := zipContains_true raw sig mso h
  rw [zipWalk_eq raw sig mso (by omega)] at h
  split at h
  · rename_i h1
    exact ⟨30, h1, Or.inl rfl⟩
  · split at h
    · cases h
    · split at h
      · cases h
      · rename_i nh hi
        rw [Option.some.injEq, Bool.and_eq_true, Bool.or_eq_true] at h
        rcases h.2 with hp | hrec
        · exact atNamePos_of_index hi (by rwa [Nat.add_comm _ 30])
        · exact zipLoop_sound sig raw 4 _ hrec

theorem first_entry_marker (raw sig : Bytes) (mso : Bool) (hl : 30 ≤ raw.length) (hpk : hasPrefix raw pk34 = true)
    (h : hasPrefix (raw.drop 30) sig = true) : zipContains raw sig mso = some true := by
  rw [zipContains_of_header raw sig mso hl hpk, zipWalk_eq raw sig mso hl, if_pos h]

/-- `META-INF/MANIFEST.MF` -/
def kManifest : Bytes := [77, 69, 84, 65, 45, 73, 78, 70, 47, 77, 65, 78, 73, 70, 69, 83, 84, 46, 77, 70]

/-- `Gen.d_Jar` is `zipContains(raw, "META-INF/MANIFEST.MF", false)` -/
theorem jar_forward (raw : Bytes) (hl : 30 ≤ raw.length) (hpk : hasPrefix raw pk34 = true)
    (h : hasPrefix (raw.drop 30) kManifest = true) :
    Cust.evalExpr Gen.d_Jar raw = some true :=
  first_entry_marker raw kManifest false hl hpk h

/-- `application/zip` -/
def mimeZip : Bytes := [97, 112, 112, 108, 105, 99, 97, 116, 105, 111, 110, 47, 122, 105, 112]

/-- regenerated facts about tree.go: the children of the zip node in priority order (apk before
    jar), its type, and outside the zip subtree no detector of the shape `zipContains(…)` or
    `zipContains(…) || …` (the shapes of the OOXML, JAR and APK checks) -/
theorem tree_facts :
    (Gen.builtin.children.filter (fun c => c.info.name == "zip")).map (fun c => c.children.map (·.info.name)) =
      [["xlsx", "docx", "pptx", "epub", "odt", "ods", "odp", "odg", "odf", "odc", "sxc", "apk", "jar"]] ∧
    (Gen.builtin.children.filter (fun c => c.info.name == "zip")).map (·.info.mime) = [mimeZip] ∧
    -- no node outside the zip subtree uses the zip walk
    (Gen.builtin.children.filter (fun c => !(c.info.name == "zip"))).all (fun c =>
      (Tree.flatten c).all (fun i => match i.det with
        | .expr (.prim (.zipContains _ _)) => false
        | .expr (.or (.prim (.zipContains _ _)) _) => false
        | _ => true)) = true := by
  refine ⟨by decide, by decide, by decide⟩

/- a stored first entry named META-INF/MANIFEST.MF -/
example : zipContains ([0x50, 0x4B, 3, 4] ++ List.replicate 26 0 ++ kManifest) kManifest false = some true := by decide

/-- one hop of the loop of `zipContains`: the cursor is at the name of an entry (position `p`,
    30 bytes after its header); the next local-header signature after the 26 bytes the loop
    skips is at `q`, and that header is complete -/
def Hop (raw : Bytes) (p q : Nat) : Prop :=
  p + 0x1A ≤ raw.length ∧ p + 0x1A ≤ q ∧ indexOf pk34 (raw.drop (p + 0x1A)) = some (q - (p + 0x1A)) ∧ q + 0x1E ≤ raw.length

/-- a chain of hops from name position `p` through the names of the following entries, none of
    which starts with the marker, ending at a name that does -/
inductive Chain (raw sig : Bytes) : Nat → Nat → Prop
  | last (p q : Nat) : Hop raw p q → hasPrefix (raw.drop (q + 0x1E)) sig = true → Chain raw sig p 1
  | step (p q n : Nat) : Hop raw p q → hasPrefix (raw.drop (q + 0x1E)) sig = false →
      Chain raw sig (q + 0x1E) n → Chain raw sig p (n + 1)

theorem zipLoop_hop (raw sig : Bytes) (fuel p q : Nat) (h : Hop raw p q) :
    zipLoop sig (fuel + 1) (raw.drop p) =
      (hasPrefix (raw.drop (q + 0x1E)) sig || zipLoop sig fuel (raw.drop (q + 0x1E))) := by
  obtain ⟨_, _, h3, h4⟩ := h
  have e : p + 56 + (q - (p + 0x1A)) = q + 0x1E := by omega
  rw [zipLoop_succ, h3]
  simp only [e, decide_eq_true h4, Bool.true_and]

/-- **the loop follows the chain**: with at least as many iterations as hops, it finds the marker -/
theorem zipLoop_chain {raw sig : Bytes} {p n : Nat} (h : Chain raw sig p n) :
    ∀ fuel, n ≤ fuel → zipLoop sig fuel (raw.drop p) = true := by
  induction h with
  | last p q hq hp =>
    intro fuel hf
    obtain ⟨f, rfl⟩ : ∃ f, fuel = f + 1 := ⟨fuel - 1, by omega⟩
    rw [zipLoop_hop raw sig f p q hq, hp, Bool.true_or]
  | step p q n hq hp _ ih =>
    intro fuel hf
    obtain ⟨f, rfl⟩ : ∃ f, fuel = f + 1 := ⟨fuel - 1, by omega⟩
    rw [zipLoop_hop raw sig f p q hq, hp, Bool.false_or]
    exact ih f (by omega)

theorem zipContains_forward (raw sig : Bytes) (mso : Bool) (nh : Nat)
    (hlen : 0x1E ≤ raw.length) (hpk : hasPrefix raw pk34 = true)
    (hmso : mso = true → msoSkipFiles.any (fun sf => hasPrefix (raw.drop 0x1E) sf) = true)
    (hso : 0x1E + (u32le raw 18 + 49) % 4294967296 + nh ≤ raw.length)
    (hidx : indexOf pk34 (raw.drop ((u32le raw 18 + 49) % 4294967296)) = some nh)
    (hfin : hasPrefix (raw.drop (0x1E + (u32le raw 18 + 49) % 4294967296 + nh)) sig = true ∨
      ∃ n, n ≤ 4 ∧ Chain raw sig (0x1E + (u32le raw 18 + 49) % 4294967296 + nh) n) :
    zipContains raw sig mso = some true := by
  rw [zipContains_of_header raw sig mso hlen hpk, zipWalk_eq raw sig mso hlen]
  split
  · rfl
  · have hm : (mso && !(msoSkipFiles.any fun sf => hasPrefix (raw.drop 0x1E) sf)) = false := by
      cases mso with
      | false => rfl
      | true => rw [hmso rfl]; rfl
    rw [hm, hidx]
    simp only [Bool.false_eq_true, ↓reduceIte, decide_eq_true hso, Bool.true_and]
    rcases hfin with h | ⟨n, hn, hc⟩
    · rw [h, Bool.true_or]
    · rw [zipLoop_chain hc 4 hn, Bool.or_true]

/- a three-entry package: [Content_Types].xml, _rels/.rels, word/document.xml -/
def exContentTypes : Bytes := [91, 67, 111, 110, 116, 101, 110, 116, 95, 84, 121, 112, 101, 115, 93, 46, 120, 109, 108]
def exRels : Bytes := [95, 114, 101, 108, 115, 47, 46, 114, 101, 108, 115]
def exWordDoc : Bytes := [119, 111, 114, 100, 47, 100, 111, 99, 117, 109, 101, 110, 116, 46, 120, 109, 108]
def exWord : Bytes := [119, 111, 114, 100, 47]
def exArchive : Bytes :=
  pk34 ++ List.replicate 14 0 ++ [5, 0, 0, 0] ++ List.replicate 8 0 ++ exContentTypes ++ List.replicate 5 120 ++
  pk34 ++ List.replicate 26 0 ++ exRels ++ List.replicate 20 120 ++
  pk34 ++ List.replicate 26 0 ++ exWordDoc ++ List.replicate 10 120

example : zipContains exArchive exWord true = some true := by decide +kernel

example : Hop exArchive 84 115 ∧ hasPrefix (exArchive.drop 145) exWord = true ∧
    indexOf pk34 (exArchive.drop ((u32le exArchive 18 + 49) % 4294967296)) = some 0 := by
  unfold Hop
  decide +kernel

end Mime.C19Base
