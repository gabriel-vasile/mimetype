import MimeModel.Props.C09
import MimeModel.Lemmas.JsonDepth
import MimeModel.Props.C16
/-
  C16 for inputs that merely *begin* deep: the scanner gives up as soon as it is asked to enter
  level cap + 1, without looking at anything behind that point.  So an examined header that begins
  with cap + 2 opening brackets (or with cap + 1 times `{"k":` and one more `{`) — whatever
  follows them, closed or not, cut by the limit or not — is refused by every detector of the JSON
  family: the run fails (whole input: nothing parsed) and has inspected at most cap + 1 bytes (cut
  input: not everything was inspected).

  This does not go through the reference grammar (the header need not be a document), it is read
  off the model of the scanner.
-/
namespace Mime.JsonDeep
open Mime Mime.Json
open Mime.JsonDepth (okey)

variable (qs : List Gen.Json.Query) (cap : Nat)

open Mime.JsonPrefix

theorem spaceScan_open (c : Nat) (cs : Bytes) (s : PState) (h : isSpace c = false) :
    spaceScan (c :: cs) s = (some (c :: cs), s) := by
  simp [spaceScan, consumeSpace, h]

theorem finishAny_none (q : Bool) (lvl t : Nat) {res : Option Bytes × PState} (h : res.1 = none) :
    (finishAny q lvl t res).1 = none ∧ (finishAny q lvl t res).2.ib = res.2.ib := by
  unfold finishAny
  rw [h]
  exact ⟨rfl, JsonLeaf.setFlags_ib res.2 q lvl t⟩

/-- `consumeAny` at level `lvl` fails on `y`, from every state and with every fuel, having inspected at most `B` bytes -/
def Refuses (lvl : Nat) (y : Bytes) (B : Nat) : Prop :=
  ∀ (fuel : Nat) (s : PState), (consumeAny qs cap fuel lvl y s).1 = none ∧ (consumeAny qs cap fuel lvl y s).2.ib ≤ s.ib + B

variable {qs cap}

theorem refuses_over (hc : cap ≠ 0) {lvl : Nat} (h : cap < lvl) (y : Bytes) : Refuses qs cap lvl y 0 := by
  intro fuel s
  cases fuel with
  | zero => exact ⟨rfl, Nat.le_refl _⟩
  | succ f =>
    obtain ⟨h1, h2⟩ := Mime.C16.over_cap_entry qs cap hc f lvl y s h
    exact ⟨h1, Nat.le_of_eq h2⟩

theorem refuses_arr {lvl B c : Nat} {cs : Bytes} (hsp : isSpace c = false) (hcl : (c == 0x5D) = false)
    (h : Refuses qs cap (lvl + 1) (c :: cs) B) : Refuses qs cap lvl (0x5B :: c :: cs) (B + 1) := by
  intro fuel s
  cases fuel with
  | zero => exact ⟨rfl, Nat.le_add_right _ _⟩
  | succ f =>
    rw [consumeAny_eq]
    split
    · exact ⟨rfl, Nat.le_add_right _ _⟩
    · rw [spaceScan_open 0x5B _ _ (by decide)]
      simp only [anyHead, finishScan]
      have harr : (arrayLoop qs cap f (lvl + 1) (c :: cs) ((s.enter lvl).bump.push [0x5B])).1 = none ∧
          (arrayLoop qs cap f (lvl + 1) (c :: cs) ((s.enter lvl).bump.push [0x5B])).2.ib ≤ s.ib + (B + 1) := by
        cases f with
        | zero => exact ⟨rfl, Nat.add_le_add_left (Nat.le_add_left 1 B) _⟩
        | succ f =>
          rw [arrayLoop_eq, spaceScan_open c _ _ hsp]
          simp only [arrHead]
          rw [if_neg (by rw [hcl]; exact Bool.false_ne_true)]
          obtain ⟨h1, h2⟩ := h f ((s.enter lvl).bump.push [0x5B])
          generalize consumeAny qs cap f (lvl + 1) (c :: cs) _ = run at h1 h2 ⊢
          obtain ⟨o, s2⟩ := run
          cases h1
          exact ⟨rfl, Nat.add_right_comm s.ib B 1 ▸ h2⟩
      obtain ⟨f1, f2⟩ := finishAny_none qs.isEmpty lvl (Kind.tok .arr) harr.1
      exact ⟨f1, f2 ▸ harr.2⟩

theorem brackets_fail (hc : cap ≠ 0) : ∀ (k lvl : Nat) (rest : Bytes), lvl + k = cap + 1 →
    Refuses qs cap lvl (List.replicate k 0x5B ++ 0x5B :: rest) k := by
  intro k
  induction k with
  | zero => intro lvl rest hl; exact refuses_over hc (by omega) _
  | succ k ih =>
    intro lvl rest hl
    obtain ⟨cs, hcs⟩ : ∃ cs, List.replicate k 0x5B ++ 0x5B :: rest = 0x5B :: cs := by
      cases k with
      | zero => exact ⟨rest, rfl⟩
      | succ k => exact ⟨_, rfl⟩
    have := ih (lvl + 1) rest (by omega)
    rw [hcs] at this
    rw [List.replicate_succ, List.cons_append, hcs]
    exact refuses_arr (by decide) (by decide) this

variable (qs cap)

/-- **a header that begins with cap + 2 opening brackets is refused**, whatever follows, at every
    limit, by every query and wanted token -/
theorem deep_prefix_refused (hc : cap ≠ 0) (rest : Bytes) (lim : Nat) (w : Nat) :
    jsonHelperCap cap (List.replicate (cap + 2) 0x5B ++ rest) lim qs w = false := by
  have hraw : List.replicate (cap + 2) 0x5B ++ rest = List.replicate (cap + 1) 0x5B ++ 0x5B :: rest := by
    rw [List.replicate_succ' (n := cap + 1)]; simp
  have hlen : (List.replicate (cap + 1) 0x5B ++ 0x5B :: rest).length = cap + 2 + rest.length := by simp; omega
  rw [hraw]
  obtain ⟨b1, b2⟩ := brackets_fail hc (cap + 1) 0 rest (Nat.zero_add _) (fuelFor (List.replicate (cap + 1) 0x5B ++ 0x5B :: rest))
    PState.fresh.reset
  exact JsonDepth.not_reported_of_fail cap lim qs w b1 (by rw [hlen]; exact Nat.lt_of_le_of_lt b2 (by show 0 + _ < _; omega))

/-- for the detectors as wired (cap = `maxRecursion` = 4096): 4098 opening brackets -/
theorem deep_prefix_refused_real (rest : Bytes) (lim : Nat) (qs : List Gen.Json.Query) (w : Nat) :
    jsonHelper (List.replicate (Gen.Json.maxRecursion + 2) 0x5B ++ rest) lim qs w = false := by
  rw [Mime.C09.jsonHelper_eq]
  exact deep_prefix_refused qs _ (by decide) rest lim w

variable {qs cap}

theorem refuses_obj {lvl B : Nat} {cs : Bytes} (h : Refuses qs cap (lvl + 1) (0x7B :: cs) B) :
    Refuses qs cap lvl (0x7B :: 0x22 :: 0x6B :: 0x22 :: 0x3A :: 0x7B :: cs) (B + 5) := by
  intro fuel s
  cases fuel with
  | zero => exact ⟨rfl, Nat.le_add_right _ _⟩
  | succ f =>
    rw [consumeAny_eq]
    split
    · exact ⟨rfl, Nat.le_add_right _ _⟩
    · rw [spaceScan_open 0x7B _ _ (by decide)]
      simp only [anyHead, finishScan]
      have hobj : (objectLoop qs cap f (lvl + 1) (0x22 :: 0x6B :: 0x22 :: 0x3A :: 0x7B :: cs) (s.enter lvl).bump).1 = none ∧
          (objectLoop qs cap f (lvl + 1) (0x22 :: 0x6B :: 0x22 :: 0x3A :: 0x7B :: cs) (s.enter lvl).bump).2.ib ≤ s.ib + (B + 5) := by
        cases f with
        | zero => exact ⟨rfl, Nat.add_le_add_left (Nat.le_add_left 1 (B + 4)) _⟩
        | succ f =>
          have hstr : ∀ S, consumeString .norm (0x6B :: 0x22 :: 0x3A :: 0x7B :: cs) S = (some (0x3A :: 0x7B :: cs), S.bump.bump) := by
            intro S
            rw [consumeString.eq_def]
            simp only [beq_iff_eq, Nat.reduceEqDiff, ↓reduceIte]
            rw [consumeString.eq_def]
            simp
          rw [objectLoop_eq, spaceScan_open 0x22 _ _ (by decide)]
          -- the key `"k"`, the colon, the value: one piece of `objectLoop` at a time
          simp only [objHead, (by decide : ((0x22 : Nat) == 0x7D) = false), (by decide : ((0x22 : Nat) != 0x22) = false),
            Bool.false_eq_true, ↓reduceIte, hstr]
          simp only [objAfterKey, spaceScan_open 0x3A _ _ (by decide : isSpace 0x3A = false)]
          simp only [objColon, (by decide : ((0x3A : Nat) != 0x3A) = false), Bool.false_eq_true, ↓reduceIte,
            spaceScan_open 0x7B _ _ (by decide : isSpace 0x7B = false)]
          simp only [objValue]
          have h1 : ∀ S o s6, consumeAny qs cap f (lvl + 1) (0x7B :: cs) S = (o, s6) → o = none ∧ s6.ib ≤ S.ib + B := by
            intro S o s6 hS
            have := h f S
            rw [hS] at this
            exact this
          split
          · rename_i heq
            cases (h1 _ _ _ heq).1
          · rename_i s6 heq
            have := (h1 _ _ _ heq).2
            refine ⟨rfl, ?_⟩
            simp only [PState.bump, PState.push, PState.enter] at this ⊢
            omega
      obtain ⟨f1, f2⟩ := finishAny_none qs.isEmpty lvl (Kind.tok .obj) hobj.1
      exact ⟨f1, f2 ▸ hobj.2⟩

theorem okeys_fail (hc : cap ≠ 0) : ∀ (k lvl : Nat) (rest : Bytes), lvl + k = cap + 1 →
    Refuses qs cap lvl ((List.replicate k okey).flatten ++ 0x7B :: rest) (5 * k) := by
  intro k
  induction k with
  | zero => intro lvl rest hl; exact refuses_over hc (by omega) _
  | succ k ih =>
    intro lvl rest hl
    obtain ⟨cs, hcs⟩ : ∃ cs, (List.replicate k okey).flatten ++ 0x7B :: rest = 0x7B :: cs := by
      cases k with
      | zero => exact ⟨rest, rfl⟩
      | succ k => exact ⟨_, rfl⟩
    have := ih (lvl + 1) rest (by omega)
    rw [hcs] at this
    rw [List.replicate_succ, List.flatten_cons, List.append_assoc, hcs]
    exact refuses_obj this

variable (qs cap)

/-- **a header that begins with cap + 1 times `{"k":` and one more `{` is refused**, whatever
    follows, at every limit, by every query and wanted token -/
theorem deep_object_prefix_refused (hc : cap ≠ 0) (rest : Bytes) (lim : Nat) (w : Nat) :
    jsonHelperCap cap ((List.replicate (cap + 1) okey).flatten ++ 0x7B :: rest) lim qs w = false := by
  have hlen : ((List.replicate (cap + 1) okey).flatten ++ 0x7B :: rest).length = 5 * (cap + 1) + 1 + rest.length := by
    simp [okey]; omega
  obtain ⟨b1, b2⟩ := okeys_fail hc (cap + 1) 0 rest (Nat.zero_add _)
    (fuelFor ((List.replicate (cap + 1) okey).flatten ++ 0x7B :: rest)) PState.fresh.reset
  exact JsonDepth.not_reported_of_fail cap lim qs w b1 (by rw [hlen]; exact Nat.lt_of_le_of_lt b2 (by show 0 + _ < _; omega))

theorem deep_object_prefix_refused_real (rest : Bytes) (lim : Nat) (qs : List Gen.Json.Query) (w : Nat) :
    jsonHelper ((List.replicate (Gen.Json.maxRecursion + 1) okey).flatten ++ 0x7B :: rest) lim qs w = false := by
  rw [Mime.C09.jsonHelper_eq]
  exact deep_object_prefix_refused qs _ (by decide) rest lim w

/- tight at cap 2: four brackets are refused whatever follows; three are accepted when cut -/
example : jsonHelperCap 2 (List.replicate 4 0x5B) 4 Gen.Json.q_json (tokObject ||| tokArray) = false := by decide +kernel
example : jsonHelperCap 2 (List.replicate 3 0x5B) 3 Gen.Json.q_json (tokObject ||| tokArray) = true := by decide +kernel

example : jsonHelperCap 2 ((List.replicate 3 okey).flatten ++ [0x7B]) 16 Gen.Json.q_json (tokObject ||| tokArray) = false := by decide +kernel
example : jsonHelperCap 2 ((List.replicate 2 okey).flatten ++ [0x7B]) 11 Gen.Json.q_json (tokObject ||| tokArray) = true := by decide +kernel

end Mime.JsonDeep
