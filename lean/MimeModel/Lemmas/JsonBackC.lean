import MimeModel.Lemmas.JsonBack
import MimeModel.Lemmas.JsonForward
/-
  Backward simulation, container level (by induction on fuel, with enough fuel):
  * the scanner succeeds  ⇒  the relaxed reference grammar accepts, with the same rest;
  * the scanner fails having inspected every byte  ⇒  the reference says `more`
    (the input is a proper prefix of something it could accept).
-/
namespace Mime.JsonBack
open Mime Mime.Json Mime.Spec Mime.JsonLeaf Mime.JsonForward Mime.JsonPrefix

variable (qs : List Mime.Gen.Json.Query) (cap : Nat)

/-- reference outcome with the trailing white space skipped and the value mapped -/
def mapWs {α β : Type} (x : J.R α) (g : α → β) : J.R β :=
  match x with
  | .ok v r => .ok (g v) (J.skipWs r)
  | .more => .more
  | .bad => .bad

/-- the reference value, then white space -/
def valueWs (f : Nat) (b : Bytes) : J.R J.JVal := mapWs (J.value false f b) id

/-- The fuel bounds: every nested call spends one unit of fuel, and of two calls nested in one another at least
    one runs on a shorter input (value → loop, loop → loop; only loop → value keeps the input), so `2·len + 1`
    suffices for a value and `2·len + 2` for a loop; `parse` supplies `2·len + 4`. -/
def BAny (f : Nat) : Prop := ∀ lvl b s, 2 * b.length + 1 ≤ f → Back (consumeAny qs cap f lvl b s) s b (valueWs f b)
def BArr (f : Nat) : Prop := ∀ lvl b s acc first, 2 * b.length + 2 ≤ f →
  Back (arrayLoop qs cap f lvl b s) s b (J.items false f b acc first)
def BObj (f : Nat) : Prop := ∀ lvl b s acc first, 2 * b.length + 2 ≤ f →
  Back (objectLoop qs cap f lvl b s) s b (J.members false f b acc first)

theorem finish_back {α β : Type} (q : Bool) (lvl t : Nat) {res : Option Bytes × PState} {s0 : PState} {y0 : Bytes}
    {spec : J.R α} (g : α → β) (h : Back res s0 y0 spec) : Back (finishAny q lvl t res) s0 y0 (mapWs spec g) := by
  obtain ⟨o, s'⟩ := res
  cases o with
  | none =>
    obtain ⟨h1, h2⟩ := h
    refine ⟨by simp only [setFlags_ib]; exact h1, ?_⟩
    intro e
    simp only [setFlags_ib] at e
    rw [h2 e]; rfl
  | some r =>
    obtain ⟨⟨v, hv⟩, h2, h3⟩ := h
    have hle := skipWs_length_le r
    simp only [finishAny, consumeSpace_spec]
    refine ⟨⟨g v, by rw [hv]; rfl⟩, ?_, by omega⟩
    simp only [bump_ib, setFlags_ib]
    omega

theorem members_nil (f : Nat) (acc : List (Bytes × J.JVal)) (first : Bool) : J.members false (f + 1) [] acc first = .more :=
  SpecComplete.members_nil rfl

theorem valueWs_cases (f : Nat) (y : Bytes) :
    (∃ v r0, J.value false f y = .ok v r0 ∧ valueWs f y = .ok v (J.skipWs r0)) ∨
    (J.value false f y = .more ∧ valueWs f y = .more) ∨ (J.value false f y = .bad ∧ valueWs f y = .bad) := by
  unfold valueWs
  cases h : J.value false f y with
  | ok v r => left; exact ⟨v, r, rfl, rfl⟩
  | more => right; left; exact ⟨rfl, rfl⟩
  | bad => right; right; exact ⟨rfl, rfl⟩

theorem valueWs_more {f : Nat} {y : Bytes} (h : valueWs f y = .more) : J.value false f y = .more := by
  rcases valueWs_cases f y with ⟨v, r0, _, h2⟩ | ⟨h1, _⟩ | ⟨_, h2⟩
  · rw [h2] at h; cases h
  · exact h1
  · rw [h2] at h; cases h

theorem valueWs_ok {f : Nat} {y : Bytes} {v : J.JVal} {r : Bytes} (h : valueWs f y = .ok v r) :
    ∃ r0, J.value false f y = .ok v r0 ∧ r = J.skipWs r0 := by
  rcases valueWs_cases f y with ⟨v', r0, h1, h2⟩ | ⟨_, h2⟩ | ⟨_, h2⟩
  · rw [h2] at h; cases h; exact ⟨r0, h1, rfl⟩
  · rw [h2] at h; cases h
  · rw [h2] at h; cases h

variable {qs cap}
variable {f : Nat}

theorem kindScan_back (hA : BArr qs cap f) (hO : BObj qs cap f) (lvl c : Nat) (cs : Bytes) (s1 : PState)
    (hf : 2 * (c :: cs).length ≤ f) :
    Back (kindScan qs cap f lvl (classify c) (c :: cs) s1) s1 (c :: cs) (SpecComplete.valueHead false f c cs) := by
  rw [valueHead_classify]
  generalize classify c = k
  simp only [List.length_cons] at hf
  cases k <;> dsimp only [kindScan]
  case str => exact (Back.shift s1 1 cs (str_back cs [] s1.bump) rfl).wrap _
  case arr =>
    cases cs with
    | nil =>
      obtain ⟨f', rfl⟩ : ∃ f', f = f' + 1 := ⟨f - 1, by omega⟩
      exact Back.fail_all _ _ _ _ (by simp only [push_ib, bump_ib, List.length_cons, List.length_nil]) (SpecComplete.items_nil rfl)
    | cons d ds =>
      exact Back.rebase _ _ _ _ _ _ (hA (lvl + 1) (d :: ds) (s1.bump.push [0x5B]) [] true (by simp only [List.length_cons] at hf ⊢; omega))
        (by simp only [push_ib, bump_ib, List.length_cons]; omega) (Nat.le_succ _)
  case obj =>
    exact Back.shift s1 1 cs (hO (lvl + 1) cs s1.bump [] true (by omega)) rfl
  case litT => exact (lit_back wTrue (c :: cs) s1).wrap _
  case litF => exact (lit_back wFalse (c :: cs) s1).wrap _
  case litN => exact (lit_back wNull (c :: cs) s1).wrap _
  case num => rw [if_neg Bool.false_ne_true]; exact (num_back (c :: cs) s1).wrap _

theorem any_back_step (hA : BArr qs cap f) (hO : BObj qs cap f) : BAny qs cap (f + 1) := by
  intro lvl b s hb
  have hle := skipWs_length_le b
  rw [consumeAny_succ, valueWs, SpecComplete.value_succ]
  split
  · -- over the cap: nothing inspected
    refine ⟨Nat.le_add_right _ _, fun e => ?_⟩
    have : b = [] := List.eq_nil_of_length_eq_zero (by rw [enter_ib] at e; omega)
    subst this; rfl
  · rcases hy : J.skipWs b with _ | ⟨c, cs⟩
    · exact Back.fail_all _ _ _ _ (by rw [bump_ib, enter_ib]; rfl) rfl
    · rw [hy] at hle
      refine Back.rebase _ s _ b (c :: cs) _ (finish_back _ _ _ id (kindScan_back hA hO lvl c cs _ (by omega))) ?_ hle
      rw [bump_ib, enter_ib]; omega

theorem arrAfter_back (hA : BArr qs cap f) (lvl : Nat) (acc : List J.JVal) (v : J.JVal) (r0 : Bytes) (s2 : PState)
    (hf : 2 * (J.skipWs r0).length ≤ f) :
    Back (arrAfter qs cap f lvl (J.skipWs r0) s2) s2 (J.skipWs r0) (SpecComplete.itemsAfter false f acc (.ok v r0)) := by
  rcases hr : J.skipWs r0 with _ | ⟨d, ds⟩
  · exact Back.fail_all _ _ _ _ rfl (SpecComplete.itemsAfter_nil hr)
  · rw [hr, List.length_cons] at hf
    rw [SpecComplete.itemsAfter_cons hr]
    dsimp only [arrAfter]
    by_cases hd : (d == 0x2C) = true
    · rw [if_pos hd, if_pos hd]
      exact Back.shift s2 1 ds (hA lvl ds s2.bump (v :: acc) false (by omega)) rfl
    · rw [if_neg hd, if_neg hd]
      by_cases hd2 : (d == 0x5D) = true
      · rw [if_pos hd2, if_pos hd2]
        exact ⟨⟨_, rfl⟩, by simp only [pop_ib, bump_ib, List.length_cons]; omega, Nat.le_succ _⟩
      · rw [if_neg hd2, if_neg hd2]
        exact Back.fail_early _ _ _ _ (by simp only [List.length_cons]; omega)

theorem arr_back_step (hV : BAny qs cap f) (hA : BArr qs cap f) : BArr qs cap (f + 1) := by
  intro lvl b s acc first hb
  have hle := skipWs_length_le b
  rw [arrayLoop_succ, SpecComplete.items_succ]
  rcases hy : J.skipWs b with _ | ⟨c, cs⟩
  · exact Back.fail_all _ _ _ _ (by rw [bump_ib]; rfl) rfl
  rw [hy] at hle
  refine Back.rebase _ s (s.bump (b.length - (c :: cs).length)) b (c :: cs) _ ?_ (by rw [bump_ib]; omega) hle
  generalize s.bump (b.length - (c :: cs).length) = s1
  simp only [List.length_cons] at hle
  dsimp only
  by_cases hc : (c == 0x5D) = true
  · rw [if_pos (by rw [hc, Bool.not_false, Bool.or_true]; rfl)]
    simp only [arrHead, if_pos hc]
    exact ⟨⟨_, rfl⟩, by simp only [pop_ib, bump_ib, List.length_cons]; omega, Nat.le_succ _⟩
  · rw [if_neg (by rw [Bool.and_eq_true]; exact fun h => hc h.1), arrHead_seq qs cap f lvl hc]
    refine Back.seq (hV lvl (c :: cs) s1 (by simp only [List.length_cons]; omega)) (fun e => by rw [valueWs_more e]; rfl) ?_
    intro v r s2 hv hr
    obtain ⟨r0, hval, rfl⟩ := valueWs_ok hv
    rw [hval]
    exact arrAfter_back hA lvl acc v r0 s2 (by simp only [List.length_cons] at hr; omega)

theorem objAfterVal_back (hO : BObj qs cap f) (lvl : Nat) (qm : Option Gen.Json.Query) (tag : Bytes) (acc : List (Bytes × J.JVal))
    (k : Bytes) (v : J.JVal) (r0 : Bytes) (s6 : PState) (hf : 2 * (J.skipWs r0).length ≤ f) :
    Back (objAfterVal qs cap f lvl qm tag (J.skipWs r0) s6) s6 (J.skipWs r0) (SpecComplete.membersAfterVal false f acc k (.ok v r0)) := by
  rcases hr : J.skipWs r0 with _ | ⟨g, gs⟩
  · exact Back.fail_all _ _ _ _ (applyQuery_ib ..) (SpecComplete.membersAfterVal_nil hr)
  · rw [hr, List.length_cons] at hf
    rw [SpecComplete.membersAfterVal_cons hr]
    dsimp only [objAfterVal]
    by_cases hg : (g == 0x2C) = true
    · rw [if_pos hg, if_pos hg]
      exact Back.rebase _ _ _ _ _ _ (hO lvl gs _ ((k, v) :: acc) false (by omega))
        (by simp only [bump_ib, pop_ib, applyQuery_ib, List.length_cons]; omega) (Nat.le_succ _)
    · rw [if_neg hg, if_neg hg]
      by_cases hg2 : (g == 0x7D) = true
      · rw [if_pos hg2, if_pos hg2]
        exact ⟨⟨_, rfl⟩, by simp only [pop_ib, bump_ib, applyQuery_ib, List.length_cons]; omega, Nat.le_succ _⟩
      · rw [if_neg hg2, if_neg hg2]
        exact Back.fail_early _ _ _ _ (by simp only [applyQuery_ib, List.length_cons]; omega)

theorem objValue_back (hV : BAny qs cap f) (hO : BObj qs cap f) (lvl : Nat) (qm : Option Gen.Json.Query) (acc : List (Bytes × J.JVal))
    (k ds : Bytes) (s5 : PState) (hf : 2 * (J.skipWs ds).length + 1 ≤ f) :
    Back (objValue qs cap f lvl qm (J.skipWs ds) s5) s5 (J.skipWs ds) (SpecComplete.membersAfterVal false f acc k (J.value false f ds)) := by
  rw [value_skipWs false f ds]
  rcases hy : J.skipWs ds with _ | ⟨e, es⟩
  · obtain ⟨f', rfl⟩ : ∃ f', f = f' + 1 := ⟨f - 1, by omega⟩
    exact Back.fail_all _ _ _ _ rfl (by rw [SpecComplete.value_nil rfl]; rfl)
  · rw [hy] at hf
    rw [objValue_seq]
    refine Back.seq (hV lvl (e :: es) s5 hf) (fun e => by rw [valueWs_more e]; rfl) ?_
    intro v r s6 hv hr
    obtain ⟨r0, hval, rfl⟩ := valueWs_ok hv
    rw [hval]
    exact objAfterVal_back hO lvl qm _ acc k v r0 s6 (by omega)

theorem objColon_back (hV : BAny qs cap f) (hO : BObj qs cap f) (lvl : Nat) (qm : Option Gen.Json.Query) (acc : List (Bytes × J.JVal))
    (k r0 : Bytes) (s4 : PState) (hf : 2 * (J.skipWs r0).length + 1 ≤ f) :
    Back (objColon qs cap f lvl qm (J.skipWs r0) s4) s4 (J.skipWs r0) (SpecComplete.membersAfterKey false f acc (.ok k r0)) := by
  rcases hr : J.skipWs r0 with _ | ⟨d, ds⟩
  · exact Back.fail_all _ _ _ _ rfl (SpecComplete.membersAfterKey_nil hr)
  · rw [hr, List.length_cons] at hf
    rw [SpecComplete.membersAfterKey_cons hr]
    by_cases hd : (d != 0x3A) = true
    · rw [if_pos hd]
      simp only [objColon, if_pos hd]
      exact Back.fail_early _ _ _ _ (by simp only [List.length_cons]; omega)
    · have hd' : d = 0x3A := by simpa using hd
      subst hd'
      have hle := skipWs_length_le ds
      rw [if_neg hd, objColon_colon]
      exact Back.rebase _ _ _ _ _ _ (objValue_back hV hO lvl qm acc k ds _ (by omega))
        (by simp only [bump_ib, List.length_cons]; omega) (by simp only [List.length_cons]; omega)

theorem obj_back_step (hV : BAny qs cap f) (hO : BObj qs cap f) : BObj qs cap (f + 1) := by
  intro lvl b s acc first hb
  have hle := skipWs_length_le b
  rw [objectLoop_succ, SpecComplete.members_succ]
  rcases hy : J.skipWs b with _ | ⟨c, cs⟩
  · exact Back.fail_all _ _ _ _ (by rw [bump_ib]; rfl) rfl
  rw [hy] at hle
  refine Back.rebase _ s (s.bump (b.length - (c :: cs).length)) b (c :: cs) _ ?_ (by rw [bump_ib]; omega) hle
  generalize s.bump (b.length - (c :: cs).length) = s1
  simp only [List.length_cons] at hle
  dsimp only
  by_cases hc : (c == 0x7D) = true
  · rw [if_pos (by rw [hc, Bool.not_false, Bool.or_true]; rfl)]
    simp only [objHead, if_pos hc]
    exact ⟨⟨_, rfl⟩, by simp only [bump_ib, List.length_cons]; omega, Nat.le_succ _⟩
  rw [if_neg (by rw [Bool.and_eq_true]; exact fun h => hc h.1)]
  by_cases hq : (c != 0x22) = true
  · rw [if_pos hq]
    simp only [objHead, if_neg hc, if_pos hq]
    exact Back.fail_early _ _ _ _ (by simp only [List.length_cons]; omega)
  · have hq' : c = 0x22 := by simpa using hq
    subst hq'
    rw [if_neg hq, objHead_seq]
    refine Back.shift s1 1 cs ?_ rfl
    refine Back.seq (str_back cs [] s1.bump) (fun e => by rw [e]; rfl) ?_
    intro k r s2 hk hr
    have hle2 := skipWs_length_le r
    rw [hk, objAfterKey_eq]
    exact Back.rebase _ _ _ _ _ _ (objColon_back hV hO lvl _ acc k r _ (by omega)) (by simp only [bump_ib, push_ib]; omega) hle2

variable (qs cap)

theorem back_all : ∀ f, BAny qs cap f ∧ BArr qs cap f ∧ BObj qs cap f := by
  intro f
  induction f with
  | zero =>
    -- no input meets the fuel bound at fuel 0
    refine ⟨?_, ?_, ?_⟩
    · intro lvl b s h; omega
    · intro lvl b s acc first h; omega
    · intro lvl b s acc first h; omega
  | succ f ih =>
    obtain ⟨hV, hA, hO⟩ := ih
    exact ⟨any_back_step hA hO, arr_back_step hV hA, obj_back_step hV hO⟩

end Mime.JsonBack
