import MimeModel.Lemmas.JsonPrefixC
/-
  The fuel argument of the container scanners is a modelling device (the Go code recurses
  without one).  Here: with fuel `2·len + 1` (values) / `2·len + 2` (loops) the result does
  not depend on the fuel, so `parse`, which supplies `2·len + 4`, computes what an
  unbounded recursion computes.
-/
namespace Mime.JsonPrefix
open Mime Mime.Json Mime.Spec Mime.JsonLeaf

variable (qs : List Mime.Gen.Json.Query) (cap : Nat)

def MAny (f : Nat) : Prop := ∀ lvl b s, 2 * b.length + 1 ≤ f → consumeAny qs cap f lvl b s = consumeAny qs cap (f + 1) lvl b s
def MArr (f : Nat) : Prop := ∀ lvl b s, 2 * b.length + 2 ≤ f → arrayLoop qs cap f lvl b s = arrayLoop qs cap (f + 1) lvl b s
def MObj (f : Nat) : Prop := ∀ lvl b s, 2 * b.length + 2 ≤ f → objectLoop qs cap f lvl b s = objectLoop qs cap (f + 1) lvl b s

theorem consumeAny_rest_le (f lvl : Nat) {b : Bytes} {s : PState} {r : Bytes} {s' : PState}
    (h : consumeAny qs cap f lvl b s = (some r, s')) : r.length ≤ b.length :=
  ((prefix_all qs cap f).1 _ _ _ _ _ h).1

theorem spaceScan_fst (b : Bytes) (s : PState) : (spaceScan b s) = (some (J.skipWs b), s.bump (b.length - (J.skipWs b).length)) :=
  spaceScan_val b s

variable {qs cap}
variable {f : Nat}

theorem any_mono_step (hA : MArr qs cap f) (hO : MObj qs cap f) : MAny qs cap (f + 1) := by
  intro lvl b s hb
  have hle := skipWs_length_le b
  rw [consumeAny_succ, consumeAny_succ]
  refine ite_congr rfl (fun _ => rfl) fun _ => ?_
  generalize (s.enter lvl).bump (b.length - (J.skipWs b).length) = s1
  generalize J.skipWs b = y at hle ⊢
  rcases y with _ | ⟨c, cs⟩
  · rfl
  · simp only [List.length_cons] at hle
    simp only [anyHead, finishScan]
    congr 1
    -- only arrays and objects look at the fuel
    cases classify c <;> simp only [kindScan]
    · split
      · rfl
      · exact hA _ _ _ (by omega)
    · exact hO _ _ _ (by omega)

theorem arr_mono_step (hV : MAny qs cap f) (hA : MArr qs cap f) : MArr qs cap (f + 1) := by
  intro lvl b s hb
  have hle := skipWs_length_le b
  rw [arrayLoop_succ, arrayLoop_succ]
  generalize s.bump (b.length - (J.skipWs b).length) = s1
  generalize J.skipWs b = y at hle ⊢
  rcases y with _ | ⟨c, cs⟩
  · rfl
  · by_cases hc : (c == 0x5D) = true
    · simp only [arrHead, if_pos hc]
    · rw [arrHead_seq _ _ _ _ hc, arrHead_seq _ _ _ _ hc]
      refine seqScan_congr (hV _ _ _ (by omega)) fun r2 s2 hres => ?_
      have := consumeAny_rest_le qs cap f lvl hres
      rcases r2 with _ | ⟨d, ds⟩
      · rfl
      · simp only [List.length_cons] at this hle
        simp only [arrAfter]
        split
        · exact hA _ _ _ (by omega)
        · rfl

theorem objAfterVal_mono (lvl : Nat) (qm : Option Mime.Gen.Json.Query) (tag : Bytes) (hO : MObj qs cap f)
    {r2 : Bytes} (s6 : PState) (h : 2 * r2.length ≤ f) :
    objAfterVal qs cap f lvl qm tag r2 s6 = objAfterVal qs cap (f + 1) lvl qm tag r2 s6 := by
  rcases r2 with _ | ⟨g, gs⟩
  · rfl
  · simp only [objAfterVal]
    split
    · exact hO _ _ _ (by simp only [List.length_cons] at h; omega)
    · rfl

theorem objValue_mono (lvl : Nat) (qm : Option Mime.Gen.Json.Query) (hV : MAny qs cap f) (hO : MObj qs cap f)
    {y : Bytes} (s5 : PState) (h : 2 * y.length + 1 ≤ f) :
    objValue qs cap f lvl qm y s5 = objValue qs cap (f + 1) lvl qm y s5 := by
  rcases y with _ | ⟨e, es⟩
  · rfl
  · rw [objValue_seq, objValue_seq]
    refine seqScan_congr (hV _ _ _ h) fun r2 s6 hres => ?_
    have := consumeAny_rest_le qs cap f lvl hres
    exact objAfterVal_mono lvl qm _ hO _ (by omega)

theorem obj_mono_step (hV : MAny qs cap f) (hO : MObj qs cap f) : MObj qs cap (f + 1) := by
  intro lvl b s hb
  have hle := skipWs_length_le b
  rw [objectLoop_succ, objectLoop_succ]
  generalize s.bump (b.length - (J.skipWs b).length) = s1
  generalize J.skipWs b = y at hle ⊢
  rcases y with _ | ⟨c, cs⟩
  · rfl
  · simp only [List.length_cons] at hle
    by_cases hc : (c == 0x7D) = true
    · simp only [objHead, if_pos hc]
    · by_cases hq : (c != 0x22) = true
      · simp only [objHead, if_neg hc, if_pos hq]
      · have hq' : c = 0x22 := by simpa using hq
        subst hq'
        rw [objHead_seq, objHead_seq]
        refine seqScan_congr rfl fun r s2 hres => ?_
        have h1 := (consumeString_prefix _ _ _ _ _ hres).1
        have h2 := skipWs_length_le r
        rw [objAfterKey_eq, objAfterKey_eq]
        generalize J.skipWs r = y at h2 ⊢
        rcases y with _ | ⟨d, ds⟩
        · rfl
        · by_cases hd : (d != 0x3A) = true
          · simp only [objColon, if_pos hd]
          · have hd' : d = 0x3A := by simpa using hd
            subst hd'
            have h3 := skipWs_length_le ds
            simp only [List.length_cons] at h2
            rw [objColon_colon, objColon_colon]
            exact objValue_mono lvl _ hV hO _ (by omega)

variable (qs cap)

theorem mono_all : ∀ f, MAny qs cap f ∧ MArr qs cap f ∧ MObj qs cap f := by
  intro f
  induction f with
  | zero =>
    refine ⟨?_, ?_, ?_⟩
    · intro lvl b s h; omega
    · intro lvl b s h; omega
    · intro lvl b s h; omega
  | succ f ih =>
    obtain ⟨hV, hA, hO⟩ := ih
    exact ⟨any_mono_step hA hO, arr_mono_step hV hA, obj_mono_step hV hO⟩

/-- fuel adequacy: any two fuels above `2·len + 1` give the same run -/
theorem consumeAny_fuel (lvl : Nat) (b : Bytes) (s : PState) (f g : Nat) (hf : 2 * b.length + 1 ≤ f) (hg : 2 * b.length + 1 ≤ g) :
    consumeAny qs cap f lvl b s = consumeAny qs cap g lvl b s := by
  have up : ∀ d f, 2 * b.length + 1 ≤ f → consumeAny qs cap f lvl b s = consumeAny qs cap (f + d) lvl b s := by
    intro d
    induction d with
    | zero => intro f _; rfl
    | succ d ih =>
      intro f hf
      rw [ih f hf, (mono_all qs cap (f + d)).1 lvl b s (by omega)]
      rfl
  by_cases hfg : f ≤ g
  · have := up (g - f) f hf
    rwa [Nat.add_sub_cancel' hfg] at this
  · have := up (f - g) g hg
    rw [Nat.add_sub_cancel' (by omega)] at this
    exact this.symm

end Mime.JsonPrefix
