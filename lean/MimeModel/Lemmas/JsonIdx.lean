import MimeModel.Model.JsonIdx
import MimeModel.Lemmas.JsonFuel
import MimeModel.Lemmas.JsonQuery
import MimeModel.Lemmas.JsonBack
/-
  The index-level transliteration of parser.go (Model/JsonIdx.lean) never panics, never runs
  out of fuel, and computes exactly what the list model (Model/Json.lean) computes.

  One simulation lemma per Go function: for every cursor position `n ≤ len b`, the index-level
  function run on `(b, n)` returns `Out.ok` with the cursor `k` and the state for which the
  list-level function, run on `b.drop n`, returns the suffix `b.drop k` and the same state.
-/
namespace Mime.JsonIdxLemmas
open Mime Mime.Gen.Json
open Mime.Json (PState SMode NMode numStep isSimpleEsc isE ParseResult fuelFor tokInvalid)
open Mime.JsonIdx (G Out St elemAt sliceFrom liftG popPath)
open Mime.JsonLeaf

@[simp] theorem bind_ok {α β : Type} (v : α) (f : α → Out β) : (Out.ok v >>= f) = f v := rfl
@[simp] theorem pure_ok {α : Type} (v : α) : (pure v : Out α) = Out.ok v := rfl

theorem elemAt_nat {α : Type} (b : List α) (i : Nat) (h : i < b.length) : liftG (elemAt b (i : Int)) = .ok b[i] := by
  unfold elemAt
  rw [if_pos ⟨by omega, by omega⟩]
  simp only [Int.toNat_natCast, List.getElem?_eq_getElem h]
  rfl

theorem sliceFrom_nat {α : Type} (b : List α) (n : Nat) (h : n ≤ b.length) : liftG (sliceFrom b (n : Int)) = .ok (b.drop n) := by
  unfold sliceFrom
  rw [if_pos ⟨by omega, by omega⟩]
  simp only [Int.toNat_natCast]
  rfl

theorem elemAt_zero_cons {α : Type} (c : α) (cs : List α) : liftG (elemAt (c :: cs) 0) = .ok c := by
  have := elemAt_nat (c :: cs) 0 (by simp)
  simpa using this

theorem sliceFrom_one_cons {α : Type} (c : α) (cs : List α) : liftG (sliceFrom (c :: cs) 1) = .ok cs := by
  have := sliceFrom_nat (c :: cs) 1 (by simp)
  simpa using this

theorem slice_nat {α : Type} (b : List α) (lo hi : Nat) (h1 : lo ≤ hi) (h2 : hi ≤ b.length) :
    liftG (JsonIdx.slice b (lo : Int) (hi : Int)) = .ok ((b.drop lo).take (hi - lo)) := by
  unfold JsonIdx.slice
  rw [if_pos ⟨by omega, by omega, by omega⟩]
  simp only [Int.toNat_natCast, List.drop_take]
  rfl

theorem peek_nil {b : Bytes} {n : Nat} (hn : n ≤ b.length) (hd : b.drop n = []) :
    liftG (sliceFrom b (n : Int)) = .ok [] := by
  rw [sliceFrom_nat b n hn, hd]

theorem peek_cons {b : Bytes} {n : Nat} {c : Nat} {r : Bytes} (hd : b.drop n = c :: r) :
    n < b.length ∧ liftG (sliceFrom b (n : Int)) = .ok (c :: r) ∧ liftG (elemAt b (n : Int)) = .ok c ∧ b.drop (n + 1) = r := by
  have hlt : n < b.length := by
    have : (b.drop n).length = b.length - n := List.length_drop
    rw [hd] at this
    simp only [List.length_cons] at this
    omega
  have h2 := List.drop_eq_getElem_cons hlt
  rw [hd] at h2
  simp only [List.cons.injEq] at h2
  refine ⟨hlt, ?_, ?_, h2.2.symm⟩
  · rw [sliceFrom_nat b n (by omega), hd]
  · rw [elemAt_nat b n hlt, ← h2.1]

theorem drop_nil_le {b : Bytes} {n : Nat} (hd : b.drop n = []) : b.length ≤ n := List.drop_eq_nil_iff.mp hd

/-! What the simulations need about the cursor and about the fuel `2 * (len b - n) + j`, as lemmas on variables:
  `omega` on such goals inside the simulation proofs has to work through their whole context. -/

theorem cursor_le {b y : Bytes} {n k : Nat} (hn : n ≤ b.length) (hd : b.drop n = y) (hk : k ≤ y.length) : n + k ≤ b.length := by
  subst hd
  rw [List.length_drop] at hk
  omega

theorem fuel_mono {L n n' j f : Nat} (h : n ≤ n') (hf : 2 * (L - n) + j ≤ f) : 2 * (L - n') + j ≤ f :=
  Nat.le_trans (Nat.add_le_add_right (Nat.mul_le_mul_left 2 (Nat.sub_le_sub_left h L)) j) hf

/-- the byte loops run on fuel `len b - n + 1`: a step forward pays for itself -/
theorem loop_fuel {L n n' f : Nat} (hlt : n < L) (h : n < n') (hf : L - n + 1 ≤ f + 1) : L - n' + 1 ≤ f := by omega

/-- the bounds of the key slice `b[n : n+keyLen-1]` -/
theorem key_bounds {n k L : Nat} (hk : 0 < k) (h : n + k ≤ L) :
    n ≤ n + k - 1 ∧ n + k - 1 ≤ L ∧ n + k - 1 - n = k - 1 ∧ (n : Int) + (k : Int) - 1 = ((n + k - 1 : Nat) : Int) := by
  omega

theorem fuel_next {L n f : Nat} (h : n < L) (hf : 2 * (L - n) ≤ f) : 2 * (L - (n + 1)) + 2 ≤ f := by omega

section ites
variable {β : Type}
theorem ite_pos_cons (c : Nat) (r : Bytes) (x y : β) : (if (c :: r).length > 0 then x else y) = x := by
  rw [if_pos (by simp)]
theorem ite_pos_nil (x y : β) : (if ([] : Bytes).length > 0 then x else y) = y := by
  rw [if_neg (by simp)]
theorem ite_zero_cons (c : Nat) (r : Bytes) (x y : β) : (if ((c :: r).length == 0) = true then x else y) = y := by
  rw [if_neg (by simp)]
theorem ite_zero_nil (x y : β) : (if (([] : Bytes).length == 0) = true then x else y) = x := by
  rw [if_pos (by simp)]
end ites

/-- the Go state that a list-model state stands for (`maxLvl` is a ghost of the list model) -/
def view (s : PState) (mr : Nat) (c : Bool) : St :=
  { ib := s.ib, maxRecursion := mr, currPath := s.currPath, firstToken := s.firstToken,
    querySatisfied := s.querySatisfied, complete := c }

section view
variable (s : PState) (mr : Nat) (c : Bool)
@[simp] theorem view_incIb : (view s mr c).incIb = view s.bump mr c := rfl
@[simp] theorem view_push (k : Bytes) : (view s mr c).push k = view (s.push k) mr c := rfl
@[simp] theorem view_enter (l : Nat) : view (s.enter l) mr c = view s mr c := rfl
@[simp] theorem view_maxRecursion : (view s mr c).maxRecursion = mr := rfl
@[simp] theorem view_currPath : (view s mr c).currPath = s.currPath := rfl
@[simp] theorem view_qs : (view s mr c).querySatisfied = s.querySatisfied := rfl
theorem view_satisfy : (view s mr c).satisfy = view { s with querySatisfied := true } mr c := rfl
end view

theorem bump_one_add (s : PState) (k : Nat) : s.bump.bump k = s.bump (k + 1) := by
  simp [Nat.add_comm]

theorem popPath_view (s : PState) (mr : Nat) (c : Bool) (h : s.currPath ≠ []) :
    popPath (view s mr c) = .ok (view s.pop mr c) := by
  unfold popPath
  have hl : 0 < s.currPath.length := List.length_pos_iff.mpr h
  have : ((view s mr c).currPath.length : Int) - 1 = ((s.currPath.length - 1 : Nat) : Int) := by
    simp only [view_currPath]; omega
  rw [this]
  have h2 := slice_nat (view s mr c).currPath 0 (s.currPath.length - 1) (by omega) (by simp only [view_currPath]; omega)
  simp only [Int.natCast_zero] at h2
  rw [h2]
  simp only [bind_ok, pure_ok, view_currPath, List.drop_zero, Nat.sub_zero]
  rw [← List.dropLast_eq_take]
  rfl

/-- the simulation relation for a scanner run from cursor `n` of `b`: the list model fails and
    Go returns 0, or the list model returns the suffix `b.drop k` and Go returns `k` -/
def SimAt (mr : Nat) (c : Bool) (b : Bytes) (n : Nat) (out : Out (Nat × St)) (res : Option Bytes × PState) : Prop :=
  match res.1 with
  | none => out = .ok (0, view res.2 mr c)
  | some r => ∃ k, n < k ∧ k ≤ b.length ∧ r = b.drop k ∧ out = .ok (k, view res.2 mr c)

theorem SimAt.mono {mr c b n n' out res} (h : SimAt mr c b n' out res) (hn : n ≤ n') : SimAt mr c b n out res := by
  obtain ⟨o, s'⟩ := res
  cases o with
  | none => exact h
  | some r =>
    obtain ⟨k, h1, h2, h3, h4⟩ := h
    exact ⟨k, by omega, h2, h3, h4⟩

/-- the number of leading white-space bytes -/
def nsp : Bytes → Nat
  | [] => 0
  | c :: cs => if isSpace c then nsp cs + 1 else 0

theorem nsp_le (b : Bytes) : nsp b ≤ b.length := by
  induction b with
  | nil => simp [nsp]
  | cons c cs ih => simp only [nsp]; split <;> simp <;> omega

theorem nsp_drop_le {b : Bytes} {n : Nat} (hn : n ≤ b.length) : n + nsp (b.drop n) ≤ b.length :=
  cursor_le hn rfl (nsp_le _)

theorem consumeSpace_eq (b : Bytes) (s : PState) : Json.consumeSpace b s = (b.drop (nsp b), s.bump (nsp b)) := by
  induction b generalizing s with
  | nil => simp [Json.consumeSpace, nsp]
  | cons c cs ih =>
    simp only [Json.consumeSpace, nsp]
    split
    · rw [ih, bump_one_add]; rfl
    · simp

theorem consumeSpaceLoop_sim (mr : Nat) (c : Bool) : ∀ (fuel : Nat) (b : Bytes) (n : Nat) (s : PState), b.length + 1 ≤ fuel →
    JsonIdx.consumeSpaceLoop fuel b n (view s mr c) = .ok (n + nsp b, view (s.bump (nsp b)) mr c) := by
  intro fuel
  induction fuel with
  | zero => intro b n s h; exact absurd h (Nat.not_succ_le_zero _)
  | succ f ih =>
    intro b n s h
    rw [JsonIdx.consumeSpaceLoop]
    cases b with
    | nil => simp [nsp]
    | cons x xs =>
      rw [ite_pos_cons, elemAt_zero_cons, bind_ok]
      simp only [nsp]
      split
      · rw [sliceFrom_one_cons, bind_ok, view_incIb, ih xs (n + 1) s.bump (Nat.le_of_succ_le_succ h)]
        rw [bump_one_add]
        congr 2; omega
      · simp

theorem consumeSpace_sim (mr : Nat) (c : Bool) (b : Bytes) (s : PState) :
    JsonIdx.consumeSpace b (view s mr c) = .ok (nsp b, view (s.bump (nsp b)) mr c) := by
  unfold JsonIdx.consumeSpace
  rw [consumeSpaceLoop_sim mr c _ b 0 s (Nat.le_refl _)]
  simp

theorem spaceScan_eq (b : Bytes) (s : PState) : JsonPrefix.spaceScan b s = (some (b.drop (nsp b)), s.bump (nsp b)) := by
  simp only [JsonPrefix.spaceScan, consumeSpace_eq]

theorem consumeConst_nil (b : Bytes) (s : PState) : Json.consumeConst b [] s = (some b, s) := by
  cases b <;> rfl

theorem consumeConstLoop_sim (mr : Nat) (c : Bool) (b w : Bytes) : ∀ (fuel i : Nat) (s : PState),
    i ≤ w.length → i ≤ b.length → w.length - i + 1 ≤ fuel →
    match (Json.consumeConst (b.drop i) (w.drop i) s).1 with
    | none => JsonIdx.consumeConstLoop fuel b w b.length i (view s mr c) = .ok (0, view (Json.consumeConst (b.drop i) (w.drop i) s).2 mr c)
    | some r => w.length ≤ b.length ∧ r = b.drop w.length ∧
        JsonIdx.consumeConstLoop fuel b w b.length i (view s mr c) =
          .ok (w.length, view (Json.consumeConst (b.drop i) (w.drop i) s).2 mr c) := by
  intro fuel
  induction fuel with
  | zero => intro i s h1 h2 h3; exact absurd h3 (Nat.not_succ_le_zero _)
  | succ f ih =>
    intro i s h1 h2 h3
    rw [JsonIdx.consumeConstLoop]
    by_cases hi : i < w.length
    · rw [if_pos hi, elemAt_nat w i hi, bind_ok]
      rw [List.drop_eq_getElem_cons hi]
      cases hd : b.drop i with
      | nil =>
        rw [if_neg (Nat.not_lt_of_ge (drop_nil_le hd))]
        rfl
      | cons x r =>
        obtain ⟨hlt, _, h5, h6⟩ := peek_cons hd
        rw [if_pos hlt, h5, bind_ok]
        rw [Json.consumeConst]
        by_cases hx : (x == w[i]) = true
        · rw [if_pos hx, if_pos hx, view_incIb, ← h6]
          exact ih (i + 1) s.bump hi hlt (loop_fuel hi (Nat.lt_succ_self i) h3)
        · rw [if_neg hx, if_neg hx]
          rfl
    · have hiw : i = w.length := Nat.le_antisymm h1 (Nat.le_of_not_lt hi)
      rw [if_neg hi, List.drop_eq_nil_of_le (as := w) (Nat.le_of_not_lt hi), consumeConst_nil]
      exact ⟨hiw ▸ h2, by rw [hiw], rfl⟩

theorem consumeConst_sim (mr : Nat) (c : Bool) (b w : Bytes) (s : PState) (hw : 0 < w.length) :
    SimAt mr c b 0 (JsonIdx.consumeConst b w (view s mr c)) (Json.consumeConst b w s) := by
  have h := consumeConstLoop_sim mr c b w (w.length + 1) 0 s (Nat.zero_le _) (Nat.zero_le _) (Nat.le_refl _)
  simp only [List.drop_zero] at h
  unfold JsonIdx.consumeConst
  unfold SimAt
  generalize Json.consumeConst b w s = res at h
  obtain ⟨o, s'⟩ := res
  cases o with
  | none => exact h
  | some r => exact ⟨w.length, hw, h.1, h.2.1, h.2.2⟩

/-- the list-model mode with `k` hex digits still wanted -/
def hexMode : Nat → SMode
  | 0 => .norm
  | k + 1 => .hex (k + 1)

theorem cs_hexMode (k x : Nat) (xs : Bytes) (s : PState) : Json.consumeString (hexMode (k + 1)) (x :: xs) s =
    if isXDigit x = true then Json.consumeString (hexMode k) xs s.bump else (none, s) := by
  cases k with
  | zero => rfl
  | succ k => rfl

theorem hexLoop_sim (mr : Nat) (c : Bool) (b : Bytes) : ∀ (k fuel n : Nat) (s : PState), k ≤ 4 → k + 1 ≤ fuel → n ≤ b.length →
    ∃ o s', JsonIdx.hexLoop fuel b n (4 - k) (view s mr c) = .ok (o, view s' mr c) ∧
      match o with
      | none => Json.consumeString (hexMode k) (b.drop n) s = (none, s')
      | some n' => n ≤ n' ∧ n' ≤ b.length ∧
          Json.consumeString (hexMode k) (b.drop n) s = Json.consumeString .norm (b.drop n') s' := by
  intro k
  induction k with
  | zero =>
    intro fuel n s h1 h2 h3
    obtain ⟨f, rfl⟩ : ∃ f, fuel = f + 1 := ⟨fuel - 1, (Nat.sub_add_cancel h2).symm⟩
    rw [JsonIdx.hexLoop, if_neg (Nat.lt_irrefl 4)]
    exact ⟨some n, s, rfl, Nat.le_refl n, h3, rfl⟩
  | succ k ih =>
    intro fuel n s h1 h2 h3
    obtain ⟨f, rfl⟩ : ∃ f, fuel = f + 1 := ⟨fuel - 1, (Nat.sub_add_cancel (Nat.le_trans (Nat.le_add_left 1 (k + 1)) h2)).symm⟩
    rw [JsonIdx.hexLoop, if_pos (Nat.sub_lt (by decide) (Nat.succ_pos k))]
    cases hd : b.drop n with
    | nil =>
      rw [peek_nil h3 hd, bind_ok, ite_pos_nil]
      exact ⟨some n, s, rfl, Nat.le_refl n, h3, by rw [hd, cs_nil, cs_nil]⟩
    | cons x r =>
      obtain ⟨hlt, h4, h5, h6⟩ := peek_cons hd
      rw [h4, bind_ok, ite_pos_cons, h5, bind_ok, cs_hexMode]
      by_cases hx : isXDigit x = true
      · simp only [hx, Bool.not_true, Bool.false_eq_true, if_false, if_true, view_incIb]
        rw [show 4 - (k + 1) + 1 = 4 - k from Nat.succ_pred_eq_of_pos (Nat.sub_pos_of_lt h1)]
        obtain ⟨o, s', ho, hm⟩ := ih f (n + 1) s.bump (Nat.le_of_succ_le h1) (Nat.le_of_succ_le_succ h2) hlt
        rw [h6] at hm
        refine ⟨o, s', ho, ?_⟩
        cases o with
        | none => exact hm
        | some n' => exact ⟨Nat.le_of_succ_le hm.1, hm.2.1, hm.2.2⟩
      · simp only [hx, Bool.not_false, if_true, Bool.false_eq_true, if_false]
        exact ⟨none, s, rfl, rfl⟩

theorem consumeStringLoop_sim (mr : Nat) (c : Bool) (b : Bytes) : ∀ (fuel n : Nat) (s : PState),
    n ≤ b.length → b.length - n + 1 ≤ fuel →
    SimAt mr c b n (JsonIdx.consumeStringLoop fuel b n (view s mr c)) (Json.consumeString .norm (b.drop n) s) := by
  intro fuel
  induction fuel with
  | zero => intro n s h1 h2; exact absurd h2 (Nat.not_succ_le_zero _)
  | succ f ih =>
    intro n s h1 h2
    rw [JsonIdx.consumeStringLoop]
    cases hd : b.drop n with
    | nil =>
      rw [peek_nil h1 hd, bind_ok, ite_pos_nil, cs_nil]
      rfl
    | cons x r =>
      obtain ⟨hlt, h4, h5, h6⟩ := peek_cons hd
      rw [h4, bind_ok, ite_pos_cons, h5, bind_ok]
      simp only [view_incIb]
      by_cases hx : x = 0x5C
      · subst hx
        rw [if_pos (by rfl), cs_norm_bs]
        cases hd2 : b.drop (n + 1) with
        | nil =>
          rw [peek_nil hlt hd2, bind_ok, ite_zero_nil]
          rw [← h6, hd2, cs_nil]
          rfl
        | cons e r2 =>
          obtain ⟨hlt2, g4, g5, g6⟩ := peek_cons hd2
          rw [g4, bind_ok, ite_zero_cons, g5, bind_ok, ← h6, hd2]
          by_cases he : isSimpleEsc e = true
          · rw [if_pos he, cs_esc_simple _ _ _ he, ← g6]
            exact (ih (n + 1 + 1) s.bump.bump hlt2 (loop_fuel hlt (Nat.lt_add_of_pos_right (Nat.succ_pos 1)) h2)).mono
              (Nat.le_add_right n 2)
          · rw [if_neg he]
            by_cases hu : e = 0x75
            · subst hu
              rw [if_pos (by rfl), cs_esc_u]
              obtain ⟨o, s', ho, hm⟩ := hexLoop_sim mr c b 4 5 (n + 1 + 1) s.bump.bump (Nat.le_refl 4) (Nat.le_refl 5) hlt2
              rw [ho, bind_ok, ← g6]
              cases o with
              | none =>
                rw [show Json.consumeString (.hex 4) _ _ = _ from hm]
                rfl
              | some n' =>
                obtain ⟨a1, a2, a3⟩ := hm
                have hnn : n < n' := Nat.lt_of_lt_of_le (Nat.lt_add_of_pos_right (Nat.succ_pos 1)) a1
                rw [show Json.consumeString (.hex 4) _ _ = _ from a3]
                exact (ih n' s' a2 (loop_fuel hlt hnn h2)).mono (Nat.le_of_lt hnn)
            · have he' : isSimpleEsc e = false := by simpa using he
              have hu' : (e == 0x75) = false := by simpa using hu
              rw [if_neg (by simpa using hu), cs_esc_bad _ _ _ he' hu']
              rfl
      · have hx1 : (x == 0x5C) = false := by simpa using hx
        rw [if_neg (by simpa using hx)]
        by_cases hq : x = 0x22
        · subst hq
          rw [if_pos (by rfl), cs_norm_quote]
          exact ⟨n + 1, Nat.lt_succ_self n, hlt, h6.symm, rfl⟩
        · have hq1 : (x == 0x22) = false := by simpa using hq
          rw [if_neg (by simpa using hq), cs_norm_other _ _ _ hx1 hq1, ← h6]
          exact (ih (n + 1) s.bump hlt (loop_fuel hlt (Nat.lt_succ_self n) h2)).mono (Nat.le_succ n)

theorem consumeString_sim (mr : Nat) (c : Bool) (b : Bytes) (s : PState) :
    SimAt mr c b 0 (JsonIdx.consumeString b (view s mr c)) (Json.consumeString .norm b s) := by
  have h := consumeStringLoop_sim mr c b (b.length + 1) 0 s (Nat.zero_le _) (Nat.le_refl _)
  rwa [List.drop_zero] at h

/-- the digit-consuming mode families of the list model: `.int`, `.frac`, `.exp` -/
def DigitMode (mk : Bool → NMode) : Prop := ∀ g x, isDigit x = true → numStep (mk g) x = some (mk true)

theorem digitMode_int : DigitMode .int := by intro g x h; simp [numStep, h]
theorem digitMode_frac : DigitMode .frac := by intro g x h; simp [numStep, h]
theorem digitMode_exp : DigitMode .exp := by intro g x h; simp [numStep, h]

theorem digitLoop_stop (f : Nat) (x : Nat) (t : Bytes) (i : Nat) (g : Bool) (p : St) (hx : isDigit x = false) :
    JsonIdx.digitLoop (f + 1) (x :: t) i g p = .ok (x :: t, i, g, p) := by
  rw [JsonIdx.digitLoop, ite_pos_cons, elemAt_zero_cons, bind_ok, hx]
  rfl

theorem digitLoop_sim (mr : Nat) (c : Bool) : ∀ (fuel : Nat) (b : Bytes) (i : Nat) (g : Bool) (s : PState),
    b.length + 1 ≤ fuel → (g = true → 0 < i) →
    ∃ k g', k ≤ b.length ∧ (g' = true → 0 < i + k) ∧ (∀ x ∈ (b.drop k).head?, isDigit x = false) ∧
      JsonIdx.digitLoop fuel b i g (view s mr c) = .ok (b.drop k, i + k, g', view (s.bump k) mr c) ∧
      ∀ mk, DigitMode mk → Json.consumeNumber (mk g) b s = Json.consumeNumber (mk g') (b.drop k) (s.bump k) := by
  intro fuel
  induction fuel with
  | zero => intro b i g s h; exact absurd h (Nat.not_succ_le_zero _)
  | succ f ih =>
    intro b i g s h hg
    cases b with
    | nil => exact ⟨0, g, Nat.le_refl _, hg, (fun _ hx => nomatch hx), rfl, fun _ _ => rfl⟩
    | cons x xs =>
      by_cases hx : isDigit x = true
      · obtain ⟨k, g', h1, h2, h3, h4, h5⟩ := ih xs (i + 1) true s.bump (Nat.le_of_succ_le_succ h) (fun _ => Nat.succ_pos i)
        rw [Nat.add_right_comm] at h2 h4
        rw [bump_one_add] at h4 h5
        refine ⟨k + 1, g', Nat.succ_le_succ h1, h2, h3, ?_, fun mk hmk => ?_⟩
        · rw [JsonIdx.digitLoop, ite_pos_cons, elemAt_zero_cons, bind_ok, hx, if_neg (by decide), sliceFrom_one_cons, bind_ok,
            view_incIb]
          exact h4
        · rw [cn_step _ _ _ _ _ (hmk g x hx)]
          exact h5 mk hmk
      · have hx' : isDigit x = false := by simpa using hx
        exact ⟨0, g, Nat.zero_le _, hg, fun z hz => Option.some.inj hz ▸ hx', digitLoop_stop f x xs i g _ hx', fun _ _ => rfl⟩

/-- the relation for the stages of `consumeNumber`: `b` is the re-sliced rest, `i` the counter -/
def NumSim (mr : Nat) (c : Bool) (b : Bytes) (i : Nat) (out : Out (Nat × St)) (res : Option Bytes × PState) : Prop :=
  match res.1 with
  | none => out = .ok (0, view res.2 mr c)
  | some r => ∃ k, k ≤ b.length ∧ r = b.drop k ∧ 0 < i + k ∧ out = .ok (i + k, view res.2 mr c)

theorem NumSim.shift {mr c b i out res} (j : Nat) (hj : j ≤ b.length) (h : NumSim mr c (b.drop j) (i + j) out res) :
    NumSim mr c b i out res := by
  obtain ⟨o, s'⟩ := res
  cases o with
  | none => exact h
  | some r =>
    obtain ⟨k, h1, h2, h3, h4⟩ := h
    rw [List.length_drop] at h1
    rw [List.drop_drop] at h2
    exact ⟨j + k, by omega, h2, by omega, by rw [h4]; congr 2; omega⟩

theorem numOut_sim (mr : Nat) (c : Bool) (m : NMode) (b : Bytes) (i : Nat) (s : PState) (hg : m.got = true → 0 < i)
    (hstop : ∀ x ∈ b.head?, numStep m x = none) :
    NumSim mr c b i (JsonIdx.numOut m.got i (view s mr c)) (Json.consumeNumber m b s) := by
  have hres : Json.consumeNumber m b s = (if m.got then some b else none, s) := by
    cases b with
    | nil => rw [cn_nil]
    | cons x t => rw [cn_stop m x t s (hstop x (by simp))]
  rw [hres]
  unfold JsonIdx.numOut NumSim
  cases hm : m.got with
  | false => rfl
  | true => exact ⟨0, by omega, rfl, by have := hg hm; omega, rfl⟩

/-- a digit loop in mode family `mk`, then the rest `K` of the Go function on what is left (continuation-passing) -/
theorem digits_then (mr : Nat) (c : Bool) (mk : Bool → NMode) (hmk : DigitMode mk) (b : Bytes) (i : Nat) (g : Bool) (s : PState)
    (K : Bytes → Nat → Bool → St → Out (Nat × St)) (hg : g = true → 0 < i)
    (hK : ∀ (b' : Bytes) (i' : Nat) (g' : Bool) (s' : PState), (g' = true → 0 < i') → (∀ x ∈ b'.head?, isDigit x = false) →
      NumSim mr c b' i' (K b' i' g' (view s' mr c)) (Json.consumeNumber (mk g') b' s')) :
    NumSim mr c b i
      (JsonIdx.digitLoop (b.length + 1) b i g (view s mr c) >>= fun x => K x.1 x.2.1 x.2.2.1 x.2.2.2)
      (Json.consumeNumber (mk g) b s) := by
  obtain ⟨k, g', h1, h2, h3, h4, h5⟩ := digitLoop_sim mr c _ b i g s (Nat.le_refl _) hg
  rw [h4, bind_ok, h5 mk hmk]
  exact NumSim.shift k h1 (hK _ _ _ _ h2 h3)

theorem numExp_sim (mr : Nat) (c : Bool) (x : Nat) (t : Bytes) (i : Nat) (s : PState) :
    NumSim mr c t (i + 1) (JsonIdx.numExp (x :: t) i (view s mr c)) (Json.consumeNumber .expSign t s.bump) := by
  unfold JsonIdx.numExp
  rw [sliceFrom_one_cons, bind_ok, view_incIb]
  cases t with
  | nil =>
    rw [ite_zero_nil]
    exact numOut_sim mr c .expSign [] (i + 1) s.bump (by intro h; cases h) (by simp)
  | cons y u =>
    rw [ite_zero_cons, elemAt_zero_cons, bind_ok]
    have hK : ∀ (b' : Bytes) (i' : Nat) (g' : Bool) (s' : PState), (g' = true → 0 < i') → (∀ x ∈ b'.head?, isDigit x = false) →
        NumSim mr c b' i' ((fun _ i g p => JsonIdx.numOut g i p) b' i' g' (view s' mr c)) (Json.consumeNumber (.exp g') b' s') := by
      intro b' i' g' s' h1 h2
      exact numOut_sim mr c (.exp g') b' i' s' h1 (by intro z hz; simp [numStep, h2 z hz])
    by_cases hy : (y == 0x2B || y == 0x2D) = true
    · rw [if_pos hy, sliceFrom_one_cons, bind_ok, pure_ok, bind_ok, view_incIb]
      rw [cn_step .expSign (.exp false) y u s.bump (by simp only [numStep, hy, if_true])]
      apply NumSim.shift (b := y :: u) 1 (by simp)
      exact digits_then mr c .exp digitMode_exp u (i + 1 + 1) false s.bump.bump _ (by omega) hK
    · rw [if_neg hy, pure_ok, bind_ok, JsonBack.expSign_eq_exp (y :: u) _ (fun z hz => Option.some.inj hz ▸ by simpa using hy)]
      exact digits_then mr c .exp digitMode_exp (y :: u) (i + 1) false s.bump _ (by omega) hK

/-- the list-model mode agrees with Go's test `got && (b[0] == 'e' || b[0] == 'E')` -/
def TailOK (m : NMode) (b : Bytes) : Prop :=
  ∀ x ∈ b.head?, numStep m x = if (m.got && (x == 0x65 || x == 0x45)) = true then some .expSign else none

theorem numTail_sim (mr : Nat) (c : Bool) (m : NMode) (b : Bytes) (i : Nat) (s : PState) (hg : m.got = true → 0 < i)
    (hok : TailOK m b) :
    NumSim mr c b i (JsonIdx.numTail b i m.got (view s mr c)) (Json.consumeNumber m b s) := by
  unfold JsonIdx.numTail
  cases b with
  | nil =>
    rw [ite_zero_nil]
    exact numOut_sim mr c m [] i s hg (by simp)
  | cons x t =>
    rw [ite_zero_cons, elemAt_zero_cons, bind_ok]
    have hx := hok x (by simp)
    by_cases he : (m.got && (x == 0x65 || x == 0x45)) = true
    · rw [if_pos he] at hx ⊢
      rw [cn_step m .expSign x t s hx]
      apply NumSim.shift (b := x :: t) 1 (by simp)
      exact numExp_sim mr c x t i s
    · rw [if_neg he] at hx ⊢
      exact numOut_sim mr c m (x :: t) i s hg (by intro z hz; simp at hz; subst hz; exact hx)

theorem numFrac_sim (mr : Nat) (c : Bool) (g : Bool) (x : Nat) (t : Bytes) (i : Nat) (s : PState)
    (hx : isDigit x = false) (hg : g = true → 0 < i) :
    NumSim mr c (x :: t) i (JsonIdx.numFrac (x :: t) i g (view s mr c)) (Json.consumeNumber (.int g) (x :: t) s) := by
  unfold JsonIdx.numFrac
  rw [elemAt_zero_cons, bind_ok]
  by_cases hdot : (x == 0x2E) = true
  · rw [if_pos hdot, sliceFrom_one_cons, bind_ok, pure_ok, bind_ok, view_incIb]
    rw [cn_step (.int g) (.frac g) x t s (by simp [numStep, hx, hdot])]
    apply NumSim.shift (b := x :: t) 1 (by simp)
    apply digits_then mr c .frac digitMode_frac t (i + 1) g s.bump (fun b i g p => JsonIdx.numTail b i g p) (by omega)
    intro b' i' g' s' h1 h2
    exact numTail_sim mr c (.frac g') b' i' s' h1 (by intro z hz; simp [numStep, h2 z hz, NMode.got, isE])
  · rw [if_neg hdot, pure_ok, bind_ok]
    dsimp only
    rw [digitLoop_stop _ x t i g _ hx, bind_ok]
    exact numTail_sim mr c (.int g) (x :: t) i s hg (by
      intro z hz
      simp at hz; subst hz
      have : (x == 0x2E) = false := by simpa using hdot
      simp [numStep, hx, this, NMode.got, isE])

theorem numInt_sim (mr : Nat) (c : Bool) (b : Bytes) (i : Nat) (g : Bool) (s : PState) (hg : g = true → 0 < i) :
    NumSim mr c b i (JsonIdx.numInt b i g (view s mr c)) (Json.consumeNumber (.int g) b s) := by
  unfold JsonIdx.numInt
  apply digits_then mr c .int digitMode_int b i g s
    (fun b i g p => if (b.length == 0) = true then JsonIdx.numOut g i p else JsonIdx.numFrac b i g p) hg
  intro b' i' g' s' h1 h2
  cases b' with
  | nil =>
    simp only [ite_zero_nil]
    exact numOut_sim mr c (.int g') [] i' s' h1 (by simp)
  | cons x t =>
    simp only [ite_zero_cons]
    exact numFrac_sim mr c g' x t i' s' (h2 x (by simp)) h1

theorem consumeNumber_sim (mr : Nat) (c : Bool) (b : Bytes) (s : PState) :
    SimAt mr c b 0 (JsonIdx.consumeNumber b (view s mr c)) (Json.consumeNumber .start b s) := by
  have key : NumSim mr c b 0 (JsonIdx.consumeNumber b (view s mr c)) (Json.consumeNumber .start b s) := by
    unfold JsonIdx.consumeNumber
    cases b with
    | nil =>
      rw [ite_zero_nil]
      exact numOut_sim mr c .start [] 0 s (by intro h; cases h) (by simp)
    | cons x t =>
      rw [ite_zero_cons, elemAt_zero_cons, bind_ok]
      by_cases hm : (x == 0x2D) = true
      · rw [if_pos hm, sliceFrom_one_cons, bind_ok, pure_ok, bind_ok, view_incIb]
        rw [cn_step .start (.int false) x t s (by simp [numStep, hm])]
        apply NumSim.shift (b := x :: t) 1 (by simp)
        exact numInt_sim mr c t (0 + 1) false s.bump (by intro h; cases h)
      · rw [if_neg hm, pure_ok, bind_ok, JsonBack.start_eq_int (x :: t) s (by simpa using hm)]
        exact numInt_sim mr c (x :: t) 0 false s (by intro h; cases h)
  unfold NumSim at key
  unfold SimAt
  generalize Json.consumeNumber .start b s = res at key
  obtain ⟨o, s'⟩ := res
  cases o with
  | none => exact key
  | some r =>
    obtain ⟨k, h1, h2, h3, h4⟩ := key
    exact ⟨k, by omega, h1, h2, by rw [h4]; congr 2; omega⟩

theorem eqLoop_sim (a b : List Bytes) (hl : a.length = b.length) : ∀ (fuel i : Nat), i ≤ a.length → a.length - i + 1 ≤ fuel →
    JsonIdx.eqLoop fuel a b i = .ok (decide (a.drop i = b.drop i)) := by
  intro fuel
  induction fuel with
  | zero => intro i h1 h2; exact absurd h2 (Nat.not_succ_le_zero _)
  | succ f ih =>
    intro i h1 h2
    rw [JsonIdx.eqLoop]
    by_cases hi : i < a.length
    · have hib : i < b.length := hl ▸ hi
      rw [if_pos hi, elemAt_nat a i hi, bind_ok, elemAt_nat b i hib, bind_ok]
      rw [List.drop_eq_getElem_cons hi, List.drop_eq_getElem_cons hib]
      by_cases hx : a[i] = b[i]
      · simp only [hx, decide_true, Bool.not_true, Bool.false_eq_true, if_false, List.cons.injEq, true_and]
        exact ih (i + 1) hi (loop_fuel hi (Nat.lt_succ_self i) h2)
      · have hne : ¬ (a[i] :: a.drop (i + 1) = b[i] :: b.drop (i + 1)) := by
          intro h; injection h with h1 _; exact hx h1
        simp only [hx, hne, decide_false, Bool.not_false, if_true]
        rfl
    · rw [if_neg hi, List.drop_eq_nil_of_le (Nat.le_of_not_lt hi), List.drop_eq_nil_of_le (hl ▸ Nat.le_of_not_lt hi)]
      rfl

theorem eqPath_sim (a b : List Bytes) : JsonIdx.eqPath a b = .ok (Json.pathEq a b) := by
  unfold JsonIdx.eqPath Json.pathEq
  by_cases hl : a.length = b.length
  · rw [if_neg (by simpa using hl), eqLoop_sim a b hl (a.length + 1) 0 (Nat.zero_le _) (Nat.le_refl _)]
    simp
  · rw [if_pos (by simpa using hl)]
    have : a ≠ b := by intro h; rw [h] at hl; exact hl rfl
    simp [this]

/-- Go's `queryMatched` (an index into `qs`, or -1) against the list model's `Option Query` -/
def QRes (qs : List Query) (o : Option Query) (j : Int) : Prop :=
  match o with
  | none => j = -1
  | some q => ∃ k : Nat, j = (k : Int) ∧ qs[k]? = some q

theorem queryPathMatchLoop_sim (qs : List Query) (path : List Bytes) : ∀ (fuel i : Nat),
    i ≤ qs.length → qs.length - i + 1 ≤ fuel →
    ∃ j, JsonIdx.queryPathMatchLoop fuel qs path i = .ok j ∧ QRes qs (Json.queryPathMatch (qs.drop i) path) j := by
  intro fuel
  induction fuel with
  | zero => intro i h1 h2; exact absurd h2 (Nat.not_succ_le_zero _)
  | succ f ih =>
    intro i h1 h2
    rw [JsonIdx.queryPathMatchLoop]
    by_cases hi : i < qs.length
    · rw [if_pos hi, elemAt_nat qs i hi, bind_ok, eqPath_sim, bind_ok, List.drop_eq_getElem_cons hi, Json.queryPathMatch]
      by_cases he : Json.pathEq qs[i].path path = true
      · rw [if_pos he, if_pos he]
        exact ⟨_, rfl, i, rfl, List.getElem?_eq_getElem hi⟩
      · rw [if_neg he, if_neg he]
        exact ih (i + 1) hi (loop_fuel hi (Nat.lt_succ_self i) h2)
    · rw [if_neg hi, List.drop_eq_nil_of_le (Nat.le_of_not_lt hi)]
      exact ⟨_, rfl, rfl⟩

theorem queryPathMatch_sim (qs : List Query) (path : List Bytes) :
    ∃ j, JsonIdx.queryPathMatch qs path = .ok j ∧ QRes qs (Json.queryPathMatch qs path) j := by
  have := queryPathMatchLoop_sim qs path (qs.length + 1) 0 (Nat.zero_le _) (Nat.le_refl _)
  rwa [List.drop_zero] at this

/-- `if !p.querySatisfied { queryMatched = queryPathMatch(qs, p.currPath) }` -/
theorem lookup_sim (qs : List Query) (s : PState) (mr : Nat) (c : Bool) :
    ∃ j, (if (!(view s mr c).querySatisfied) = true then JsonIdx.queryPathMatch qs (view s mr c).currPath
        else pure (-1) : Out Int) = .ok j ∧
      QRes qs (if s.querySatisfied = true then none else Json.queryPathMatch qs s.currPath) j := by
  rw [view_qs, view_currPath]
  cases s.querySatisfied with
  | true => exact ⟨-1, rfl, rfl⟩
  | false => exact queryPathMatch_sim qs s.currPath

theorem foldl_satisfy (t : Bytes) : ∀ (vals : List Bytes) (p : St),
    vals.foldl (fun p v => if decide (v = t) = true then p.satisfy else p) p =
      if vals.any (fun v => decide (v = t)) = true then p.satisfy else p := by
  intro vals
  induction vals with
  | nil => intro p; rfl
  | cons v vs ih =>
    intro p
    rw [List.foldl_cons, ih, List.any_cons]
    by_cases hv : v = t
    · simp only [hv, decide_true, if_true, Bool.true_or]
      split <;> rfl
    · simp only [hv, decide_false, Bool.false_eq_true, if_false, Bool.false_or]

theorem applyQuery_sim (mr : Nat) (c : Bool) (qs : List Query) (o : Option Query) (j : Int) (h : QRes qs o j) (val : Bytes) (s : PState) :
    JsonIdx.applyQuery qs j val (view s mr c) = .ok (view (Json.applyQuery o val s) mr c) := by
  unfold JsonIdx.applyQuery
  cases o with
  | none =>
    have hj : j = -1 := h
    subst hj
    rfl
  | some q =>
    obtain ⟨k, hj, hk⟩ := h
    subst hj
    have hlt : k < qs.length := by
      rcases Nat.lt_or_ge k qs.length with h | h
      · exact h
      · rw [List.getElem?_eq_none h] at hk; cases hk
    rw [if_pos (by simp), elemAt_nat qs k hlt, bind_ok]
    have hq : qs[k] = q := by
      rw [List.getElem?_eq_getElem hlt] at hk
      exact Option.some.inj hk
    rw [hq, pure_ok, foldl_satisfy]
    simp only [Json.applyQuery]
    cases hv : q.vals with
    | nil => rfl
    | cons v vs =>
      simp only [List.length_cons, Nat.add_one_ne_zero, beq_iff_eq, if_false, List.isEmpty_cons, Bool.false_eq_true]
      split <;> rfl

/-! The index-level container functions cut into the pieces of Lemmas/JsonScanEq.lean, written with the
  idioms of parser.go that recur in them. -/

section idioms
variable {β : Type} (b : Bytes) (n : Nat)

/-- `if len(b[n:]) == 0 { X }`, then `Y` -/
def restI (X Y : Out β) : Out β := do
  let t ← liftG (sliceFrom b n)
  if t.length == 0 then X else Y

/-- `if len(b[n:]) == 0 { X }; switch b[n] { F }` -/
def peekI (X : Out β) (F : Nat → Out β) : Out β :=
  restI b n X do
    let c ← liftG (elemAt b n)
    F c

/-- `n += p.consumeSpace(b[n:])`, then `K` -/
def spaceI (p : St) (K : Nat → St → Out β) : Out β := do
  let t ← liftG (sliceFrom b n)
  let (k, p) ← JsonIdx.consumeSpace t p
  K (n + k) p

/-- `k := scan(b[n:]); if k == 0 { return 0 }`, then `K k` -/
def callI (scan : Bytes → St → Out (Nat × St)) (p : St) (K : Nat → St → Out (Nat × St)) : Out (Nat × St) := do
  let t ← liftG (sliceFrom b n)
  let (k, p) ← scan t p
  if k == 0 then pure (0, p) else K k p

/-- a case of the `switch` of `consumeAny`: `rv := scan(b[n:])`, yielding `(n, rv, tok, p)` -/
def scanI (tok : Nat) (scan : Bytes → St → Out (Nat × St)) (p : St) : Out (Nat × Nat × Nat × St) := do
  let t ← liftG (sliceFrom b n)
  let (rv, p) ← scan t p
  pure (n, rv, tok, p)

variable {b n}

theorem restI_nil {X Y : Out β} (hn : n ≤ b.length) (hd : b.drop n = []) : restI b n X Y = X := by
  unfold restI
  rw [peek_nil hn hd, bind_ok, ite_zero_nil]

theorem restI_cons {X Y : Out β} {c : Nat} {r : Bytes} (hd : b.drop n = c :: r) : restI b n X Y = Y := by
  unfold restI
  rw [(peek_cons hd).2.1, bind_ok, ite_zero_cons]

theorem peekI_cons {X : Out β} {F : Nat → Out β} {c : Nat} {r : Bytes} (hd : b.drop n = c :: r) : peekI b n X F = F c := by
  unfold peekI
  rw [restI_cons hd, (peek_cons hd).2.2.1, bind_ok]

theorem spaceI_eq {mr : Nat} {c : Bool} (hn : n ≤ b.length) (s : PState) (K : Nat → St → Out β) :
    spaceI b n (view s mr c) K = K (n + nsp (b.drop n)) (view (s.bump (nsp (b.drop n))) mr c) := by
  unfold spaceI
  rw [sliceFrom_nat b n hn, bind_ok, consumeSpace_sim, bind_ok]

end idioms

section pieces
variable (qs : List Query) (f : Nat) (b : Bytes) (lvl : Nat)

/-- `consumeArray` from `n += innerParsed` on -/
def arrAfterI (n : Nat) (p : St) : Out (Nat × St) :=
  peekI b n (pure (0, p)) fun d =>
    if d == 0x2C then JsonIdx.arrayLoop qs f b (n + 1) lvl p.incIb
    else if d == 0x5D then do
      let p ← popPath p.incIb
      pure (n + 1, p)
    else pure (0, p)

/-- the loop body of `consumeArray` after `n += p.consumeSpace(b[n:])` -/
def arrHeadI (n : Nat) (p : St) : Out (Nat × St) :=
  peekI b n (pure (0, p)) fun c =>
    if c == 0x5D then do
      let p ← popPath p.incIb
      pure (n + 1, p)
    else callI b n (fun t p => JsonIdx.consumeAny qs f t lvl p) p fun k p => arrAfterI qs f b lvl (n + k) p

theorem arrayLoopI_eq (n : Nat) (p : St) : JsonIdx.arrayLoop qs (f + 1) b n lvl p =
    if n < b.length then spaceI b n p (arrHeadI qs f b lvl) else pure (0, p) := by
  rw [JsonIdx.arrayLoop]; rfl

/-- `consumeObject` from `n += valLen` on -/
def objAfterValI (n : Nat) (p : St) : Out (Nat × St) :=
  peekI b n (pure (0, p)) fun g =>
    if g == 0x2C then do
      let p ← popPath p
      JsonIdx.consumeObject qs f b (n + 1) lvl p.incIb
    else if g == 0x7D then do
      let p ← popPath p
      pure (n + 1, p.incIb)
    else pure (0, p)

/-- `consumeObject` from the third `if len(b[n:]) == 0` (parser.go:355) on -/
def objValueI (queryMatched : Int) (n : Nat) (p : St) : Out (Nat × St) :=
  restI b n (pure (0, p)) <|
    callI b n (fun t p => JsonIdx.consumeAny qs f t lvl p) p fun valLen p => do
      let val ← liftG (JsonIdx.slice b n ((n : Int) + valLen))
      let p ← JsonIdx.applyQuery qs queryMatched val p
      objAfterValI qs f b lvl (n + valLen) p

/-- `consumeObject` from the second `if len(b[n:]) == 0` (parser.go:345) on -/
def objColonI (queryMatched : Int) (n : Nat) (p : St) : Out (Nat × St) :=
  peekI b n (pure (0, p)) fun d =>
    if d != 0x3A then pure (0, p)
    else spaceI b (n + 1) p.incIb (objValueI qs f b lvl queryMatched)

/-- `consumeObject` after `consumeString` returned `keyLen ≠ 0` -/
def objAfterKeyI (n keyLen : Nat) (p : St) : Out (Nat × St) := do
  let key ← liftG (JsonIdx.slice b n ((n : Int) + keyLen - 1))
  let p := p.push key
  let queryMatched ←
    (if !p.querySatisfied then JsonIdx.queryPathMatch qs p.currPath else pure (-1) : Out Int)
  spaceI b (n + keyLen) p (objColonI qs f b lvl queryMatched)

/-- the loop body of `consumeObject` after `n += p.consumeSpace(b[n:])` -/
def objHeadI (n : Nat) (p : St) : Out (Nat × St) :=
  peekI b n (pure (0, p)) fun c =>
    if c == 0x7D then pure (n + 1, p.incIb)
    else if c != 0x22 then pure (0, p)
    else callI b (n + 1) JsonIdx.consumeString p.incIb (objAfterKeyI qs f b lvl (n + 1))

theorem consumeObjectI_eq (n : Nat) (p : St) : JsonIdx.consumeObject qs (f + 1) b n lvl p =
    if n < b.length then spaceI b n p (objHeadI qs f b lvl) else pure (0, p) := by
  rw [JsonIdx.consumeObject]; rfl

/-- the `switch b[n]` of `consumeAny` -/
def anySwitchI (n : Nat) (c : Nat) (p : St) : Out (Nat × Nat × Nat × St) :=
  if c == 0x22 then scanI b (n + 1) Json.tokString JsonIdx.consumeString p.incIb
  else if c == 0x5B then
    scanI b (n + 1) Json.tokArray (fun t p => JsonIdx.consumeArrayWith (JsonIdx.arrayLoop qs f) t (lvl + 1) p) p.incIb
  else if c == 0x7B then scanI b (n + 1) Json.tokObject (fun t p => JsonIdx.consumeObject qs f t 0 (lvl + 1) p) p.incIb
  else if c == 0x74 then scanI b n Json.tokTrue (fun t p => JsonIdx.consumeConst t Json.wTrue p) p
  else if c == 0x66 then scanI b n Json.tokFalse (fun t p => JsonIdx.consumeConst t Json.wFalse p) p
  else if c == 0x6E then scanI b n Json.tokNull (fun t p => JsonIdx.consumeConst t Json.wNull p) p
  else scanI b n Json.tokNumber JsonIdx.consumeNumber p

/-- `consumeAny` after the `switch` -/
def anyTailI (x : Nat × Nat × Nat × St) : Out (Nat × St) :=
  match x with
  | (n, rv, tok, p) =>
    let p := if lvl == 0 then { p with firstToken := tok } else p
    let p := if qs.length == 0 then p.satisfy else p
    if rv ≤ 0 then
      (if lvl > 0 then pure (0, p) else pure (n, p))
    else
      spaceI b (n + rv) (if lvl == 0 then { p with complete := true } else p) fun n p => pure (n, p)

/-- `consumeAny` after `n += p.consumeSpace(b)` -/
def anyHeadI (n : Nat) (p : St) : Out (Nat × St) :=
  peekI b n (pure (0, p)) fun c => do
    let x ← anySwitchI qs f b lvl n c p
    anyTailI qs b lvl x

theorem consumeAnyI_eq (p : St) : JsonIdx.consumeAny qs (f + 1) b lvl p =
    if (p.maxRecursion != 0 && decide (lvl > p.maxRecursion)) = true then pure (0, p)
    else (do
      let (k, p) ← JsonIdx.consumeSpace b p
      anyHeadI qs f b lvl (0 + k) p) := by
  rw [JsonIdx.consumeAny]; rfl

end pieces

section sim
variable (qs : List Query) (cap : Nat)

/-- a loop (`consumeArray`, `consumeObject`) run from cursor `n` of `b`; on success the path
    stack is `path` -/
def SimLoop (c : Bool) (b : Bytes) (n : Nat) (path : List Bytes) (out : Out (Nat × St)) (res : Option Bytes × PState) : Prop :=
  match res.1 with
  | none => out = .ok (0, view res.2 cap c)
  | some r => ∃ k, n < k ∧ k ≤ b.length ∧ r = b.drop k ∧ res.2.currPath = path ∧ out = .ok (k, view res.2 cap c)

/-- `consumeAny(b, qs, lvl)`: on failure Go returns 0 below the top level (and the bytes consumed
    so far at the top level) and leaves `complete` alone; on success it returns the cursor, the
    path stack is balanced, and `complete` is set iff `lvl == 0` -/
def SimAny (c : Bool) (lvl : Nat) (b : Bytes) (path : List Bytes) (out : Out (Nat × St)) (res : Option Bytes × PState) : Prop :=
  match res.1 with
  | none => ∃ k, (0 < lvl → k = 0) ∧ out = .ok (k, view res.2 cap c)
  | some r => ∃ k, 0 < k ∧ k ≤ b.length ∧ r = b.drop k ∧ res.2.currPath = path ∧
      out = .ok (k, view res.2 cap (c || lvl == 0))

variable {cap}

theorem SimLoop.mono {c b n n' path out res} (h : SimLoop cap c b n' path out res) (hn : n ≤ n') :
    SimLoop cap c b n path out res := by
  obtain ⟨o, s'⟩ := res
  cases o with
  | none => exact h
  | some r =>
    obtain ⟨k, h1, h2, h3, h4, h5⟩ := h
    exact ⟨k, Nat.lt_of_le_of_lt hn h1, h2, h3, h4, h5⟩

theorem SimLoop.of_simAt {c b n path out res} (h : SimAt cap c b n out res) (hp : res.2.currPath = path) :
    SimLoop cap c b n path out res := by
  obtain ⟨o, s'⟩ := res
  cases o with
  | none => exact h
  | some r =>
    obtain ⟨k, h1, h2, h3, h4⟩ := h
    exact ⟨k, h1, h2, h3, hp, h4⟩

theorem or_lvl (c : Bool) {lvl : Nat} (hl : 0 < lvl) : (c || lvl == 0) = c := by
  rw [beq_false_of_ne (Nat.ne_of_gt hl), Bool.or_false]

theorem beq_zero_of_pos {k : Nat} (hk : 0 < k) : ¬ ((k == 0) = true) := by
  rw [beq_false_of_ne (Nat.ne_of_gt hk)]; exact Bool.false_ne_true

theorem SimAny.loop {c lvl b path out res} (h : SimAny cap c lvl b path out res) (hl : 0 < lvl) :
    SimLoop cap c b 0 path out res := by
  obtain ⟨o, s'⟩ := res
  cases o with
  | none =>
    obtain ⟨k, hk, ho⟩ := h
    rw [hk hl] at ho
    exact ho
  | some r =>
    obtain ⟨k, h1, h2, h3, h4, ho⟩ := h
    rw [or_lvl c hl] at ho
    exact ⟨k, h1, h2, h3, h4, ho⟩

theorem consumed_drop {y : Bytes} (k : Nat) (hk : k ≤ y.length) : Json.consumed y (y.drop k) = y.take k := by
  unfold Json.consumed
  rw [List.length_drop, Nat.sub_sub_self hk]

/-- a scanner run on the slice `b[n:]` from its cursor 0 and the statements `K` after it, seen from `b`:
    `K` is entered with what the scanner returned, at the cursor the list model goes on from -/
theorem call_sim {c : Bool} {b : Bytes} {n : Nat} {path path' : List Bytes} {scan : Bytes → St → Out (Nat × St)}
    {G : JsonPrefix.Scan} {K : Nat → St → Out (Nat × St)} (H : Bytes → JsonPrefix.Scan) (s : PState) (hn : n ≤ b.length)
    (h : SimLoop cap c (b.drop n) 0 path (scan (b.drop n) (view s cap c)) (G (b.drop n) s))
    (hK : ∀ k s2, 0 < k → n + k ≤ b.length → s2.currPath = path →
      SimLoop cap c b (n + k) path' (K k (view s2 cap c)) (H ((b.drop n).take k) (b.drop (n + k)) s2)) :
    SimLoop cap c b n path' (callI b n scan (view s cap c) K)
      (match G (b.drop n) s with
        | (some r, s2) => H (Json.consumed (b.drop n) r) r s2
        | (none, s2) => (none, s2)) := by
  unfold callI
  rw [sliceFrom_nat b n hn, bind_ok]
  generalize scan (b.drop n) (view s cap c) = out at h ⊢
  generalize G (b.drop n) s = res at h ⊢
  obtain ⟨o, s2⟩ := res
  cases o with
  | none =>
    have ho : out = .ok (0, view s2 cap c) := h
    rw [ho, bind_ok]
    rfl
  | some r =>
    obtain ⟨k, hk0, hk1, hr, hp, ho⟩ := h
    rw [ho, bind_ok]
    dsimp only
    rw [if_neg (beq_zero_of_pos hk0), hr, consumed_drop k hk1, List.drop_drop]
    exact (hK k s2 hk0 (cursor_le hn rfl hk1) hp).mono (Nat.le_add_right n k)

variable (cap)

/-- the three statements of the induction on the fuel `f`: a value costs one unit and a loop two per byte still
    ahead of the cursor, as in Lemmas/JsonFuel.lean -/
def SAny (f : Nat) : Prop := ∀ (lvl : Nat) (b : Bytes) (s : PState) (c : Bool), 2 * b.length + 1 ≤ f →
  SimAny cap c lvl b s.currPath (JsonIdx.consumeAny qs f b lvl (view s cap c)) (Json.consumeAny qs cap f lvl b s)

def SArr (f : Nat) : Prop := ∀ (lvl : Nat) (b : Bytes) (n : Nat) (s : PState) (c : Bool),
  0 < lvl → n ≤ b.length → 2 * (b.length - n) + 2 ≤ f → s.currPath ≠ [] →
  SimLoop cap c b n s.currPath.dropLast (JsonIdx.arrayLoop qs f b n lvl (view s cap c)) (Json.arrayLoop qs cap f lvl (b.drop n) s)

def SObj (f : Nat) : Prop := ∀ (lvl : Nat) (b : Bytes) (n : Nat) (s : PState) (c : Bool),
  0 < lvl → n ≤ b.length → 2 * (b.length - n) + 2 ≤ f →
  SimLoop cap c b n s.currPath (JsonIdx.consumeObject qs f b n lvl (view s cap c)) (Json.objectLoop qs cap f lvl (b.drop n) s)

variable {qs cap}

theorem SAny.call {f : Nat} (hV : SAny qs cap f) {lvl : Nat} (hl : 0 < lvl) (b : Bytes) (n : Nat) (s : PState) (c : Bool)
    (hf : 2 * (b.length - n) + 1 ≤ f) :
    SimLoop cap c (b.drop n) 0 s.currPath (JsonIdx.consumeAny qs f (b.drop n) lvl (view s cap c))
      (Json.consumeAny qs cap f lvl (b.drop n) s) :=
  (hV lvl (b.drop n) s c (by rw [List.length_drop]; exact hf)).loop hl

section fuel
variable {f : Nat} (hV : SAny qs cap f) (hA : SArr qs cap f) (hO : SObj qs cap f)

include hA in
theorem arrAfter_sim (lvl : Nat) (b : Bytes) (n : Nat) (s : PState) (c : Bool)
    (hl : 0 < lvl) (hn : n ≤ b.length) (hf : 2 * (b.length - n) ≤ f) (hp : s.currPath ≠ []) :
    SimLoop cap c b n s.currPath.dropLast (arrAfterI qs f b lvl n (view s cap c)) (JsonPrefix.arrAfter qs cap f lvl (b.drop n) s) := by
  unfold arrAfterI
  cases hd : b.drop n with
  | nil =>
    rw [peekI, restI_nil hn hd]
    rfl
  | cons d ds =>
    obtain ⟨hlt, -, -, h6⟩ := peek_cons hd
    rw [peekI_cons hd]
    simp only [JsonPrefix.arrAfter]
    by_cases hc : (d == 0x2C) = true
    · rw [if_pos hc, if_pos hc, view_incIb, ← h6]
      exact (hA lvl b (n + 1) s.bump c hl hlt (fuel_next hlt hf) hp).mono (Nat.le_succ n)
    · rw [if_neg hc, if_neg hc]
      by_cases hb : (d == 0x5D) = true
      · rw [if_pos hb, if_pos hb, view_incIb, popPath_view s.bump _ _ hp, bind_ok]
        exact ⟨n + 1, Nat.lt_succ_self n, hlt, h6.symm, rfl, rfl⟩
      · rw [if_neg hb, if_neg hb]
        rfl

include hV hA in
theorem arrHead_sim (lvl : Nat) (b : Bytes) {n : Nat} (s : PState) (c : Bool)
    (hl : 0 < lvl) (hn : n ≤ b.length) (hf : 2 * (b.length - n) + 1 ≤ f) (hp : s.currPath ≠ []) :
    SimLoop cap c b n s.currPath.dropLast (arrHeadI qs f b lvl n (view s cap c)) (JsonPrefix.arrHead qs cap f lvl (b.drop n) s) := by
  unfold arrHeadI
  cases hd : b.drop n with
  | nil =>
    rw [peekI, restI_nil hn hd]
    rfl
  | cons x xs =>
    obtain ⟨hlt, -, -, h6⟩ := peek_cons hd
    rw [peekI_cons hd]
    simp only [JsonPrefix.arrHead]
    by_cases hb : (x == 0x5D) = true
    · rw [if_pos hb, if_pos hb, view_incIb, popPath_view s.bump _ _ hp, bind_ok]
      exact ⟨n + 1, Nat.lt_succ_self n, hlt, h6.symm, rfl, rfl⟩
    · rw [if_neg hb, if_neg hb, ← hd]
      exact call_sim (fun _ => JsonPrefix.arrAfter qs cap f lvl) s hn (hV.call hl b n s c hf) fun k s2 _ hk hp2 =>
        hp2 ▸ arrAfter_sim hA lvl b (n + k) s2 c hl hk (Nat.le_of_succ_le (fuel_mono (Nat.le_add_right n k) hf)) (hp2 ▸ hp)

include hV hA in
theorem arr_step : SArr qs cap (f + 1) := by
  intro lvl b n s c hl hn hf hp
  rw [arrayLoopI_eq, JsonPrefix.arrayLoop_eq, spaceScan_eq]
  dsimp only
  by_cases hlt : n < b.length
  · rw [if_pos hlt, spaceI_eq hn, List.drop_drop]
    exact (arrHead_sim hV hA lvl b (s.bump _) c hl (nsp_drop_le hn)
      (fuel_mono (Nat.le_add_right _ _) (Nat.le_of_succ_le_succ hf)) hp).mono (Nat.le_add_right _ _)
  · rw [if_neg hlt, List.drop_eq_nil_of_le (as := b) (i := n) (Nat.le_of_not_lt hlt)]
    rfl

include hA in
theorem consumeArrayWith_sim (lvl : Nat) {t : Bytes} (s : PState) (c : Bool)
    (hl : 0 < lvl) (hf : 2 * t.length + 2 ≤ f) :
    SimLoop cap c t 0 s.currPath (JsonIdx.consumeArrayWith (JsonIdx.arrayLoop qs f) t lvl (view s cap c))
      (if t.isEmpty = true then (none, s.push [0x5B]) else Json.arrayLoop qs cap f lvl t (s.push [0x5B])) := by
  unfold JsonIdx.consumeArrayWith
  cases t with
  | nil => rfl
  | cons x xs =>
    dsimp only
    rw [ite_zero_cons, if_neg (by simp), view_push]
    have := hA lvl (x :: xs) 0 (s.push [0x5B]) c hl (Nat.zero_le _) hf (by simp [PState.push])
    rw [List.drop_zero] at this
    have hpath : (s.push [0x5B]).currPath.dropLast = s.currPath := by simp [PState.push]
    rw [hpath] at this
    exact this

theorem applyQuery_currPath (o : Option Query) (v : Bytes) (s : PState) : (Json.applyQuery o v s).currPath = s.currPath := by
  cases o with
  | none => rfl
  | some q =>
    simp only [Json.applyQuery]
    split <;> split <;> rfl

include hO in
theorem objAfterVal_sim (o : Option Query) (tag : Bytes) (lvl : Nat) (b : Bytes) (n : Nat) (s : PState) (c : Bool)
    (hl : 0 < lvl) (hn : n ≤ b.length) (hf : 2 * (b.length - n) ≤ f) (hp : s.currPath ≠ []) :
    SimLoop cap c b n s.currPath.dropLast (objAfterValI qs f b lvl n (view (Json.applyQuery o tag s) cap c))
      (JsonPrefix.objAfterVal qs cap f lvl o tag (b.drop n) s) := by
  have hp7 : (Json.applyQuery o tag s).currPath ≠ [] := by rw [applyQuery_currPath]; exact hp
  have hq7 : (Json.applyQuery o tag s).currPath.dropLast = s.currPath.dropLast := by rw [applyQuery_currPath]
  unfold objAfterValI
  cases hd : b.drop n with
  | nil =>
    rw [peekI, restI_nil hn hd]
    rfl
  | cons g gs =>
    obtain ⟨hlt, -, -, h6⟩ := peek_cons hd
    rw [peekI_cons hd]
    simp only [JsonPrefix.objAfterVal]
    by_cases hc : (g == 0x2C) = true
    · rw [if_pos hc, if_pos hc, popPath_view _ _ _ hp7, bind_ok, view_incIb, ← h6]
      exact hq7 ▸ (hO lvl b (n + 1) (Json.applyQuery o tag s).pop.bump c hl hlt (fuel_next hlt hf)).mono (Nat.le_succ n)
    · rw [if_neg hc, if_neg hc]
      by_cases hb : (g == 0x7D) = true
      · rw [if_pos hb, if_pos hb, popPath_view _ _ _ hp7, bind_ok, view_incIb]
        exact ⟨n + 1, Nat.lt_succ_self n, hlt, h6.symm, hq7, rfl⟩
      · rw [if_neg hb, if_neg hb]
        rfl

include hV hO in
theorem objValue_sim (o : Option Query) (j : Int) (hq : QRes qs o j)
    (lvl : Nat) (b : Bytes) {n : Nat} (s : PState) (c : Bool)
    (hl : 0 < lvl) (hn : n ≤ b.length) (hf : 2 * (b.length - n) + 1 ≤ f) (hp : s.currPath ≠ []) :
    SimLoop cap c b n s.currPath.dropLast (objValueI qs f b lvl j n (view s cap c)) (JsonPrefix.objValue qs cap f lvl o (b.drop n) s) := by
  unfold objValueI
  cases hd : b.drop n with
  | nil =>
    rw [restI_nil hn hd]
    rfl
  | cons x xs =>
    rw [restI_cons hd]
    simp only [JsonPrefix.objValue]
    rw [← hd]
    refine call_sim (JsonPrefix.objAfterVal qs cap f lvl o) s hn (hV.call hl b n s c hf) fun k s2 _ hk hp2 => ?_
    rw [← Int.natCast_add, slice_nat b n (n + k) (Nat.le_add_right n k) hk, bind_ok, Nat.add_sub_cancel_left,
      applyQuery_sim cap c qs o j hq, bind_ok]
    exact hp2 ▸ objAfterVal_sim hO o _ lvl b (n + k) s2 c hl hk
      (Nat.le_of_succ_le (fuel_mono (Nat.le_add_right n k) hf)) (hp2 ▸ hp)

include hV hO in
theorem objColon_sim {o : Option Query} (j : Int) (hq : QRes qs o j)
    (lvl : Nat) (b : Bytes) {n : Nat} (s : PState) (c : Bool)
    (hl : 0 < lvl) (hn : n ≤ b.length) (hf : 2 * (b.length - n) + 1 ≤ f) (hp : s.currPath ≠ []) :
    SimLoop cap c b n s.currPath.dropLast (objColonI qs f b lvl j n (view s cap c)) (JsonPrefix.objColon qs cap f lvl o (b.drop n) s) := by
  unfold objColonI
  cases hd : b.drop n with
  | nil =>
    rw [peekI, restI_nil hn hd]
    rfl
  | cons d ds =>
    obtain ⟨hlt, -, -, h6⟩ := peek_cons hd
    rw [peekI_cons hd]
    simp only [JsonPrefix.objColon]
    by_cases hc : (d != 0x3A) = true
    · rw [if_pos hc, if_pos hc]
      rfl
    · rw [if_neg hc, if_neg hc, view_incIb, spaceI_eq hlt, spaceScan_eq, ← h6, List.drop_drop]
      dsimp only
      exact (objValue_sim hV hO o j hq lvl b (s.bump.bump _) c hl (nsp_drop_le hlt)
        (fuel_mono (Nat.le_trans (Nat.le_succ n) (Nat.le_add_right _ _)) hf) hp).mono
        (Nat.le_trans (Nat.le_succ n) (Nat.le_add_right _ _))

theorem take_dropLast {y : Bytes} (k : Nat) (hk : k ≤ y.length) : (y.take k).dropLast = y.take (k - 1) := by
  rw [List.dropLast_eq_take, List.take_take, List.length_take, Nat.min_eq_left hk, Nat.min_eq_left (Nat.sub_le k 1)]

include hV hO in
theorem objAfterKey_sim (lvl : Nat) (b : Bytes) (n k : Nat) (s : PState) (c : Bool)
    (hl : 0 < lvl) (hk0 : 0 < k) (hn : n + k ≤ b.length) (hf : 2 * (b.length - (n + k)) + 1 ≤ f) :
    SimLoop cap c b (n + k) s.currPath (objAfterKeyI qs f b lvl n k (view s cap c))
      (JsonPrefix.objAfterKey qs cap f lvl ((b.drop n).take k) (b.drop (n + k)) s) := by
  unfold objAfterKeyI
  obtain ⟨a1, a2, a3, hcast⟩ := key_bounds hk0 hn
  rw [hcast, slice_nat b n (n + k - 1) a1 a2, bind_ok, a3,
    ← take_dropLast k (by rw [List.length_drop]; exact Nat.le_sub_of_add_le' hn)]
  simp only [JsonPrefix.objAfterKey]
  generalize ((b.drop n).take k).dropLast = key
  rw [view_push]
  have hp3 : (s.push key).currPath ≠ [] := by simp [PState.push]
  have hq3 : (s.push key).currPath.dropLast = s.currPath := by simp [PState.push]
  obtain ⟨j, hj1, hj2⟩ := lookup_sim qs (s.push key) cap c
  rw [hj1, bind_ok, spaceI_eq hn, spaceScan_eq, List.drop_drop]
  dsimp only
  exact hq3 ▸ (objColon_sim hV hO j hj2 lvl b ((s.push key).bump _) c hl (nsp_drop_le hn)
    (fuel_mono (Nat.le_add_right _ _) hf) hp3).mono
    (Nat.le_add_right _ _)

include hV hO in
theorem objHead_sim (lvl : Nat) (b : Bytes) {n : Nat} (s : PState) (c : Bool)
    (hl : 0 < lvl) (hn : n ≤ b.length) (hf : 2 * (b.length - n) + 1 ≤ f) :
    SimLoop cap c b n s.currPath (objHeadI qs f b lvl n (view s cap c)) (JsonPrefix.objHead qs cap f lvl (b.drop n) s) := by
  unfold objHeadI
  cases hd : b.drop n with
  | nil =>
    rw [peekI, restI_nil hn hd]
    rfl
  | cons x xs =>
    obtain ⟨hlt, -, -, h6⟩ := peek_cons hd
    rw [peekI_cons hd]
    simp only [JsonPrefix.objHead]
    by_cases hb : (x == 0x7D) = true
    · rw [if_pos hb, if_pos hb]
      exact ⟨n + 1, Nat.lt_succ_self n, hlt, h6.symm, rfl, rfl⟩
    · rw [if_neg hb, if_neg hb]
      by_cases hq : (x != 0x22) = true
      · rw [if_pos hq, if_pos hq]
        rfl
      · rw [if_neg hq, if_neg hq, view_incIb, ← h6]
        exact (call_sim (JsonPrefix.objAfterKey qs cap f lvl) s.bump hlt
          (SimLoop.of_simAt (consumeString_sim cap c _ s.bump) (JsonQuery.consumeString_fields _ .norm s.bump).1)
          fun k s2 hk0 hk hp2 => hp2 ▸ objAfterKey_sim hV hO lvl b (n + 1) k s2 c hl hk0 hk
            (fuel_mono (Nat.le_trans (Nat.le_succ n) (Nat.le_add_right _ _)) hf)).mono (Nat.le_succ n)

include hV hO in
theorem obj_step : SObj qs cap (f + 1) := by
  intro lvl b n s c hl hn hf
  rw [consumeObjectI_eq, JsonPrefix.objectLoop_eq, spaceScan_eq]
  dsimp only
  by_cases hlt : n < b.length
  · rw [if_pos hlt, spaceI_eq hn, List.drop_drop]
    exact (objHead_sim hV hO lvl b (s.bump _) c hl (nsp_drop_le hn)
      (fuel_mono (Nat.le_add_right _ _) (Nat.le_of_succ_le_succ hf))).mono (Nat.le_add_right _ _)
  · rw [if_neg hlt, List.drop_eq_nil_of_le (as := b) (i := n) (Nat.le_of_not_lt hlt)]
    rfl

theorem classify_tok_str : Json.tokString = Json.Kind.str.tok := rfl

theorem view_flags (s : PState) (c : Bool) (lvl tok : Nat) :
    (if (qs.length == 0) = true then (if (lvl == 0) = true then { view s cap c with firstToken := tok } else view s cap c).satisfy
      else (if (lvl == 0) = true then { view s cap c with firstToken := tok } else view s cap c)) =
    view ((s.setFirst lvl tok).setQ qs.isEmpty) cap c := by
  unfold PState.setFirst PState.setQ
  cases qs with
  | nil => simp only [List.length_nil, BEq.rfl, if_true, List.isEmpty_nil]; split <;> rfl
  | cons q qs' =>
    simp only [List.length_cons, Nat.add_one_ne_zero, beq_iff_eq, if_false, List.isEmpty_cons, Bool.false_eq_true]
    split <;> rfl

theorem flags_currPath (s : PState) (lvl tok : Nat) (e : Bool) : ((s.setFirst lvl tok).setQ e).currPath = s.currPath := by
  unfold PState.setFirst PState.setQ
  split <;> split <;> rfl

theorem view_complete (s : PState) (c : Bool) (lvl : Nat) :
    (if (lvl == 0) = true then { view s cap c with complete := true } else view s cap c) = view s cap (c || lvl == 0) := by
  cases hl : (lvl == 0) with
  | true => simp only [if_true, Bool.or_true]; rfl
  | false => simp only [Bool.false_eq_true, if_false, Bool.or_false]

theorem scan_sim {c : Bool} {b : Bytes} {n' : Nat} {path : List Bytes} {tok : Nat} {scan : Bytes → St → Out (Nat × St)}
    {res : Option Bytes × PState} (lvl : Nat) (s : PState)
    (h : SimLoop cap c (b.drop n') 0 path (scan (b.drop n') (view s cap c)) res) (hn' : n' ≤ b.length) :
    SimAny cap c lvl b path (scanI b n' tok scan (view s cap c) >>= anyTailI qs b lvl) (Json.finishAny qs.isEmpty lvl tok res) := by
  unfold scanI
  rw [sliceFrom_nat b n' hn', bind_ok]
  generalize scan (b.drop n') (view s cap c) = out at h ⊢
  obtain ⟨o, s2⟩ := res
  cases o with
  | none =>
    have ho : out = .ok (0, view s2 cap c) := h
    rw [ho]
    simp only [bind_ok, pure_ok, anyTailI, Json.finishAny]
    rw [view_flags, if_pos (Nat.le_refl 0)]
    by_cases hl : lvl > 0
    · rw [if_pos hl]; exact ⟨0, fun _ => rfl, rfl⟩
    · rw [if_neg hl]; exact ⟨n', fun h => absurd h hl, rfl⟩
  | some r =>
    obtain ⟨k, h1, h2, h3, h4, ho⟩ := h
    have hk := cursor_le hn' rfl h2
    rw [List.drop_drop] at h3
    rw [ho]
    simp only [bind_ok, pure_ok, anyTailI, Json.finishAny]
    rw [view_flags, if_neg (Nat.not_le_of_gt h1), view_complete, spaceI_eq hk, consumeSpace_eq, h3, List.drop_drop]
    exact ⟨_, Nat.lt_of_lt_of_le h1 (Nat.le_trans (Nat.le_add_left k n') (Nat.le_add_right _ _)),
      nsp_drop_le hk, rfl, h4 ▸ flags_currPath s2 lvl tok _, rfl⟩

include hA hO in
theorem anySwitch_sim (lvl : Nat) (b : Bytes) (n : Nat) (s : PState) (c : Bool)
    (x : Nat) (xs : Bytes) (hd : b.drop n = x :: xs) (hf : 2 * (b.length - n) ≤ f) :
    SimAny cap c lvl b s.currPath (anySwitchI qs f b lvl n x (view s cap c) >>= anyTailI qs b lvl)
      (Json.finishAny qs.isEmpty lvl (Json.classify x).tok (JsonPrefix.kindScan qs cap f lvl (Json.classify x) (x :: xs) s)) := by
  obtain ⟨hlt, -, -, h6⟩ := peek_cons hd
  have hle := Nat.le_of_lt hlt
  have hff : 2 * (b.drop (n + 1)).length + 2 ≤ f := by rw [List.length_drop]; exact fuel_next hlt hf
  have hconst : ∀ (w : Bytes) (tok : Nat), 0 < w.length → SimAny cap c lvl b s.currPath
      (scanI b n tok (fun t p => JsonIdx.consumeConst t w p) (view s cap c) >>= anyTailI qs b lvl)
      (Json.finishAny qs.isEmpty lvl tok (Json.consumeConst (x :: xs) w s)) := fun w tok hw =>
    hd ▸ scan_sim lvl s (SimLoop.of_simAt (consumeConst_sim cap c (b.drop n) w s hw) (JsonQuery.consumeConst_fields w _ s).1) hle
  rcases JsonForward.classify_cases x with ⟨rfl, hk⟩ | ⟨rfl, hk⟩ | ⟨rfl, hk⟩ | ⟨rfl, hk⟩ | ⟨rfl, hk⟩ | ⟨rfl, hk⟩ |
    ⟨n1, n2, n3, n4, n5, n6, hk⟩
  · rw [hk, ← h6]
    exact scan_sim lvl s.bump
      (SimLoop.of_simAt (consumeString_sim cap c _ s.bump) (JsonQuery.consumeString_fields _ .norm s.bump).1) hlt
  · rw [hk, ← h6]
    exact scan_sim lvl s.bump (consumeArrayWith_sim hA (lvl + 1) s.bump c (Nat.succ_pos lvl) hff) hlt
  · rw [hk, ← h6]
    exact scan_sim lvl s.bump (List.drop_zero (l := b.drop (n + 1)) ▸
      hO (lvl + 1) (b.drop (n + 1)) 0 s.bump c (Nat.succ_pos lvl) (Nat.zero_le _) hff) hlt
  · rw [hk]
    exact hconst Json.wTrue _ (by decide)
  · rw [hk]
    exact hconst Json.wFalse _ (by decide)
  · rw [hk]
    exact hconst Json.wNull _ (by decide)
  · rw [hk, anySwitchI, if_neg (by simpa using n1), if_neg (by simpa using n2), if_neg (by simpa using n3),
      if_neg (by simpa using n4), if_neg (by simpa using n5), if_neg (by simpa using n6)]
    exact hd ▸ scan_sim lvl s (SimLoop.of_simAt (consumeNumber_sim cap c (b.drop n) s) (JsonQuery.consumeNumber_fields _ .start s).1) hle

include hA hO in
theorem anyHead_sim (lvl : Nat) (b : Bytes) (n : Nat) (s : PState) (c : Bool)
    (hn : n ≤ b.length) (hf : 2 * (b.length - n) ≤ f) :
    SimAny cap c lvl b s.currPath (anyHeadI qs f b lvl n (view s cap c)) (JsonPrefix.anyHead qs cap f lvl (b.drop n) s) := by
  unfold anyHeadI
  cases hd : b.drop n with
  | nil =>
    rw [peekI, restI_nil hn hd]
    exact ⟨0, fun _ => rfl, rfl⟩
  | cons x xs =>
    rw [peekI_cons hd]
    exact anySwitch_sim hA hO lvl b n s c x xs hd hf

include hA hO in
theorem any_step : SAny qs cap (f + 1) := by
  intro lvl b s c hf
  rw [consumeAnyI_eq, JsonPrefix.consumeAny_eq, view_maxRecursion]
  by_cases hcap : (cap != 0 && decide (lvl > cap)) = true
  · rw [if_pos hcap, if_pos hcap]
    exact ⟨0, fun _ => rfl, rfl⟩
  · rw [if_neg hcap, if_neg hcap, spaceScan_eq, ← view_enter s cap c lvl, consumeSpace_sim, bind_ok]
    dsimp only
    rw [Nat.zero_add]
    exact anyHead_sim hA hO lvl b (nsp b) ((s.enter lvl).bump (nsp b)) c (nsp_le b)
      (Nat.le_trans (Nat.mul_le_mul_left 2 (Nat.sub_le _ _)) (Nat.le_of_succ_le_succ hf))

end fuel

theorem sim_all : ∀ f, SAny qs cap f ∧ SArr qs cap f ∧ SObj qs cap f := by
  intro f
  induction f with
  | zero =>
    exact ⟨fun _ _ _ _ h => absurd h (Nat.not_succ_le_zero _), fun _ _ _ _ _ _ _ h => absurd h (Nat.not_succ_le_zero _),
      fun _ _ _ _ _ _ _ h => absurd h (Nat.not_succ_le_zero _)⟩
  | succ f ih =>
    obtain ⟨hV, hA, hO⟩ := ih
    exact ⟨any_step hA hO, arr_step hV hA, obj_step hV hO⟩

end sim

/-- **refinement**: the index-level scanner never panics, never runs out of fuel, and computes
    exactly what the list model computes -/
theorem parseIdx_refines (qs : List Query) (cap : Nat) (raw : Bytes) :
    JsonIdx.parseIdx qs cap raw = .ok (Json.parseWith PState.fresh cap qs raw) := by
  have h := (sim_all (qs := qs) (cap := cap) (fuelFor raw)).1 0 raw PState.fresh false (Nat.add_le_add_left (by decide) _)
  unfold JsonIdx.parseIdx Json.parseWith
  have e : JsonIdx.St.afterReset cap = view PState.fresh cap false := rfl
  have e2 : PState.fresh.reset = PState.fresh := rfl
  rw [e, e2]
  dsimp only
  generalize JsonIdx.consumeAny qs (fuelFor raw) raw 0 (view PState.fresh cap false) = out at h ⊢
  generalize Json.consumeAny qs cap (fuelFor raw) 0 raw PState.fresh = res at h ⊢
  obtain ⟨o, s'⟩ := res
  cases o with
  | none =>
    obtain ⟨k, _, ho⟩ := h
    rw [ho]
    rfl
  | some r =>
    obtain ⟨k, h1, h2, h3, _, ho⟩ := h
    rw [ho, h3]
    simp only [bind_ok, pure_ok, List.length_drop]
    rw [Nat.sub_sub_self h2]
    rfl

/-- with the stated fuel, `consumeAny` itself (any level, any state of the pooled parser) returns
    normally: neither `panic` nor `fuel` -/
theorem consumeAny_ok (qs : List Query) (cap f lvl : Nat) (b : Bytes) (s : PState) (c : Bool) (hf : 2 * b.length + 1 ≤ f) :
    ∃ k st, JsonIdx.consumeAny qs f b lvl (view s cap c) = .ok (k, st) := by
  have h := (sim_all (qs := qs) (cap := cap) f).1 lvl b s c hf
  generalize JsonIdx.consumeAny qs f b lvl (view s cap c) = out at h ⊢
  generalize Json.consumeAny qs cap f lvl b s = res at h
  obtain ⟨o, s'⟩ := res
  cases o with
  | none => obtain ⟨k, _, ho⟩ := h; exact ⟨_, _, ho⟩
  | some r => obtain ⟨k, _, _, _, _, ho⟩ := h; exact ⟨_, _, ho⟩

theorem view_surjective (p : St) : ∃ s, p = view s p.maxRecursion p.complete :=
  ⟨{ ib := p.ib, currPath := p.currPath, firstToken := p.firstToken, querySatisfied := p.querySatisfied }, rfl⟩

/-! The model computes, and the outcomes `panic` and `fuel` are reachable. -/

section examples
open Mime.Json (tokArray tokObject tokString tokNumber)
open Mime.JsonIdx (parseIdx)

-- `[1,]`
example : parseIdx q_json 4096 [0x5B, 0x31, 0x2C, 0x5D] =
    .ok { parsed := 4, inspected := 4, firstToken := tokArray, querySatisfied := true } := by decide +kernel
-- `{"type":"Point"}` under the geo query
example : parseIdx q_geo 4096 [0x7B, 0x22, 0x74, 0x79, 0x70, 0x65, 0x22, 0x3A, 0x22, 0x50, 0x6F, 0x69, 0x6E, 0x74, 0x22, 0x7D] =
    .ok { parsed := 16, inspected := 16, firstToken := tokObject, querySatisfied := true } := by decide +kernel
-- `{"type":"L"}`: the path matches, the value does not
example : parseIdx q_geo 4096 [0x7B, 0x22, 0x74, 0x79, 0x70, 0x65, 0x22, 0x3A, 0x22, 0x4C, 0x22, 0x7D] =
    .ok { parsed := 12, inspected := 12, firstToken := tokObject, querySatisfied := false } := by decide +kernel
-- the truncated string `"\u12`
example : parseIdx q_json 4096 [0x22, 0x5C, 0x75, 0x31, 0x32] =
    .ok { parsed := 0, inspected := 5, firstToken := tokString, querySatisfied := true } := by decide +kernel
-- `[[1]]` with the recursion cap at 1
example : parseIdx q_json 1 [0x5B, 0x5B, 0x31, 0x5D, 0x5D] =
    .ok { parsed := 0, inspected := 2, firstToken := tokArray, querySatisfied := true } := by decide +kernel
-- `-1.5e+3 `
example : parseIdx q_json 4096 [0x2D, 0x31, 0x2E, 0x35, 0x65, 0x2B, 0x33, 0x20] =
    .ok { parsed := 8, inspected := 8, firstToken := tokNumber, querySatisfied := true } := by decide +kernel
-- the checked primitives do fail, and a function called outside its contract does panic / run dry
example : liftG (elemAt [1, 2] 2) = (.panic : Out Nat) := by decide +kernel
example : liftG (elemAt [1, 2] (-1)) = (.panic : Out Nat) := by decide +kernel
example : liftG (JsonIdx.slice [1, 2] 1 0) = (.panic : Out (List Nat)) := by decide +kernel
example : liftG (sliceFrom [1, 2] 3) = (.panic : Out (List Nat)) := by decide +kernel
example : popPath (St.afterReset 4096) = .panic := by decide +kernel
example : JsonIdx.arrayLoop [] 3 [0x5D] 0 1 (St.afterReset 4096) = .panic := by decide +kernel
example : JsonIdx.consumeAny [] 2 [0x5B, 0x5B, 0x5D, 0x5D] 0 (St.afterReset 4096) = .fuel := by decide +kernel
example : JsonIdx.consumeSpaceLoop 1 [0x20, 0x20] 0 (St.afterReset 4096) = .fuel := by decide +kernel
end examples

end Mime.JsonIdxLemmas
