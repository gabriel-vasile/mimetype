import MimeModel.Lemmas.ZipLayout
/-
  C19 converse clause derived from the zip layout specification (`MimeModel.Spec.Zip`):
  in a clean archive the only occurrences of `PK\x03\x04` are the signatures of the entries, so
  the byte-level "30 bytes after a signature" of `verdict_implies_marker` is the position of an
  entry's name: a positive `zipContains` verdict implies that the marker is the beginning of an
  entry name.
-/
namespace Mime.ZipConverse
open Mime Mime.Spec.Zip Mime.C19Base Mime.ZipLayout

theorem cleanTail_central (r : Bytes) (h : CleanTail r) : CleanTail ([0x50, 0x4B, 0x01, 0x02] ++ r) :=
  ⟨indexOf_append_none _ r (by decide) h.1 h.2, noBorder_central r⟩
theorem cleanTail_end (r : Bytes) (h : CleanTail r) : CleanTail ([0x50, 0x4B, 0x05, 0x06] ++ r) :=
  ⟨indexOf_append_none _ r (by decide) h.1 h.2, noBorder_end r⟩

theorem no_occ_of_clean (s : Bytes) (k : Nat) (h : indexOf pk34 s = none) :
    hasPrefix (s.drop k) pk34 = false := by
  have hd := indexOf_drop_none k s h
  cases hs : s.drop k with
  | nil => decide
  | cons a as =>
    rw [hs] at hd
    exact (indexOf_cons_none hd).1

theorem occ_append (s t : Bytes) (k : Nat) (hs : indexOf pk34 s = none) (hb : NoBorder t)
    (h : hasPrefix ((s ++ t).drop k) pk34 = true) : s.length ≤ k := by
  apply Decidable.byContradiction
  intro hk
  have hk : k < s.length := by omega
  rw [List.drop_append_of_le_length (by omega)] at h
  have hne : s.drop k ≠ [] := by
    intro e
    have := congrArg List.length e
    simp only [List.length_drop, List.length_nil] at this
    omega
  have := straddle_false (s.drop k) t hne (no_occ_of_clean s k hs) hb
  simp only [hasPrefix] at h
  rw [this] at h
  cases h

theorem no_occ_inside_sig (r : Bytes) (k : Nat) (h0 : 0 < k) (h4 : k < 4) :
    hasPrefix ((pk34 ++ r).drop k) pk34 = false := by
  obtain rfl | rfl | rfl : k = 1 ∨ k = 2 ∨ k = 3 := by omega
  all_goals simp [pk34, hasPrefix, List.isPrefixOf]

theorem archive_nil (tail : Bytes) : archive [] tail = tail := by
  simp only [archive, List.map_nil, List.flatten_nil, List.nil_append]

theorem indexOf_last_entry (m : Entry) (tail : Bytes) {so : Nat} (hc : m.Clean) (ht : CleanTail tail)
    (h4 : 4 ≤ so) : indexOf pk34 ((archive [m] tail).drop so) = none := by
  obtain ⟨k, rfl⟩ : ∃ k, so = pk34.length + k := ⟨so - 4, by rw [pk34_length]; omega⟩
  rw [archive_pk34, archive_nil, ← List.drop_drop, List.drop_left]
  exact indexOf_drop_none k _ (indexOf_append_none _ tail hc ht.1 ht.2)

theorem noBorder_archive (es : List Entry) (tail : Bytes) (ht : NoBorder tail) :
    NoBorder (archive es tail) := by
  cases es with
  | nil => rw [archive_nil]; exact ht
  | cons e es => rw [archive_pk34]; exact noBorder_pk34 _

/-- in a clean archive the signature occurs only where an entry starts -/
theorem pk34_occurrences (es : List Entry) (tail : Bytes)
    (hclean : ∀ e ∈ es, e.Clean) (htail : CleanTail tail) :
    ∀ k, hasPrefix ((archive es tail).drop k) pk34 = true →
      ∃ pre e post, es = pre ++ e :: post ∧ k = ((pre.map Entry.image).flatten).length := by
  induction es with
  | nil =>
    intro k hk
    rw [archive_nil, no_occ_of_clean tail k htail.1] at hk
    cases hk
  | cons e es ih =>
    intro k hk
    have hce : indexOf pk34 e.body = none := hclean e (by simp)
    have hnb := noBorder_archive es tail htail.2
    have himg := archive_pk34 e es tail
    by_cases h0 : k = 0
    · exact ⟨[], e, es, rfl, by simp [h0]⟩
    · by_cases h4 : k < 4
      · rw [himg, no_occ_inside_sig _ k (by omega) h4] at hk
        cases hk
      · obtain ⟨j, rfl⟩ : ∃ j, k = pk34.length + j := ⟨k - 4, by rw [pk34_length]; omega⟩
        rw [himg, ← List.drop_drop, List.drop_left] at hk
        have hj := occ_append e.body (archive es tail) j hce hnb hk
        obtain ⟨m, rfl⟩ : ∃ m, j = e.body.length + m := ⟨j - e.body.length, by omega⟩
        rw [← List.drop_drop, List.drop_left] at hk
        obtain ⟨pre, e', post, hes, hm⟩ := ih (fun x hx => hclean x (List.mem_cons_of_mem _ hx)) m hk
        refine ⟨e :: pre, e', post, by rw [hes]; rfl, ?_⟩
        simp only [List.map_cons, List.flatten_cons, List.length_append, Entry.image, ← hm]
        omega

theorem pk34_occurrences_iff (es : List Entry) (tail : Bytes)
    (hclean : ∀ e ∈ es, e.Clean) (htail : CleanTail tail) (k : Nat) :
    hasPrefix ((archive es tail).drop k) pk34 = true ↔
      ∃ pre e post, es = pre ++ e :: post ∧ k = ((pre.map Entry.image).flatten).length := by
  refine ⟨pk34_occurrences es tail hclean htail k, ?_⟩
  rintro ⟨pre, e, post, rfl, rfl⟩
  rw [archive_append, List.drop_left]
  exact archive_hasPrefix_pk34 e post tail

/-- a positive verdict on a clean archive shows the marker at the name position of an entry: the
    bytes there are its name, extra field, data and descriptor, then the following entries -/
theorem layout_converse (es : List Entry) (tail sig : Bytes) (mso : Bool)
    (hwf : ∀ e ∈ es, e.WF) (hclean : ∀ e ∈ es, e.Clean) (htail : CleanTail tail)
    (h : zipContains (archive es tail) sig mso = some true) :
    ∃ pre e post, es = pre ++ e :: post ∧
      hasPrefix (e.name ++ (e.extra ++ e.data ++ e.desc ++ archive post tail)) sig = true := by
  obtain ⟨k, hk, hpos⟩ := verdict_implies_marker _ sig mso h
  rcases hpos with rfl | ⟨h30, hpk⟩
  · cases es with
    | nil =>
      -- an archive without entries does not start with a local file header: no verdict
      have hp := (zipContains_true _ sig mso h).2.1
      rw [archive_nil] at hp
      have := no_occ_of_clean tail 0 htail.1
      rw [List.drop_zero, hp] at this
      cases this
    | cons e es =>
      refine ⟨[], e, es, rfl, ?_⟩
      rw [archive_cons, drop_image_name e _ (hwf e (by simp)).1] at hk
      exact hk
  · obtain ⟨pre, e, post, rfl, hlen⟩ := pk34_occurrences es tail hclean htail _ hpk
    refine ⟨pre, e, post, rfl, ?_⟩
    have hk' : k = ((pre.map Entry.image).flatten).length + 30 := by omega
    rw [archive_append, archive_cons, hk', ← List.drop_drop, List.drop_left,
      drop_image_name e _ (hwf e (by simp)).1] at hk
    exact hk

def ProperPrefix (n sig : Bytes) : Prop := n.length < sig.length ∧ hasPrefix sig n = true

instance (n sig : Bytes) : Decidable (ProperPrefix n sig) := by unfold ProperPrefix; infer_instance

/-- the walk compares the marker with the bytes from the name on, past the end of a shorter name;
    `ProperPrefix` excludes exactly that -/
theorem marker_in_name {n rest : Bytes} (sig : Bytes) (hn : ¬ ProperPrefix n sig)
    (h : hasPrefix (n ++ rest) sig = true) : hasPrefix n sig = true := by
  rw [hasPrefix_iff] at h ⊢
  by_cases hl : sig.length ≤ n.length
  · exact List.prefix_of_prefix_length_le h (List.prefix_append n rest) hl
  · exfalso
    apply hn
    refine ⟨by omega, ?_⟩
    rw [hasPrefix_iff]
    exact List.prefix_of_prefix_length_le (List.prefix_append n rest) h (by omega)

theorem layout_converse_name (es : List Entry) (tail sig : Bytes) (mso : Bool)
    (hwf : ∀ e ∈ es, e.WF) (hclean : ∀ e ∈ es, e.Clean) (htail : CleanTail tail)
    (hshort : ∀ e ∈ es, ¬ ProperPrefix e.name sig)
    (h : zipContains (archive es tail) sig mso = some true) :
    ∃ e ∈ es, hasPrefix e.name sig = true := by
  obtain ⟨pre, e, post, rfl, hp⟩ := layout_converse es tail sig mso hwf hclean htail h
  exact ⟨e, by simp, marker_in_name sig (hshort e (by simp)) hp⟩

theorem layout_converse_name_of_long (es : List Entry) (tail sig : Bytes) (mso : Bool)
    (hwf : ∀ e ∈ es, e.WF) (hclean : ∀ e ∈ es, e.Clean) (htail : CleanTail tail)
    (hlong : ∀ e ∈ es, sig.length ≤ e.name.length)
    (h : zipContains (archive es tail) sig mso = some true) :
    ∃ e ∈ es, hasPrefix e.name sig = true :=
  layout_converse_name es tail sig mso hwf hclean htail
    (fun e he hp => by have := hlong e he; have := hp.1; omega) h

theorem no_marker_plain_zip (es : List Entry) (tail sig : Bytes) (mso : Bool)
    (hwf : ∀ e ∈ es, e.WF) (hclean : ∀ e ∈ es, e.Clean) (htail : CleanTail tail)
    (hshort : ∀ e ∈ es, ¬ ProperPrefix e.name sig)
    (hno : ∀ e ∈ es, hasPrefix e.name sig = false) :
    zipContains (archive es tail) sig mso = some false := by
  obtain ⟨v, hv⟩ := zipContains_total (archive es tail) sig mso
  cases v with
  | false => exact hv
  | true =>
    obtain ⟨e, he, hp⟩ := layout_converse_name es tail sig mso hwf hclean htail hshort hv
    rw [hno e he] at hp
    cases hp

theorem no_marker_plain_zip' (es : List Entry) (tail sig : Bytes) (mso : Bool)
    (hwf : ∀ e ∈ es, e.WF) (hclean : ∀ e ∈ es, e.Clean) (htail : CleanTail tail)
    (hno : ∀ e ∈ es, hasPrefix e.name sig = false ∧ hasPrefix sig e.name = false) :
    zipContains (archive es tail) sig mso = some false :=
  no_marker_plain_zip es tail sig mso hwf hclean htail
    (fun e he hp => by have := hp.2; rw [(hno e he).2] at this; cases this) (fun e he => (hno e he).1)

theorem exTail_clean : CleanTail exTail := by decide +kernel

/-- `[Content_Types].xml, _rels/.rels, word/document.xml` + central directory stand-in: all
    hypotheses of `layout_converse_name` hold (marker `word/`, mso check on), and the conclusion
    is witnessed by entry 3 -/
example : ∃ e ∈ [ex1, ex2, ex4], hasPrefix e.name exWord = true :=
  layout_converse_name [ex1, ex2, ex4] exTail exWord true
    (by decide +kernel) (by decide +kernel) exTail_clean (by decide +kernel)
    (by decide +kernel)

example : hasPrefix ex4.name exWord = true := by decide

/-- the signature occurs at offsets 0, 54 and 115 of that archive (240 bytes) — the starts of the
    three entries — and nowhere else -/
example : (List.range 240).filter (fun k => hasPrefix ((archive [ex1, ex2, ex4] exTail).drop k) pk34)
    = [0, 54, 115] := by
  rw [show 240 = (archive [ex1, ex2, ex4] exTail).length by decide +kernel, filter_range_occurrences]
  decide +kernel

example : CleanTail exTail := exTail_clean

/-- an archive without the marker: the hypotheses of `no_marker_plain_zip` hold, the verdict is
    `some false` … -/
example : zipContains (archive [ex1, ex2, ex3] exTail) exWord true = some false :=
  no_marker_plain_zip [ex1, ex2, ex3] exTail exWord true
    (by decide +kernel) (by decide +kernel) exTail_clean (by decide +kernel)
    (by decide +kernel)

/-- … which direct evaluation of the model confirms -/
example : zipContains (archive [ex1, ex2, ex3] exTail) exWord true = some false := by decide +kernel

/-- an entry named `wo` whose stored data starts with `rd/` -/
def exWo : Entry := ⟨exFixed 20 2, [119, 111], [], [114, 100, 47] ++ List.replicate 17 120, []⟩

/-- **`hshort` is needed**: `[Content_Types].xml`, then an entry named `wo` whose data starts with
    `rd/`: well-formed, clean, clean tail — a docx verdict, and no name starts with `word/` -/
example : (∀ e ∈ [ex1, exWo, ex3], e.WF) ∧ (∀ e ∈ [ex1, exWo, ex3], e.Clean) ∧ CleanTail exTail ∧
    zipContains (archive [ex1, exWo, ex3] exTail) exWord true = some true ∧
    (∀ e ∈ [ex1, exWo, ex3], hasPrefix e.name exWord = false) ∧
    ProperPrefix exWo.name exWord := by decide +kernel

/-- archives without entries: an empty archive (end record only) whose comment shows `word/` at
    offset 30 has no entry name, and gets no docx verdict: `zipContains` requires a local file
    header at offset 0 (known_findings.txt, C19: empty archive with a comment); `zipWalk` alone would answer `some true` -/
example : CleanTail ([0x50, 0x4B, 5, 6] ++ List.replicate 16 0 ++ [13, 0] ++ List.replicate 8 32 ++ exWord) ∧
    zipContains (archive [] ([0x50, 0x4B, 5, 6] ++ List.replicate 16 0 ++ [13, 0] ++ List.replicate 8 32 ++ exWord))
      exWord false = some false ∧
    zipWalk (archive [] ([0x50, 0x4B, 5, 6] ++ List.replicate 16 0 ++ [13, 0] ++ List.replicate 8 32 ++ exWord))
      exWord false = some true := by decide +kernel

/-- a stored entry `a.zip` whose data embeds (after 30 bytes) a local header named `word/…` -/
def exInner : Entry := ⟨exFixed 0 5, [97, 46, 122, 105, 112], [], List.replicate 30 120 ++ ex4.image, []⟩

/-- **cleanliness is needed**: a zip stored inside a zip gets the verdict of the inner archive,
    with no `word/` among its own entry names -/
example : (∀ e ∈ [ex1, exInner], e.WF) ∧ CleanTail exTail ∧
    zipContains (archive [ex1, exInner] exTail) exWord true = some true ∧
    (∀ e ∈ [ex1, exInner], hasPrefix e.name exWord = false ∧ ¬ ProperPrefix e.name exWord) ∧
    ¬ exInner.Clean := by decide +kernel

end Mime.ZipConverse
