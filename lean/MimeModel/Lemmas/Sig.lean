import MimeModel.Model.Sig
import MimeModel.Lemmas.Bytes
/-
  Soundness of the static analyses of `Model/Sig.lean`.
-/
namespace Mime

theorem IExp.eval_total {a : IExp} {L : Nat} {raw : Bytes} (hs : a.safe L = true) (hL : L ≤ raw.length) :
    ∃ v, a.eval raw = some v := by
  induction a with
  | lit n => exact ⟨_, rfl⟩
  | byte i =>
    simp only [IExp.safe, decide_eq_true_eq] at hs
    have : i < raw.length := by omega
    simp only [IExp.eval, if_pos this]; exact ⟨_, rfl⟩
  | u16be o need | u16le o need | u32be o need | u32le o need =>
    simp only [IExp.safe, Bool.and_eq_true, decide_eq_true_eq] at hs
    simp only [IExp.eval]
    rw [if_pos ⟨by omega, by omega⟩]; exact ⟨_, rfl⟩
  | band a m ih =>
    simp only [IExp.safe] at hs
    obtain ⟨v, hv⟩ := ih hs
    simp only [IExp.eval, hv]; exact ⟨_, rfl⟩

/-- the shape shared by the four multi-byte reads of `IExp.eval`: a value `f` of the bytes below `o + n`,
    guarded by two length tests -/
theorem guarded_append {f : Bytes → Nat} {p s : Bytes} {o n need v : Nat}
    (hf : o + n ≤ p.length → f (p ++ s) = f p)
    (h : (if o + n ≤ p.length ∧ need ≤ p.length then some (f p) else none) = some v) :
    (if o + n ≤ (p ++ s).length ∧ need ≤ (p ++ s).length then some (f (p ++ s)) else none) = some v := by
  split at h
  · rename_i hi
    rw [if_pos (by rw [List.length_append]; omega), hf hi.1]
    exact h
  · cases h

theorem IExp.eval_append {a : IExp} {p : Bytes} {v : Nat} (s : Bytes) (h : a.eval p = some v) :
    a.eval (p ++ s) = some v := by
  induction a generalizing v with
  | lit n => exact h
  | byte i =>
    simp only [IExp.eval] at h ⊢
    split at h
    · rename_i hi
      rw [if_pos (by rw [List.length_append]; omega), getD_append_left p s i hi]; exact h
    · cases h
  | u16be o need => exact guarded_append (f := (Mime.u16be · o)) (fun hi => (u16_append p s o hi).1) h
  | u16le o need => exact guarded_append (f := (Mime.u16le · o)) (fun hi => (u16_append p s o hi).2) h
  | u32be o need => exact guarded_append (f := (Mime.u32be · o)) (fun hi => (u32_append p s o hi).1) h
  | u32le o need => exact guarded_append (f := (Mime.u32le · o)) (fun hi => (u32_append p s o hi).2) h
  | band a m ih =>
    simp only [IExp.eval] at h ⊢
    cases ha : a.eval p with
    | none => simp [ha] at h
    | some w =>
      rw [ih ha]
      simpa [ha] using h

theorem BExp.eval_and_true {a b : BExp} {r : Bytes} :
    (BExp.and a b).eval r = some true ↔ a.eval r = some true ∧ b.eval r = some true := by
  simp only [BExp.eval]
  cases a.eval r with
  | none => simp
  | some x => cases x <;> simp

theorem BExp.eval_and_false {a b : BExp} {r : Bytes} :
    (BExp.and a b).eval r = some false ↔ a.eval r = some false ∨ a.eval r = some true ∧ b.eval r = some false := by
  simp only [BExp.eval]
  cases a.eval r with
  | none => simp
  | some x => cases x <;> simp

theorem BExp.eval_or_true {a b : BExp} {r : Bytes} :
    (BExp.or a b).eval r = some true ↔ a.eval r = some true ∨ a.eval r = some false ∧ b.eval r = some true := by
  simp only [BExp.eval]
  cases a.eval r with
  | none => simp
  | some x => cases x <;> simp

theorem BExp.eval_or_false {a b : BExp} {r : Bytes} :
    (BExp.or a b).eval r = some false ↔ a.eval r = some false ∧ b.eval r = some false := by
  simp only [BExp.eval]
  cases a.eval r with
  | none => simp
  | some x => cases x <;> simp

theorem BExp.eval_not {a : BExp} {r : Bytes} {v : Bool} : (BExp.not a).eval r = some v ↔ a.eval r = some (!v) := by
  simp only [BExp.eval]
  cases a.eval r with
  | none => simp
  | some x => cases x <;> cases v <;> simp

theorem BExp.eval_ite {c t e : BExp} {r : Bytes} {v : Bool} : (BExp.ite c t e).eval r = some v ↔
    c.eval r = some true ∧ t.eval r = some v ∨ c.eval r = some false ∧ e.eval r = some v := by
  simp only [BExp.eval]
  cases c.eval r with
  | none => simp
  | some x => cases x <;> simp

theorem BExp.lb_sound (e : BExp) : ∀ (L : Nat) (raw : Bytes), L ≤ raw.length →
    (e.eval raw = some true → e.lbT L ≤ raw.length) ∧
    (e.eval raw = some false → e.lbF L ≤ raw.length) := by
  induction e with
  | lenGe k =>
    intro L raw hL
    refine ⟨fun h => ?_, fun _ => by simpa only [BExp.lbF] using hL⟩
    simp only [BExp.eval, Option.some.injEq, decide_eq_true_eq] at h
    simp only [BExp.lbT]; omega
  | and a b iha ihb =>
    intro L raw hL
    refine ⟨fun h => ?_, fun _ => by simpa only [BExp.lbF] using hL⟩
    rw [BExp.eval_and_true] at h
    simp only [BExp.lbT]
    exact (ihb _ raw ((iha L raw hL).1 h.1)).1 h.2
  | or a b iha ihb =>
    intro L raw hL
    refine ⟨fun _ => by simpa only [BExp.lbT] using hL, fun h => ?_⟩
    rw [BExp.eval_or_false] at h
    simp only [BExp.lbF]
    exact (ihb _ raw ((iha L raw hL).2 h.1)).2 h.2
  | not a iha =>
    intro L raw hL
    simp only [BExp.eval_not, BExp.lbT, BExp.lbF]
    exact ⟨(iha L raw hL).2, (iha L raw hL).1⟩
  | const _ | cmp _ _ _ | prefixAt _ _ | equalAt _ _ _ | containsUpTo _ _ _ | containsAll _
  | equalAll _ | prim _ | ite _ _ _ =>
    intro L raw hL
    exact ⟨fun _ => by simpa [BExp.lbT] using hL, fun _ => by simpa [BExp.lbF] using hL⟩

theorem Prim.eval_total (p : Prim) (raw : Bytes) : ∃ v, p.eval raw = some v := by
  cases p with
  | oleClsid c => exact oleClsid_total raw c
  | zipContains s m => exact zipContains_total raw s m

/-- **Safety**: a statically safe expression never reaches a failing index/slice. -/
theorem BExp.safe_sound (e : BExp) : ∀ (L : Nat) (raw : Bytes), e.safe L = true → L ≤ raw.length →
    ∃ v, e.eval raw = some v := by
  induction e with
  | const b => intro _ _ _ _; exact ⟨_, rfl⟩
  | lenGe k => intro _ _ _ _; exact ⟨_, rfl⟩
  | cmp op a b =>
    intro L raw hs hL
    simp only [BExp.safe, Bool.and_eq_true] at hs
    obtain ⟨x, hx⟩ := IExp.eval_total hs.1 hL
    obtain ⟨y, hy⟩ := IExp.eval_total hs.2 hL
    simp only [BExp.eval, hx, hy]; exact ⟨_, rfl⟩
  | prefixAt off sig =>
    intro L raw hs hL
    simp only [BExp.safe, decide_eq_true_eq] at hs
    have : off ≤ raw.length := by omega
    simp only [BExp.eval, if_pos this]; exact ⟨_, rfl⟩
  | equalAt lo hi sig =>
    intro L raw hs hL
    simp only [BExp.safe, Bool.and_eq_true, decide_eq_true_eq] at hs
    have : lo ≤ hi ∧ hi ≤ raw.length := ⟨hs.1, by omega⟩
    exact ⟨_, by simp only [BExp.eval]; rw [if_pos this]⟩
  | containsUpTo lo cap sig =>
    intro L raw hs hL
    simp only [BExp.safe, Bool.and_eq_true, decide_eq_true_eq] at hs
    have : lo ≤ min cap raw.length := by omega
    exact ⟨_, by simp only [BExp.eval]; rw [if_pos this]⟩
  | containsAll sig => intro _ _ _ _; exact ⟨_, rfl⟩
  | equalAll sig => intro _ _ _ _; exact ⟨_, rfl⟩
  | prim p => intro _ raw _ _; exact Prim.eval_total p raw
  | and a b iha ihb =>
    intro L raw hs hL
    simp only [BExp.safe, Bool.and_eq_true] at hs
    obtain ⟨va, hva⟩ := iha L raw hs.1 hL
    cases va with
    | false => exact ⟨false, by simp [BExp.eval, hva]⟩
    | true =>
      obtain ⟨vb, hvb⟩ := ihb _ raw hs.2 ((BExp.lb_sound a L raw hL).1 hva)
      exact ⟨vb, by simp [BExp.eval, hva, hvb]⟩
  | or a b iha ihb =>
    intro L raw hs hL
    simp only [BExp.safe, Bool.and_eq_true] at hs
    obtain ⟨va, hva⟩ := iha L raw hs.1 hL
    cases va with
    | true => exact ⟨true, by simp [BExp.eval, hva]⟩
    | false =>
      obtain ⟨vb, hvb⟩ := ihb _ raw hs.2 ((BExp.lb_sound a L raw hL).2 hva)
      exact ⟨vb, by simp [BExp.eval, hva, hvb]⟩
  | not a iha =>
    intro L raw hs hL
    simp only [BExp.safe] at hs
    obtain ⟨va, hva⟩ := iha L raw hs hL
    exact ⟨!va, by simp [BExp.eval, hva]⟩
  | ite c t e ihc iht ihe =>
    intro L raw hs hL
    simp only [BExp.safe, Bool.and_eq_true] at hs
    obtain ⟨vc, hvc⟩ := ihc L raw hs.1.1 hL
    cases vc with
    | true =>
      obtain ⟨vt, hvt⟩ := iht _ raw hs.1.2 ((BExp.lb_sound c L raw hL).1 hvc)
      exact ⟨vt, by simp [BExp.eval, hvc, hvt]⟩
    | false =>
      obtain ⟨ve, hve⟩ := ihe _ raw hs.2 ((BExp.lb_sound c L raw hL).2 hvc)
      exact ⟨ve, by simp [BExp.eval, hvc, hve]⟩

/-- **Monotonicity**: for statically safe expressions, verdicts flagged by `pT` / `pF`
    are preserved when the input is extended by any suffix. -/
theorem BExp.preserve (e : BExp) : ∀ (L : Nat) (p s : Bytes), e.safe L = true → L ≤ p.length →
    (e.pT = true → e.eval p = some true → e.eval (p ++ s) = some true) ∧
    (e.pF = true → e.eval p = some false → e.eval (p ++ s) = some false) := by
  induction e with
  | const b =>
    intro L p s _ _
    exact ⟨fun _ h => h, fun _ h => h⟩
  | lenGe k =>
    intro L p s _ _
    constructor
    · intro _ h
      simp only [BExp.eval, Option.some.injEq, decide_eq_true_eq] at h ⊢
      simp; omega
    · intro h; simp [BExp.pF] at h
  | cmp op a b =>
    intro L p s _ _
    have key : ∀ v, (BExp.cmp op a b).eval p = some v → (BExp.cmp op a b).eval (p ++ s) = some v := by
      intro v h
      simp only [BExp.eval] at h ⊢
      cases ha : a.eval p with
      | none => simp [ha] at h
      | some x =>
        cases hb : b.eval p with
        | none => simp [ha, hb] at h
        | some y =>
          rw [IExp.eval_append s ha, IExp.eval_append s hb]
          simpa [ha, hb] using h
    exact ⟨fun _ => key true, fun _ => key false⟩
  | prefixAt off sig =>
    intro L p s _ _
    constructor
    · intro _ h
      simp only [BExp.eval] at h ⊢
      split at h
      · rename_i ho
        have : off ≤ (p ++ s).length := by simp; omega
        simp only [this, ↓reduceIte, Option.some.injEq] at h ⊢
        rw [List.drop_append_of_le_length ho]
        exact hasPrefix_append s h
      · cases h
    · intro h; simp [BExp.pF] at h
  | equalAt lo hi sig =>
    intro L p s _ _
    have key : ∀ v, (BExp.equalAt lo hi sig).eval p = some v → (BExp.equalAt lo hi sig).eval (p ++ s) = some v := by
      intro v h
      simp only [BExp.eval] at h ⊢
      split at h
      · rename_i ho
        have : lo ≤ hi ∧ hi ≤ (p ++ s).length := ⟨ho.1, by simp; omega⟩
        rw [if_pos this, slice_append_left p s lo hi ho.2]
        exact h
      · cases h
    exact ⟨fun _ => key true, fun _ => key false⟩
  | containsUpTo lo cap sig =>
    intro L p s _ _
    constructor
    · intro _ h
      simp only [BExp.eval] at h ⊢
      split at h
      · rename_i ho
        have h1 : lo ≤ min cap (p ++ s).length := by simp; omega
        rw [if_pos h1]
        simp only [Option.some.injEq] at h ⊢
        obtain ⟨t, hw⟩ := slice_window p s lo cap ho
        rw [hw]
        exact containsSub_append _ _ _ h
      · cases h
    · intro h; simp [BExp.pF] at h
  | containsAll sig =>
    intro L p s _ _
    constructor
    · intro _ h
      simp only [BExp.eval, Option.some.injEq] at h ⊢
      exact containsSub_append _ _ _ h
    · intro h; simp [BExp.pF] at h
  | equalAll sig =>
    intro L p s _ _
    exact ⟨fun h => by simp [BExp.pT] at h, fun h => by simp [BExp.pF] at h⟩
  | prim q =>
    intro L p s _ _
    exact ⟨fun h => by simp [BExp.pT] at h, fun h => by simp [BExp.pF] at h⟩
  | and a b iha ihb =>
    intro L p s hs hL
    simp only [BExp.safe, Bool.and_eq_true] at hs
    have lb := (BExp.lb_sound a L p hL).1
    constructor
    · intro hp h
      simp only [BExp.pT, Bool.and_eq_true] at hp
      rw [BExp.eval_and_true] at h ⊢
      exact ⟨(iha L p s hs.1 hL).1 hp.1 h.1, (ihb _ p s hs.2 (lb h.1)).1 hp.2 h.2⟩
    · intro hp h
      simp only [BExp.pF, Bool.and_eq_true] at hp
      rw [BExp.eval_and_false] at h ⊢
      rcases h with h | h
      · exact Or.inl ((iha L p s hs.1 hL).2 hp.1 h)
      · -- `a` may turn false on the longer input; if not, `b` stays false
        obtain ⟨w, hw⟩ := BExp.safe_sound a L (p ++ s) hs.1 (by rw [List.length_append]; omega)
        cases w with
        | false => exact Or.inl hw
        | true => exact Or.inr ⟨hw, (ihb _ p s hs.2 (lb h.1)).2 hp.2 h.2⟩
  | or a b iha ihb =>
    intro L p s hs hL
    simp only [BExp.safe, Bool.and_eq_true] at hs
    have lb := (BExp.lb_sound a L p hL).2
    constructor
    · intro hp h
      simp only [BExp.pT, Bool.and_eq_true] at hp
      rw [BExp.eval_or_true] at h ⊢
      rcases h with h | h
      · exact Or.inl ((iha L p s hs.1 hL).1 hp.1 h)
      · obtain ⟨w, hw⟩ := BExp.safe_sound a L (p ++ s) hs.1 (by rw [List.length_append]; omega)
        cases w with
        | true => exact Or.inl hw
        | false => exact Or.inr ⟨hw, (ihb _ p s hs.2 (lb h.1)).1 hp.2 h.2⟩
    · intro hp h
      simp only [BExp.pF, Bool.and_eq_true] at hp
      rw [BExp.eval_or_false] at h ⊢
      exact ⟨(iha L p s hs.1 hL).2 hp.1 h.1, (ihb _ p s hs.2 (lb h.1)).2 hp.2 h.2⟩
  | not a iha =>
    intro L p s hs hL
    simp only [BExp.eval_not]
    exact ⟨(iha L p s hs hL).2, (iha L p s hs hL).1⟩
  | ite c t e ihc iht ihe =>
    intro L p s hs hL
    simp only [BExp.safe, Bool.and_eq_true] at hs
    have lb := BExp.lb_sound c L p hL
    constructor
    · intro hp h
      simp only [BExp.pT, Bool.and_eq_true] at hp
      rw [BExp.eval_ite] at h ⊢
      rcases h with h | h
      · exact Or.inl ⟨(ihc L p s hs.1.1 hL).1 hp.1.1.1 h.1, (iht _ p s hs.1.2 (lb.1 h.1)).1 hp.1.2 h.2⟩
      · exact Or.inr ⟨(ihc L p s hs.1.1 hL).2 hp.1.1.2 h.1, (ihe _ p s hs.2 (lb.2 h.1)).1 hp.2 h.2⟩
    · intro hp h
      simp only [BExp.pF, Bool.and_eq_true] at hp
      rw [BExp.eval_ite] at h ⊢
      rcases h with h | h
      · exact Or.inl ⟨(ihc L p s hs.1.1 hL).1 hp.1.1.1 h.1, (iht _ p s hs.1.2 (lb.1 h.1)).2 hp.1.2 h.2⟩
      · exact Or.inr ⟨(ihc L p s hs.1.1 hL).2 hp.1.1.2 h.1, (ihe _ p s hs.2 (lb.2 h.1)).2 hp.2 h.2⟩

end Mime
