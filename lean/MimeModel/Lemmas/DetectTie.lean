import MimeModel.Model.Sync
import MimeModel.Gen.Sync
/-
  Regenerated obligation shared by every property whose statement runs through `Detect` /
  `DetectReader` with a limit: the limit is loaded exactly once, atomically, per detection, so
  the bytes are cut with the same value that is handed to the detectors (the model's `detect`
  has a single `lim`).  A second load, or a plain read of the variable, breaks this tie.
-/
namespace Mime.DetectTie
open Mime Mime.Sync

def SingleLimit : Prop :=
    (["Detect", "DetectReader"].all fun n =>
      match Gen.Sync.progs.lookup n with
      | some evs =>
        (evs.filter (fun e => e == .atomicLoadLimit)).length == 1 &&
        !(evs.any (fun e => e == .plainReadLimit || e == .plainWriteLimit))
      | none => false) = true ∧
    -- the walk and the result construction never look at the variable again: they work with the
    -- value they were handed
    (["MIME.match", "MIME.clone", "MIME.cloneHierarchy", "MIME.lookup", "MIME.flatten"].all fun n =>
      match Gen.Sync.progs.lookup n with
      | some evs => !(evs.any (fun e => e == .atomicLoadLimit || e == .atomicStoreLimit ||
          e == .plainReadLimit || e == .plainWriteLimit))
      | none => false) = true

theorem single_limit : SingleLimit := by
  unfold SingleLimit
  exact ⟨by decide +kernel, by decide +kernel⟩

end Mime.DetectTie
