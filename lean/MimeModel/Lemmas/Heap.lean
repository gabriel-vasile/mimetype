import MimeModel.Model.Heap
import MimeModel.Model.Detect
import MimeModel.Lemmas.Tree
import MimeModel.Lemmas.TreeLookup
import MimeModel.Props.C03
/-
  The pointer-level model of the detector tree (`Model/Heap.lean`) refines the inductive-tree
  model (`Model/Tree.lean`, `Model/Detect.lean`).
-/
namespace Mime.HeapLemmas
open Mime Mime.Tree Mime.Heap
variable {α : Type}

theorem lt_of_getElem? {h : Heap α} {x : Nat} {n : Node α} (hx : h[x]? = some n) : x < h.length :=
  (List.getElem?_eq_some_iff.mp hx).1

theorem getElem?_append_of_some {h : Heap α} {x : Ptr} {n : Node α} (k : Heap α) (hx : h[x]? = some n) :
    (h ++ k)[x]? = some n := by
  rw [List.getElem?_append_left (lt_of_getElem? hx)]; exact hx

theorem setParent_length (h : Heap α) (c : Ptr) (p : Option Ptr) : (setParent h c p).length = h.length := by
  unfold setParent; split <;> simp

theorem setParent_ne (h : Heap α) (c : Ptr) (p : Option Ptr) (x : Ptr) (hx : x ≠ c) :
    (setParent h c p)[x]? = h[x]? := by
  unfold setParent; split
  · rfl
  · exact List.getElem?_set_ne (Ne.symm hx)

theorem setParent_self {h : Heap α} {c : Ptr} {n : Node α} (p : Option Ptr) (hc : h[c]? = some n) :
    (setParent h c p)[c]? = some { n with parent := p } := by
  unfold setParent; rw [hc]; simp only
  exact List.getElem?_set_self (lt_of_getElem? hc)

theorem setParent_append_right (g e : Heap α) (x : Ptr) (p : Option Ptr) (hx : g.length ≤ x) :
    setParent (g ++ e) x p = g ++ setParent e (x - g.length) p := by
  unfold setParent
  rw [List.getElem?_append_right hx]
  cases e[x - g.length]? with
  | none => rfl
  | some n => simp only; rw [List.set_append_right _ _ hx]

theorem setParents_length (p : Option Ptr) (cs : List Ptr) :
    ∀ h : Heap α, (setParents h p cs).length = h.length := by
  induction cs with
  | nil => exact fun _ => rfl
  | cons c cs ih => exact fun h => (ih _).trans (setParent_length h c p)

theorem setParents_notMem (p : Option Ptr) (x : Ptr) (cs : List Ptr) :
    ∀ h : Heap α, x ∉ cs → (setParents h p cs)[x]? = h[x]? := by
  induction cs with
  | nil => exact fun _ _ => rfl
  | cons c cs ih =>
    exact fun h hx => (ih _ (fun hm => hx (List.mem_cons_of_mem _ hm))).trans
      (setParent_ne h c p x (fun he => hx (he ▸ List.mem_cons_self ..)))

theorem repF_node {h : Heap α} {p : Ptr} {par : Option Ptr} {a : α} {ts : List (Tree α)} {fp : List Ptr} :
    RepF h p par (.node a ts) fp ↔
      ∃ cps fps, h[p]? = some ⟨a, par, cps⟩ ∧ RepListF h (some p) cps ts fps ∧ p ∉ fps ∧ fp = p :: fps :=
  Iff.rfl

theorem repListF_nil {h : Heap α} {par : Option Ptr} {cps : List Ptr} {fp : List Ptr} :
    RepListF h par cps [] fp ↔ cps = [] ∧ fp = [] :=
  Iff.rfl

theorem repListF_cons {h : Heap α} {par : Option Ptr} {cps : List Ptr} {t : Tree α} {ts : List (Tree α)}
    {fp : List Ptr} :
    RepListF h par cps (t :: ts) fp ↔
      ∃ c cs fp1 fp2, cps = c :: cs ∧ RepF h c par t fp1 ∧ RepListF h par cs ts fp2 ∧
        (∀ x ∈ fp1, x ∉ fp2) ∧ fp = fp1 ++ fp2 :=
  Iff.rfl

/-- `RepF` and `RepListF`, defined by recursion over the tree, read as a pair of inductive predicates:
    `P` holds of every represented tree and `Q` of every represented forest once it is shown for a
    node over a forest, for the empty forest and for a tree in front of a forest -/
theorem rep_induction {h : Heap α} {P : Ptr → Option Ptr → Tree α → List Ptr → Prop}
    {Q : Option Ptr → List Ptr → List (Tree α) → List Ptr → Prop}
    (node : ∀ {p par a ts cps fps}, h[p]? = some ⟨a, par, cps⟩ → RepListF h (some p) cps ts fps → p ∉ fps →
      Q (some p) cps ts fps → P p par (.node a ts) (p :: fps))
    (nil : ∀ {par}, Q par [] [] [])
    (cons : ∀ {par c cs t ts fp1 fp2}, RepF h c par t fp1 → RepListF h par cs ts fp2 → (∀ x ∈ fp1, x ∉ fp2) →
      P c par t fp1 → Q par cs ts fp2 → Q par (c :: cs) (t :: ts) (fp1 ++ fp2)) :
    (∀ {t p par fp}, RepF h p par t fp → P p par t fp) ∧
    (∀ {ts par cps fp}, RepListF h par cps ts fp → Q par cps ts fp) := by
  have key := tree_forest_induction (P := fun t => ∀ {p par fp}, RepF h p par t fp → P p par t fp)
    (Q := fun ts => ∀ {par cps fp}, RepListF h par cps ts fp → Q par cps ts fp) ?_ ?_ ?_
  · exact ⟨fun {t} => key.1 t, fun {ts} => key.2 ts⟩
  · intro a ts ih p par fp hr
    obtain ⟨cps, fps, hp, hl, hn, rfl⟩ := repF_node.mp hr
    exact node hp hl hn (ih hl)
  · intro par cps fp hr
    obtain ⟨rfl, rfl⟩ := repListF_nil.mp hr
    exact nil
  · intro t ts iht ihts par cps fp hr
    obtain ⟨c, cs, fp1, fp2, rfl, h1, h2, hd, rfl⟩ := repListF_cons.mp hr
    exact cons h1 h2 hd (iht h1) (ihts h2)

theorem rep_lt {h : Heap α} :
    (∀ {t p par fp}, RepF h p par t fp → ∀ x : Nat, x ∈ fp → x < h.length) ∧
    (∀ {ts par cps fp}, RepListF h par cps ts fp → ∀ x : Nat, x ∈ fp → x < h.length) :=
  rep_induction
    (fun hp _ _ ih x hx => (List.mem_cons.mp hx).elim (fun e => e ▸ lt_of_getElem? hp) (ih x))
    (fun _ hx => nomatch hx)
    (fun _ _ _ ih1 ih2 x hx => (List.mem_append.mp hx).elim (ih1 x) (ih2 x))

theorem rep_frame {h h' : Heap α} :
    (∀ {t p par fp}, RepF h p par t fp → (∀ x ∈ fp, h'[x]? = h[x]?) → RepF h' p par t fp) ∧
    (∀ {ts par cps fp}, RepListF h par cps ts fp → (∀ x ∈ fp, h'[x]? = h[x]?) → RepListF h' par cps ts fp) :=
  rep_induction
    (fun hp _ hn ih hf => repF_node.mpr ⟨_, _, (hf _ (List.mem_cons_self ..)).trans hp,
      ih (fun x hx => hf x (List.mem_cons_of_mem _ hx)), hn, rfl⟩)
    (fun _ => repListF_nil.mpr ⟨rfl, rfl⟩)
    (fun _ _ hd ih1 ih2 hf => repListF_cons.mpr ⟨_, _, _, _, rfl, ih1 (fun x hx => hf x (List.mem_append_left _ hx)),
      ih2 (fun x hx => hf x (List.mem_append_right _ hx)), hd, rfl⟩)

theorem repF_append {h : Heap α} (k : Heap α) {t : Tree α} {p : Ptr} {par : Option Ptr} {fp : List Ptr}
    (hr : RepF h p par t fp) : RepF (h ++ k) p par t fp :=
  rep_frame.1 hr (fun x hx => List.getElem?_append_left (rep_lt.1 hr x hx))

theorem rep_roots {h : Heap α} :
    (∀ {t p par fp}, RepF h p par t fp → p ∈ fp) ∧
    (∀ {ts par cps fp}, RepListF h par cps ts fp → ∀ c ∈ cps, c ∈ fp) :=
  rep_induction
    (fun _ _ _ _ => List.mem_cons_self ..)
    (fun _ hc => nomatch hc)
    (fun _ _ _ ih1 ih2 c hc => (List.mem_cons.mp hc).elim (fun e => List.mem_append_left _ (e ▸ ih1))
      (fun hc => List.mem_append_right _ (ih2 c hc)))

theorem rep_nodup {h : Heap α} :
    (∀ {t p par fp}, RepF h p par t fp → fp.Nodup) ∧
    (∀ {ts par cps fp}, RepListF h par cps ts fp → fp.Nodup) :=
  rep_induction
    (fun _ _ hn ih => List.nodup_cons.mpr ⟨hn, ih⟩)
    List.nodup_nil
    (fun _ _ hd ih1 ih2 => List.nodup_append.mpr ⟨ih1, ih2, fun x hx _ hy hxy => hd x hx (hxy ▸ hy)⟩)

theorem repListF_nodup {h : Heap α} : ∀ (ts : List (Tree α)) {par : Option Ptr} {cps : List Ptr} {fp : List Ptr},
    RepListF h par cps ts fp → fp.Nodup :=
  fun _ _ _ _ hr => rep_nodup.2 hr

theorem rep_height {h : Heap α} :
    (∀ {t p par fp}, RepF h p par t fp → t.height ≤ fp.length) ∧
    (∀ {ts par cps fp}, RepListF h par cps ts fp → heightList ts ≤ fp.length) :=
  rep_induction
    (fun _ _ _ ih => Nat.succ_le_succ ih)
    (Nat.le_refl 0)
    (fun _ _ _ ih1 ih2 => by
      rw [heightList, List.length_append]
      exact Nat.max_le.mpr ⟨Nat.le_trans ih1 (Nat.le_add_right ..), Nat.le_trans ih2 (Nat.le_add_left ..)⟩)

theorem repListF_height {h : Heap α} : ∀ (ts : List (Tree α)) {par : Option Ptr} {cps : List Ptr} {fp : List Ptr},
    RepListF h par cps ts fp → heightList ts ≤ fp.length :=
  fun _ _ _ _ hr => rep_height.2 hr

theorem rep_load {h : Heap α} :
    (∀ {t p par fp}, RepF h p par t fp → ∃ n, h[p]? = some n ∧ n.info = t.info ∧ n.parent = par) ∧
    (∀ {ts par cps fp}, RepListF h par cps ts fp →
      cps.Nodup ∧ ∀ c ∈ cps, ∃ nc, h[c]? = some nc ∧ nc.parent = par) := by
  refine rep_induction (fun hp _ _ _ => ⟨_, hp, rfl, rfl⟩) ⟨List.nodup_nil, fun _ hc => nomatch hc⟩ ?_
  intro par c cs t ts fp1 fp2 h1 h2 hd ⟨n, hn, _, hp⟩ ⟨ih1, ih2⟩
  refine ⟨List.nodup_cons.mpr ⟨fun hm => hd c (rep_roots.1 h1) (rep_roots.2 h2 c hm), ih1⟩, fun x hx => ?_⟩
  rcases List.mem_cons.mp hx with rfl | hx
  · exact ⟨n, hn, hp⟩
  · exact ih2 x hx

/-- fuel `h.length` is enough: by pigeonhole, the footprint is a duplicate-free list of addresses
    below `h.length` -/
theorem rep_height_le {h : Heap α} {t : Tree α} {p : Ptr} {par : Option Ptr} (hr : Rep h p par t) :
    t.height ≤ h.length := by
  obtain ⟨fp, hr⟩ := hr
  have := (rep_nodup.1 hr).length_le_of_subset (l₂ := List.range h.length)
    (fun x hx => List.mem_range.mpr (rep_lt.1 hr x hx))
  rw [List.length_range] at this
  exact Nat.le_trans (rep_height.1 hr) this

theorem chain_lt {h : Heap α} {o : Option Ptr} {ps : List Ptr} {as : List α} (hc : Chain h o ps as) :
    ∀ x : Nat, x ∈ ps → x < h.length := by
  induction hc with
  | nil => intro x hx; cases hx
  | cons hp _ ih =>
    intro x hx
    rcases List.mem_cons.mp hx with rfl | hx
    · exact lt_of_getElem? hp
    · exact ih x hx

theorem chain_length {h : Heap α} {o : Option Ptr} {ps : List Ptr} {as : List α} (hc : Chain h o ps as) :
    ps.length = as.length := by
  induction hc with
  | nil => rfl
  | cons _ _ ih => exact congrArg (· + 1) ih

theorem chain_frame {h h' : Heap α} {o : Option Ptr} {ps : List Ptr} {as : List α} (hc : Chain h o ps as)
    (hf : ∀ x ∈ ps, ∀ n, h[x]? = some n → ∃ n', h'[x]? = some n' ∧ n'.info = n.info ∧ n'.parent = n.parent) :
    Chain h' o ps as := by
  induction hc with
  | nil => exact Chain.nil
  | @cons p n ps as hp _ ih =>
    obtain ⟨n', hn', hi, hpar⟩ := hf p (List.mem_cons_self ..) n hp
    have := Chain.cons (h := h') hn' (hpar ▸ ih (fun x hx => hf x (List.mem_cons_of_mem _ hx)))
    rw [hi] at this; exact this

theorem chain_append {h : Heap α} (k : Heap α) {o : Option Ptr} {ps : List Ptr} {as : List α}
    (hc : Chain h o ps as) : Chain (h ++ k) o ps as :=
  chain_frame hc (fun _ _ n hn => ⟨n, getElem?_append_of_some k hn, rfl, rfl⟩)

theorem chain_unique {h : Heap α} {o : Option Ptr} {ps : List Ptr} {as : List α} (hc : Chain h o ps as) :
    ∀ {ps' : List Ptr} {as' : List α}, Chain h o ps' as' → ps' = ps ∧ as' = as := by
  induction hc with
  | nil => intro ps' as' hc'; cases hc'; exact ⟨rfl, rfl⟩
  | @cons p n ps as hp _ ih =>
    intro ps' as' hc'
    cases hc' with
    | @cons _ n' ps'' as'' hp' hc'' =>
      have : n' = n := Option.some.inj (hp'.symm.trans hp)
      subst this
      obtain ⟨rfl, rfl⟩ := ih hc''
      exact ⟨rfl, rfl⟩

theorem parentChain_succ {h : Heap α} {p : Ptr} {n : Node α} (fuel : Nat) (hn : h[p]? = some n) :
    parentChain h p (fuel + 1) =
      match n.parent with
      | none => some [n.info]
      | some q => (parentChain h q fuel).map (n.info :: ·) := by
  simp only [parentChain, hn]
  rfl

theorem parentChain_of_chain {h : Heap α} {p : Ptr} {ps : List Ptr} {as : List α}
    (hc : Chain h (some p) ps as) :
    ∀ fuel, parentChain h p fuel = if ps.length ≤ fuel then some as else none := by
  generalize ho : some p = o at hc
  induction hc generalizing p with
  | nil => cases ho
  | @cons q n ps as hq hc' ih =>
    cases ho
    intro fuel
    cases fuel with
    | zero => rfl
    | succ fuel =>
      rw [parentChain_succ fuel hq]
      generalize n.parent = o at hc' ih
      cases hc' with
      | nil => exact (if_pos (Nat.succ_le_succ (Nat.zero_le _))).symm
      | @cons p' _ ps' _ _ _ =>
        dsimp only
        rw [ih rfl fuel]
        simp only [List.length_cons, Nat.add_le_add_iff_right]
        split <;> rfl

theorem chain_of_parentChain {h : Heap α} : ∀ (fuel : Nat) (p : Ptr) (l : List α),
    parentChain h p fuel = some l → ∃ ps, Chain h (some p) ps l := by
  intro fuel
  induction fuel with
  | zero => exact fun _ _ hp => nomatch hp
  | succ fuel ih =>
    intro p l hp
    cases hn : h[p]? with
    | none => simp only [parentChain, hn] at hp; cases hp
    | some n =>
      rw [parentChain_succ fuel hn] at hp
      cases hpar : n.parent with
      | none =>
        rw [hpar] at hp
        cases hp
        exact ⟨[p], Chain.cons hn (hpar ▸ Chain.nil)⟩
      | some q =>
        rw [hpar] at hp
        obtain ⟨l', hl', rfl⟩ := Option.map_eq_some_iff.mp hp
        obtain ⟨ps, hc⟩ := ih q l' hl'
        exact ⟨p :: ps, Chain.cons hn (hpar ▸ hc)⟩

theorem cloneNodes_length (base : Nat) (l : List α) : (cloneNodes base l).length = l.length := by
  induction l generalizing base with
  | nil => rfl
  | cons a l ih =>
    cases l with
    | nil => rfl
    | cons b rest => exact congrArg (· + 1) (ih (base + 1))

theorem append_cloneNodes (g : Heap α) (a b : α) (rest : List α) :
    g ++ cloneNodes g.length (a :: b :: rest) =
      (g ++ [⟨a, some (g.length + 1), []⟩]) ++ cloneNodes (g.length + 1) (b :: rest) := by
  rw [List.append_assoc]; rfl

theorem cloneNodes_chain (l : List α) (a : α) (g : Heap α) :
    Chain (g ++ cloneNodes g.length (a :: l)) (some g.length) (List.range' g.length (l.length + 1)) (a :: l) := by
  induction l generalizing a g with
  | nil => exact Chain.cons (n := ⟨a, none, []⟩) List.getElem?_concat_length Chain.nil
  | cons b rest ih =>
    have ih := ih b (g ++ [⟨a, some (g.length + 1), []⟩])
    rw [List.length_append, List.length_singleton] at ih
    rw [append_cloneNodes, List.range'_succ]
    exact Chain.cons (n := ⟨a, some (g.length + 1), []⟩)
      (getElem?_append_of_some _ List.getElem?_concat_length) ih

theorem setParent_last (g : Heap α) (nb cn : Node α) (v : Option Ptr) :
    setParent ((g ++ [nb]) ++ [cn]) g.length v = (g ++ [{ nb with parent := v }]) ++ [cn] := by
  rw [List.append_assoc, setParent_append_right g _ g.length v (Nat.le_refl _), Nat.sub_self, List.append_assoc]
  rfl

/-- `hne`: `lastChild` is not the node visited; in every run from `cloneHierarchy` it is the clone
    allocated last -/
theorem cloneLoop_step {h : Heap α} {p last : Ptr} {n : Node α} (fuel : Nat) (hp : h[p]? = some n)
    (hne : p ≠ last) :
    cloneLoop h (some p) last (fuel + 1) =
      cloneLoop (setParent (h ++ [⟨n.info, none, []⟩]) last (some h.length)) n.parent h.length fuel := by
  have hp2 : (setParent (h ++ [⟨n.info, none, []⟩]) last (some h.length))[p]? = some n := by
    rw [setParent_ne _ _ _ _ hne]; exact getElem?_append_of_some _ hp
  simp only [cloneLoop, clone, hp, id, hp2]

theorem cloneHierarchy_eq {h : Heap α} {m : Ptr} {n : Node α} (leafF : α → α) (fuel : Nat) (hm : h[m]? = some n) :
    cloneHierarchy h m leafF fuel =
      match cloneLoop (h ++ [⟨leafF n.info, none, []⟩]) n.parent h.length fuel with
      | .ok h2 => .ok (h2, h.length)
      | .fault => .fault
      | .oof => .oof := by
  simp only [cloneHierarchy, clone, hm, getElem?_append_of_some _ hm]
  rfl

theorem cloneLoop_exact (as : List α) (g : Heap α) (o : Option Ptr) (ps : List Ptr) (b : α) (fuel : Nat)
    (hc : Chain g o ps as) (hf : as.length ≤ fuel) :
    cloneLoop (g ++ [⟨b, none, []⟩]) o g.length fuel = .ok (g ++ cloneNodes g.length (b :: as)) := by
  induction as generalizing g o ps b fuel with
  | nil =>
    cases hc
    cases fuel <;> rfl
  | cons a as ih =>
    cases hc with
    | @cons p n ps' _ hp hc' =>
      cases fuel with
      | zero => exact absurd hf (Nat.not_succ_le_zero _)
      | succ fuel =>
        have ih := ih (g ++ [⟨b, some (g.length + 1), []⟩]) n.parent ps' n.info fuel
          (chain_append _ hc') (Nat.le_of_succ_le_succ hf)
        rw [List.length_append, List.length_singleton] at ih
        rw [cloneLoop_step fuel (getElem?_append_of_some _ hp) (Nat.ne_of_lt (lt_of_getElem? hp)),
          List.length_append, List.length_singleton, setParent_last, append_cloneNodes]
        exact ih

theorem cloneHierarchy_exact {h : Heap α} {m : Ptr} {ps : List Ptr} {a : α} {as : List α}
    (leafF : α → α) (fuel : Nat) (hc : Chain h (some m) ps (a :: as)) (hf : as.length ≤ fuel) :
    cloneHierarchy h m leafF fuel = .ok (h ++ cloneNodes h.length (leafF a :: as), h.length) := by
  cases hc with
  | @cons _ n ps' _ hm hc' =>
    rw [cloneHierarchy_eq leafF fuel hm, cloneLoop_exact as h n.parent ps' (leafF n.info) fuel hc' hf]

/-- the representation invariant is needed for `cloneHierarchy_terminates`: where the parent pointers
    never reach nil (`S` is a set of nodes of `g`, each with a parent in `S`) the loop of `cloneHierarchy` runs out of fuel, whatever the fuel and
    whatever has been allocated behind `g` -/
theorem cloneLoop_closed (S : Ptr → Prop) {g : Heap α}
    (hS : ∀ x, S x → ∃ n q, g[x]? = some n ∧ n.parent = some q ∧ S q) (fuel : Nat) (e : Heap α) (p last : Ptr)
    (hp : S p) (hl : g.length ≤ last) : cloneLoop (g ++ e) (some p) last fuel = .oof := by
  induction fuel generalizing e p last with
  | zero => rfl
  | succ fuel ih =>
    obtain ⟨n, q, hn, hq, hSq⟩ := hS p hp
    rw [cloneLoop_step fuel (getElem?_append_of_some e hn) (Nat.ne_of_lt (Nat.lt_of_lt_of_le (lt_of_getElem? hn) hl)),
      hq, List.append_assoc, setParent_append_right g _ last _ hl]
    exact ih _ q _ hSq (List.length_append ▸ Nat.le_add_right ..)

theorem cloneHierarchy_closed (S : Ptr → Prop) {h : Heap α} {m : Ptr}
    (hS : ∀ x, S x → ∃ n q, h[x]? = some n ∧ n.parent = some q ∧ S q) (hm : S m) (leafF : α → α)
    (fuel : Nat) : cloneHierarchy h m leafF fuel = .oof := by
  obtain ⟨n, q, hn, hq, hSq⟩ := hS m hm
  rw [cloneHierarchy_eq leafF fuel hn, hq, cloneLoop_closed S hS fuel _ q h.length hSq (Nat.le_refl _)]

def cycleHeap : Heap Nat := [⟨10, some 1, []⟩, ⟨11, some 0, []⟩]

theorem cycleHeap_closed : ∀ x, x < 2 → ∃ n q, cycleHeap[x]? = some n ∧ n.parent = some q ∧ q < 2
  | 0, _ => ⟨_, 1, rfl, rfl, by decide⟩
  | 1, _ => ⟨_, 0, rfl, rfl, by decide⟩
  | _ + 2, hx => absurd (Nat.le_of_succ_le_succ (Nat.le_of_succ_le_succ hx)) (Nat.not_succ_le_zero _)

theorem cloneHierarchy_cycle_oof {m : Ptr} (hm : m < 2) (leafF : Nat → Nat) (fuel : Nat) :
    cloneHierarchy cycleHeap m leafF fuel = .oof :=
  cloneHierarchy_closed (· < 2) cycleHeap_closed hm leafF fuel

example : cloneHierarchy cycleHeap 0 id 0 = .oof := by decide +kernel
example : cloneHierarchy cycleHeap 0 id 7 = .oof := by decide +kernel
example : cloneHierarchy cycleHeap 1 (· + 1) 40 = .oof := cloneHierarchy_cycle_oof (by decide) _ _
example : parentChain cycleHeap 0 40 = none := by decide +kernel
/- whereas a dangling pointer is a fault, not a fuel problem -/
example : cloneHierarchy cycleHeap 5 id 7 = .fault := by decide +kernel

theorem walk_length_le_height_both (acc : α → Bool) :
    (∀ t : Tree α, (walk acc t).length ≤ t.height) ∧
    (∀ ts : List (Tree α), (walkList acc ts).length ≤ heightList ts) := by
  refine tree_forest_induction (fun a ts ih => ?_) (Nat.le_refl 0) (fun t ts iht ihts => ?_)
  · rw [walk, height]
    exact Nat.succ_le_succ ih
  · rw [walkList, heightList]
    split
    · exact Nat.le_trans iht (Nat.le_max_left ..)
    · exact Nat.le_trans ihts (Nat.le_max_right ..)

theorem walkList_length_le_height (acc : α → Bool) : ∀ ts : List (Tree α), (walkList acc ts).length ≤ heightList ts :=
  (walk_length_le_height_both acc).2

theorem matchGo_succ (acc : α → Bool) (leafF : α → α) {h : Heap α} (chf : Nat) {m : Ptr} {n : Node α} (F : Nat)
    (hn : h[m]? = some n) :
    matchGo acc leafF h chf m (F + 1) =
      match firstAcc acc h n.children with
      | none => .fault
      | some (some c) => matchGo acc leafF h chf c F
      | some none => cloneHierarchy h m leafF chf := by
  simp only [matchGo, hn]
  rfl

/-- the parent chain of the node `match` stands at carries the walk so far, reversed; the descent
    ends in `cloneHierarchy` at the last node walked -/
theorem matchGo_descent_both (acc : α → Bool) (leafF : α → α) (h : Heap α) (chf : Nat) :
    (∀ {t p par fp}, RepF h p par t fp → ∀ {ps : List Ptr} {as : List α} (F : Nat),
      Chain h par ps as → t.height ≤ F →
      ∃ leaf qs, Chain h (some leaf) qs ((walk acc t).reverse ++ as) ∧
        matchGo acc leafF h chf p F = cloneHierarchy h leaf leafF chf) ∧
    (∀ {ts par cps fp}, RepListF h par cps ts fp → ∀ {pps : List Ptr} {aas : List α} (F : Nat),
      Chain h par pps aas → heightList ts ≤ F →
      (firstAcc acc h cps = some none ∧ walkList acc ts = []) ∨
      (∃ c, firstAcc acc h cps = some (some c) ∧ ∃ leaf qs,
        Chain h (some leaf) qs ((walkList acc ts).reverse ++ aas) ∧
        matchGo acc leafF h chf c F = cloneHierarchy h leaf leafF chf)) := by
  refine rep_induction ?_ (fun _ _ _ => Or.inl ⟨rfl, rfl⟩) ?_
  · intro p par a ts cps fps hp _ _ ih ps as F hc hF
    cases F with
    | zero => exact absurd hF (Nat.not_succ_le_zero _)
    | succ F =>
      have hc1 : Chain h (some p) (p :: ps) (a :: as) := Chain.cons hp hc
      rw [matchGo_succ acc leafF chf F hp, walk, List.reverse_cons, List.append_assoc]
      rcases ih F hc1 (Nat.le_of_succ_le_succ hF) with ⟨h1, h2⟩ | ⟨c, h1, leaf, qs, h2, h3⟩
      · rw [h1, h2]
        exact ⟨p, p :: ps, hc1, rfl⟩
      · rw [h1]
        exact ⟨leaf, qs, h2, h3⟩
  · intro par c cs t ts fp1 fp2 h1 _ _ iht ihts pps aas F hc hF
    obtain ⟨n, hn, hi, _⟩ := rep_load.1 h1
    rw [heightList] at hF
    simp only [firstAcc, hn]
    rw [hi, walkList]
    by_cases hacc : acc t.info = true
    · rw [if_pos hacc, if_pos hacc]
      exact Or.inr ⟨c, rfl, iht F hc (Nat.le_trans (Nat.le_max_left ..) hF)⟩
    · rw [if_neg hacc, if_neg hacc]
      exact ihts F hc (Nat.le_trans (Nat.le_max_right ..) hF)

theorem matchGo_descentList (acc : α → Bool) (leafF : α → α) (h : Heap α) (chf : Nat) :
    ∀ (ts : List (Tree α)) {p : Ptr} {cps fp pps : List Ptr} {aas : List α} (F : Nat),
    RepListF h (some p) cps ts fp → Chain h (some p) pps aas → heightList ts ≤ F →
    (firstAcc acc h cps = some none ∧ walkList acc ts = []) ∨
    (∃ c, firstAcc acc h cps = some (some c) ∧ ∃ leaf qs,
      Chain h (some leaf) qs ((walkList acc ts).reverse ++ aas) ∧
      matchGo acc leafF h chf c F = cloneHierarchy h leaf leafF chf) :=
  fun _ _ _ _ _ _ F hr => (matchGo_descent_both acc leafF h chf).2 hr F

theorem reverse_walk_cons (acc : α → Bool) (t : Tree α) :
    ∃ b l, (walk acc t).reverse = b :: l ∧ (walk acc t).length = l.length + 1 := by
  cases hw : (walk acc t).reverse with
  | nil => exact absurd (List.reverse_eq_nil_iff.mp hw) (walk_ne_nil acc t)
  | cons b l => exact ⟨b, l, rfl, by rw [← List.length_reverse, hw]; rfl⟩

/-- `b :: l` names the reversed walk (never empty): `cloneNodes` and `applyHead` treat its head apart -/
theorem matchH_exact {h : Heap α} {root : Ptr} {t : Tree α} (acc : α → Bool) (leafF : α → α)
    (hrep : Rep h root none t) {fuel : Nat} (hfuel : t.height ≤ fuel) :
    ∃ b l, (walk acc t).reverse = b :: l ∧ (walk acc t).length = l.length + 1 ∧
      matchH acc leafF h root fuel = .ok (h ++ cloneNodes h.length (leafF b :: l), h.length) := by
  obtain ⟨fp, hrep⟩ := hrep
  obtain ⟨leaf, qs, hq, hm⟩ := (matchGo_descent_both acc leafF h fuel).1 hrep fuel Chain.nil hfuel
  obtain ⟨b, l, hbl, hlen⟩ := reverse_walk_cons acc t
  rw [List.append_nil, hbl] at hq
  have hwl : l.length + 1 ≤ fuel := hlen ▸ Nat.le_trans ((walk_length_le_height_both acc).1 t) hfuel
  refine ⟨b, l, hbl, hlen, ?_⟩
  unfold matchH
  rw [hm, cloneHierarchy_exact leafF fuel hq (Nat.le_of_succ_le hwl)]

theorem parentChain_cloneNodes (g : Heap α) (a : α) (l : List α) {f : Nat} (hf : l.length + 1 ≤ f) :
    parentChain (g ++ cloneNodes g.length (a :: l)) g.length f = some (a :: l) := by
  rw [parentChain_of_chain (cloneNodes_chain l a g), if_pos (by rw [List.length_range']; exact hf)]

theorem match_refines {h : Heap α} {root : Ptr} {t : Tree α} (acc : α → Bool) (leafF : α → α)
    (hrep : Rep h root none t) (fuel : Nat) (hfuel : t.height ≤ fuel) :
    ∃ h' r ps,
      matchH acc leafF h root fuel = .ok (h', r) ∧
      (∃ ext, h' = h ++ ext) ∧
      Rep h' root none t ∧
      r = h.length ∧ ps = List.range' h.length (walk acc t).length ∧
      (∀ x ∈ ps, h.length ≤ x ∧ x < h'.length) ∧
      Chain h' (some r) ps (applyHead leafF (walk acc t).reverse) ∧
      ∀ f, ps.length ≤ f → parentChain h' r f = some (applyHead leafF (walk acc t).reverse) := by
  obtain ⟨b, l, hbl, hlen, hm⟩ := matchH_exact acc leafF hrep hfuel
  obtain ⟨fp, hrep⟩ := hrep
  rw [hbl, hlen]
  refine ⟨_, _, _, hm, ⟨_, rfl⟩, ⟨fp, repF_append _ hrep⟩, rfl, rfl, ?_, cloneNodes_chain l (leafF b) h, ?_⟩
  · intro x hx
    rw [List.length_append, cloneNodes_length]
    exact List.mem_range'_1.mp hx
  · intro f hf
    rw [List.length_range'] at hf
    exact parentChain_cloneNodes h (leafF b) l hf

theorem matchH_chain {h : Heap α} {root : Ptr} {t : Tree α} (acc : α → Bool) (leafF : α → α)
    (hrep : Rep h root none t) {fuel : Nat} (hfuel : h.length ≤ fuel) :
    ∃ h' r, matchH acc leafF h root fuel = .ok (h', r) ∧
      ∀ f, (walk acc t).length ≤ f → parentChain h' r f = some (applyHead leafF (walk acc t).reverse) := by
  obtain ⟨b, l, hbl, hlen, hm⟩ := matchH_exact acc leafF hrep (Nat.le_trans (rep_height_le hrep) hfuel)
  rw [hbl, hlen]
  exact ⟨_, _, hm, fun f hf => parentChain_cloneNodes h (leafF b) l hf⟩

theorem nodeAt_nil {h : Heap α} {p m : Nat} (hn : nodeAt h p [] = some m) : m = p ∧ p < h.length := by
  simp only [nodeAt] at hn
  split at hn
  · exact ⟨(Option.some.inj hn).symm, by assumption⟩
  · cases hn

theorem nodeAt_cons {h : Heap α} {p m : Ptr} {n : Node α} {i : Nat} {is : List Nat} (hp : h[p]? = some n)
    (hn : nodeAt h p (i :: is) = some m) : ∃ c, n.children[i]? = some c ∧ nodeAt h c is = some m := by
  simp only [nodeAt, hp] at hn
  cases hc : n.children[i]? with
  | none => rw [hc] at hn; cases hn
  | some c => rw [hc] at hn; exact ⟨c, rfl, hn⟩

theorem nodeAt_lt {h : Heap α} (path : List Nat) (p m : Nat) (hn : nodeAt h p path = some m) : m < h.length := by
  induction path generalizing p with
  | nil => obtain ⟨rfl, hl⟩ := nodeAt_nil hn; exact hl
  | cons i is ih =>
    cases hp : h[p]? with
    | none => simp only [nodeAt, hp] at hn; cases hn
    | some n =>
      obtain ⟨c, _, hn'⟩ := nodeAt_cons hp hn
      exact ih c hn'

/-- the node a child-index path leads to is the root of a represented sub-tree inside the footprint,
    one node further from nil per index of the path -/
theorem nodeAt_rep {h : Heap α} :
    (∀ {t p par fp}, RepF h p par t fp → ∀ path m, nodeAt h p path = some m →
      ∃ par' t' fp', RepF h m par' t' fp' ∧ (∀ x ∈ fp', x ∈ fp) ∧
        ∀ {ps : List Ptr} {as : List α}, Chain h par ps as →
          ∃ qs bs, Chain h par' qs bs ∧ qs.length = path.length + ps.length) ∧
    (∀ {ts par cps fp}, RepListF h par cps ts fp → ∀ (i : Nat) (c : Ptr) is m, cps[i]? = some c →
      nodeAt h c is = some m → ∃ par' t' fp', RepF h m par' t' fp' ∧ (∀ x ∈ fp', x ∈ fp) ∧
        ∀ {ps : List Ptr} {as : List α}, Chain h par ps as →
          ∃ qs bs, Chain h par' qs bs ∧ qs.length = is.length + ps.length) := by
  refine rep_induction ?_ (fun _ _ _ _ hci _ => nomatch hci) ?_
  · intro p par a ts cps fps hp hl hnot ih path m hn
    cases path with
    | nil =>
      obtain ⟨rfl, _⟩ := nodeAt_nil hn
      exact ⟨par, _, _, repF_node.mpr ⟨cps, fps, hp, hl, hnot, rfl⟩, fun _ hx => hx,
        fun hc => ⟨_, _, hc, (Nat.zero_add _).symm⟩⟩
    | cons i is =>
      obtain ⟨c, hci, hn'⟩ := nodeAt_cons hp hn
      obtain ⟨par', t', fp', e1, e2, e3⟩ := ih i c is m hci hn'
      refine ⟨par', t', fp', e1, fun x hx => List.mem_cons_of_mem _ (e2 x hx), fun hc => ?_⟩
      obtain ⟨qs, bs, e4, e5⟩ := e3 (Chain.cons hp hc)
      exact ⟨qs, bs, e4, e5.trans (Nat.succ_add_eq_add_succ ..).symm⟩
  · intro par c0 cs t ts fp1 fp2 _ _ _ iht ihts i c is m hci hn
    cases i with
    | zero =>
      cases hci
      obtain ⟨par', t', fp', e1, e2, e3⟩ := iht is m hn
      exact ⟨par', t', fp', e1, fun x hx => List.mem_append_left _ (e2 x hx), e3⟩
    | succ i =>
      obtain ⟨par', t', fp', e1, e2, e3⟩ := ihts i c is m hci hn
      exact ⟨par', t', fp', e1, fun x hx => List.mem_append_right _ (e2 x hx), e3⟩

theorem nodeAt_mem {h : Heap α} {path : List Nat} {t : Tree α} {p m : Ptr} {par : Option Ptr} {fp : List Ptr}
    (hr : RepF h p par t fp) (hn : nodeAt h p path = some m) : m ∈ fp := by
  obtain ⟨_, _, _, e1, e2, _⟩ := nodeAt_rep.1 hr path m hn
  exact e2 m (rep_roots.1 e1)

theorem nodeAtList_sub {h : Heap α} : ∀ (ts : List (Tree α)) {par : Option Ptr} {cps fp : List Ptr}
    (i : Nat) (c : Ptr) (is : List Nat) (m : Ptr),
    RepListF h par cps ts fp → cps[i]? = some c → nodeAt h c is = some m →
    ∃ par' t' fp', RepF h m par' t' fp' ∧ ∀ x ∈ fp', x ∈ fp := by
  intro ts par cps fp i c is m hr hci hn
  obtain ⟨par', t', fp', e1, e2, _⟩ := nodeAt_rep.2 hr i c is m hci hn
  exact ⟨par', t', fp', e1, e2⟩

theorem cloneHierarchy_terminates {h : Heap α} {root : Ptr} {t : Tree α} (hrep : Rep h root none t)
    (path : List Nat) (m : Ptr) (hm : nodeAt h root path = some m) (leafF : α → α) :
    ∃ qs b bs, Chain h (some m) qs (b :: bs) ∧ qs.length = path.length + 1 ∧
      (∀ fuel, path.length + 1 ≤ fuel → parentChain h m fuel = some (b :: bs)) ∧
      (∀ fuel, path.length ≤ fuel →
        cloneHierarchy h m leafF fuel = .ok (h ++ cloneNodes h.length (leafF b :: bs), h.length)) := by
  obtain ⟨fp, hrep⟩ := hrep
  obtain ⟨par', t', fp', h1, _, h3⟩ := nodeAt_rep.1 hrep path m hm
  obtain ⟨qs, bs, hc, hl⟩ := h3 Chain.nil
  obtain ⟨n, hn, _, hpar⟩ := rep_load.1 h1
  have hc' : Chain h (some m) (m :: qs) (n.info :: bs) := Chain.cons hn (hpar ▸ hc)
  have hlen := chain_length hc
  rw [List.length_nil, Nat.add_zero] at hl
  refine ⟨m :: qs, n.info, bs, hc', congrArg (· + 1) hl, fun fuel hf => ?_, fun fuel hf => ?_⟩
  · rw [parentChain_of_chain hc' fuel, if_pos (by rw [List.length_cons, hl]; exact hf)]
  · exact cloneHierarchy_exact leafF fuel hc' (hlen ▸ hl ▸ hf)

/-- the heap after `m.Extend(…a…)`, `nm` being the node at `m` -/
def extHeap (h : Heap α) (m : Ptr) (nm : Node α) (a : α) : Heap α :=
  (h ++ [(⟨a, some m, []⟩ : Node α)]).set m { nm with children := h.length :: nm.children }

theorem extend_eq {h : Heap α} {m : Ptr} {nm : Node α} (a : α) (hm : h[m]? = some nm) :
    extend h m a = some (extHeap h m nm a, h.length) := by
  simp only [extend, hm, extHeap]

theorem extend_some {h h' : Heap α} {m c : Ptr} {a : α} (he : extend h m a = some (h', c)) :
    ∃ nm, h[m]? = some nm ∧ h' = extHeap h m nm a ∧ c = h.length := by
  cases hm : h[m]? with
  | none => simp only [extend, hm] at he; cases he
  | some nm =>
    rw [extend_eq a hm] at he
    obtain ⟨rfl, rfl⟩ := Prod.mk.inj (Option.some.inj he)
    exact ⟨nm, rfl, rfl, rfl⟩

theorem extHeap_length (h : Heap α) (m : Ptr) (nm : Node α) (a : α) : (extHeap h m nm a).length = h.length + 1 := by
  simp only [extHeap, List.length_set, List.length_append, List.length_singleton]

theorem extHeap_ne {h : Heap α} {m : Ptr} (nm : Node α) (a : α) {x : Ptr} (hx : x ≠ m) (hlt : x < h.length) :
    (extHeap h m nm a)[x]? = h[x]? := by
  unfold extHeap
  rw [List.getElem?_set_ne (Ne.symm hx), List.getElem?_append_left hlt]

theorem extHeap_self {h : Heap α} {m : Ptr} {nm : Node α} (a : α) (hm : h[m]? = some nm) :
    (extHeap h m nm a)[m]? = some { nm with children := h.length :: nm.children } := by
  unfold extHeap
  exact List.getElem?_set_self (by rw [List.length_append]; exact Nat.lt_add_right _ (lt_of_getElem? hm))

theorem extHeap_new {h : Heap α} {m : Ptr} {nm : Node α} (a : α) (hm : h[m]? = some nm) :
    (extHeap h m nm a)[h.length]? = some ⟨a, some m, []⟩ := by
  unfold extHeap
  rw [List.getElem?_set_ne (Nat.ne_of_lt (lt_of_getElem? hm))]
  exact List.getElem?_concat_length

theorem extHeap_get {h : Heap α} {m x : Ptr} {nm n : Node α} (a : α) (hm : h[m]? = some nm) (hx : h[x]? = some n) :
    ∃ n', (extHeap h m nm a)[x]? = some n' ∧ n'.info = n.info ∧ n'.parent = n.parent ∧
      (x ≠ m → n' = n) ∧ (x = m → n'.children = h.length :: n.children) := by
  by_cases hxm : x = m
  · subst hxm
    obtain rfl : n = nm := Option.some.inj (hx.symm.trans hm)
    exact ⟨_, extHeap_self a hm, rfl, rfl, fun hne => absurd rfl hne, fun _ => rfl⟩
  · exact ⟨n, (extHeap_ne nm a hxm (lt_of_getElem? hx)).trans hx, rfl, rfl, fun _ => rfl, fun he => absurd he hxm⟩

theorem repF_extHeap {h : Heap α} {m : Ptr} (nm : Node α) (a : α) {t : Tree α} {p : Ptr} {par : Option Ptr}
    {fp : List Ptr} (hr : RepF h p par t fp) (hout : m ∉ fp) : RepF (extHeap h m nm a) p par t fp :=
  rep_frame.1 hr (fun x hx => extHeap_ne nm a (fun he => hout (he ▸ hx)) (rep_lt.1 hr x hx))

theorem repListF_extHeap {h : Heap α} {m : Ptr} (nm : Node α) (a : α) {ts : List (Tree α)} {par : Option Ptr}
    {cps fp : List Ptr} (hr : RepListF h par cps ts fp) (hout : m ∉ fp) :
    RepListF (extHeap h m nm a) par cps ts fp :=
  rep_frame.2 hr (fun x hx => extHeap_ne nm a (fun he => hout (he ▸ hx)) (rep_lt.2 hr x hx))

theorem grown_disjoint {n : Nat} {fp1 fp1' fp2 : List Ptr} (hd : ∀ x ∈ fp1, x ∉ fp2) (hlt : ∀ x ∈ fp2, x < n)
    (hg : fp1'.Perm (n :: fp1)) : ∀ x ∈ fp1', x ∉ fp2 := by
  intro x hx hx2
  rcases List.mem_cons.mp (hg.mem_iff.mp hx) with rfl | h1
  · exact Nat.lt_irrefl _ (hlt _ hx2)
  · exact hd x h1 hx2

/-- the new footprint is given up to `Perm` (the new address follows `m` in pre-order): the
    disjointness of sibling footprints only needs membership -/
theorem extend_rep_both {h : Heap α} {m : Ptr} {nm : Node α} (a : α) (hm : h[m]? = some nm) :
    (∀ {t p par fp}, RepF h p par t fp → ∀ path, nodeAt h p path = some m →
      ∃ t' fp', extendAt (.node a []) path t = some t' ∧ RepF (extHeap h m nm a) p par t' fp' ∧
        fp'.Perm (h.length :: fp)) ∧
    (∀ {ts par cps fp}, RepListF h par cps ts fp → ∀ i c is, cps[i]? = some c → nodeAt h c is = some m →
      ∃ ts' fp', extendAtList (.node a []) i is ts = some ts' ∧ RepListF (extHeap h m nm a) par cps ts' fp' ∧
        fp'.Perm (h.length :: fp)) := by
  refine rep_induction ?_ (fun _ _ _ hci _ => nomatch hci) ?_
  · intro p par a0 ts cps fps hp hl hnot ih path hn
    cases path with
    | nil =>
      obtain ⟨rfl, hlt⟩ := nodeAt_nil hn
      obtain rfl : nm = ⟨a0, par, cps⟩ := Option.some.inj (hm.symm.trans hp)
      have hfl := rep_lt.2 hl
      have hnew : RepF (extHeap h m ⟨a0, par, cps⟩ a) h.length (some m) (.node a []) [h.length] :=
        repF_node.mpr ⟨[], [], extHeap_new a hm, repListF_nil.mpr ⟨rfl, rfl⟩, List.not_mem_nil, rfl⟩
      have hdis : ∀ x ∈ [h.length], x ∉ fps := fun x hx hx2 =>
        Nat.lt_irrefl _ (List.mem_singleton.mp hx ▸ hfl x hx2)
      refine ⟨.node a0 (.node a [] :: ts), m :: ([h.length] ++ fps), rfl, ?_, List.Perm.swap ..⟩
      refine repF_node.mpr ⟨h.length :: cps, [h.length] ++ fps, extHeap_self a hm, ?_, ?_, rfl⟩
      · exact repListF_cons.mpr ⟨h.length, cps, [h.length], fps, rfl, hnew, repListF_extHeap _ a hl hnot, hdis, rfl⟩
      · intro hmem
        rcases List.mem_cons.mp hmem with h1 | h1
        · exact Nat.ne_of_lt hlt h1
        · exact hnot h1
    | cons i is =>
      obtain ⟨c, hci, hn'⟩ := nodeAt_cons hp hn
      obtain ⟨ts', fps', h1, h2, h3⟩ := ih i c is hci hn'
      obtain ⟨_, _, _, hsub, hmem⟩ := nodeAtList_sub ts i c is m hl hci hn'
      have hpm : p ≠ m := fun he => hnot (he ▸ hmem m (rep_roots.1 hsub))
      refine ⟨.node a0 ts', p :: fps', by rw [extendAt, h1]; rfl, ?_, (h3.cons p).trans (List.Perm.swap ..)⟩
      refine repF_node.mpr ⟨cps, fps', ?_, h2, fun hx => ?_, rfl⟩
      · rw [extHeap_ne _ a hpm (lt_of_getElem? hp)]; exact hp
      · rcases List.mem_cons.mp (h3.mem_iff.mp hx) with h4 | h4
        · exact Nat.ne_of_lt (lt_of_getElem? hp) h4
        · exact hnot h4
  · intro par c0 cs t ts fp1 fp2 h1 h2 hd iht ihts i c is hci hn
    cases i with
    | zero =>
      cases hci
      obtain ⟨t', fp1', e1, e2, e3⟩ := iht is hn
      refine ⟨t' :: ts, fp1' ++ fp2, by rw [extendAtList, e1]; rfl, ?_, e3.append_right fp2⟩
      exact repListF_cons.mpr ⟨_, cs, fp1', fp2, rfl, e2,
        repListF_extHeap _ a h2 (hd m (nodeAt_mem h1 hn)), grown_disjoint hd (rep_lt.2 h2) e3, rfl⟩
    | succ i =>
      obtain ⟨ts', fp2', e1, e2, e3⟩ := ihts i c is hci hn
      obtain ⟨_, _, _, hsub, hmem⟩ := nodeAtList_sub ts i c is m h2 hci hn
      have hd' : ∀ x ∈ fp2, x ∉ fp1 := fun x hx2 hx1 => hd x hx1 hx2
      refine ⟨t :: ts', fp1 ++ fp2', by rw [extendAtList, e1]; rfl, ?_,
        (e3.append_left fp1).trans List.perm_middle⟩
      exact repListF_cons.mpr ⟨c0, cs, fp1, fp2', rfl,
        repF_extHeap _ a h1 (hd' m (hmem m (rep_roots.1 hsub))), e2,
        fun x hx1 hx2 => grown_disjoint hd' (rep_lt.1 h1) e3 x hx2 hx1, rfl⟩

theorem extend_repListF {h : Heap α} {m : Ptr} {nm : Node α} (a : α) (hm : h[m]? = some nm) :
    ∀ (ts : List (Tree α)) {par : Option Ptr} {cps fp pps : List Ptr} {aas : List α}
    (i : Nat) (c : Ptr) (is : List Nat),
    RepListF h par cps ts fp → Chain h par pps aas → cps[i]? = some c → nodeAt h c is = some m →
    ∃ ts' fp', extendAtList (.node a []) i is ts = some ts' ∧ RepListF (extHeap h m nm a) par cps ts' fp' ∧
      (∀ x : Nat, x ∈ fp' → x ∈ fp ∨ x = h.length) :=
  fun _ _ _ _ _ _ i c is hr _ hci hn =>
    let ⟨ts', fp', h1, h2, h3⟩ := (extend_rep_both a hm).2 hr i c is hci hn
    ⟨ts', fp', h1, h2, fun _ hx => (List.mem_cons.mp (h3.mem_iff.mp hx)).symm⟩

theorem extend_ok {h : Heap α} {root m : Ptr} {path : List Nat} (a : α) (hnode : nodeAt h root path = some m) :
    ∃ h', extend h m a = some (h', h.length) :=
  ⟨_, extend_eq a (List.getElem?_eq_getElem (nodeAt_lt path root m hnode))⟩

theorem extend_rep {h h' : Heap α} {root m c : Ptr} {t : Tree α} {path : List Nat} {a : α}
    (hrep : Rep h root none t) (hnode : nodeAt h root path = some m) (he : extend h m a = some (h', c)) :
    ∃ t', Tree.extendAt (.node a []) path t = some t' ∧ Rep h' root none t' ∧
      c = h.length ∧ h'.length = h.length + 1 ∧ h'[c]? = some ⟨a, some m, []⟩ ∧
      ∀ x n, h[x]? = some n → ∃ n', h'[x]? = some n' ∧ n'.info = n.info ∧ n'.parent = n.parent ∧
        (x ≠ m → n' = n) ∧ (x = m → n'.children = c :: n.children) := by
  obtain ⟨fp, hrep⟩ := hrep
  obtain ⟨nm, hm, rfl, rfl⟩ := extend_some he
  obtain ⟨t', fp', h1, h2, _⟩ := (extend_rep_both a hm).1 hrep path hnode
  exact ⟨t', h1, ⟨fp', h2⟩, rfl, extHeap_length .., extHeap_new a hm, fun x n => extHeap_get a hm⟩

theorem setParent_repF {g : Heap α} {c : Ptr} {par0 : Option Ptr} {t : Tree α} {fp : List Ptr} (par : Option Ptr)
    (hr : RepF g c par0 t fp) : RepF (setParent g c par) c par t fp := by
  cases t with
  | node a ts =>
    obtain ⟨cps, fps, hc, hl, hnot, rfl⟩ := repF_node.mp hr
    refine repF_node.mpr ⟨cps, fps, setParent_self par hc, ?_, hnot, rfl⟩
    exact rep_frame.2 hl (fun x hx => setParent_ne g c par x (fun he => hnot (he ▸ hx)))

theorem setParents_repListF (par : Option Ptr) (ts : List (Tree α)) {g : Heap α} {par0 : Option Ptr}
    {cps fp : List Ptr} (hr : RepListF g par0 cps ts fp) : RepListF (setParents g par cps) par cps ts fp := by
  induction ts generalizing g cps fp with
  | nil =>
    obtain ⟨rfl, rfl⟩ := repListF_nil.mp hr
    exact repListF_nil.mpr ⟨rfl, rfl⟩
  | cons t ts ih =>
    obtain ⟨c, cs, fp1, fp2, rfl, h1, h2, hd, rfl⟩ := repListF_cons.mp hr
    have h2' : RepListF (setParent g c par) par0 cs ts fp2 :=
      rep_frame.2 h2 (fun x hx => setParent_ne g c par x (fun he => hd c (rep_roots.1 h1) (he ▸ hx)))
    have hroots := rep_roots.2 h2'
    refine repListF_cons.mpr ⟨c, cs, fp1, fp2, rfl, ?_, ih h2', hd, rfl⟩
    exact rep_frame.1 (setParent_repF par h1)
      (fun x hx => setParents_notMem par x cs _ (fun hm => hd x hx (hroots x hm)))

theorem setParents_get (p : Option Ptr) (cs : List Ptr) (h : Heap α) (x : Ptr) (n : Node α) (hx : h[x]? = some n) :
    ∃ n', (setParents h p cs)[x]? = some n' ∧ n'.info = n.info ∧ n'.children = n.children ∧
      (x ∉ cs → n' = n) ∧ (x ∈ cs → n'.parent = p) := by
  induction cs generalizing h n with
  | nil => exact ⟨n, hx, rfl, rfl, fun _ => rfl, fun hm => nomatch hm⟩
  | cons c cs ih =>
    by_cases hxc : x = c
    · subst hxc
      obtain ⟨n', h1, h2, h3, h4, h5⟩ := ih _ _ (setParent_self p hx)
      refine ⟨n', h1, h2, h3, fun hn => absurd (List.mem_cons_self ..) hn, fun _ => ?_⟩
      by_cases hm : x ∈ cs
      · exact h5 hm
      · rw [h4 hm]
    · obtain ⟨n', h1, h2, h3, h4, h5⟩ := ih _ n ((setParent_ne h c p x hxc).trans hx)
      exact ⟨n', h1, h2, h3, fun hn => h4 (fun hm => hn (List.mem_cons_of_mem _ hm)),
        fun hm => h5 ((List.mem_cons.mp hm).resolve_left hxc)⟩

theorem newMIME_rep {h : Heap α} {cs : List Ptr} {ts : List (Tree α)} {fp : List Ptr} (a : α)
    (hf : RepListF h none cs ts fp) :
    (newMIME h a cs).2 = h.length ∧
    RepF (newMIME h a cs).1 h.length none (.node a ts) (h.length :: fp) ∧
    (newMIME h a cs).1.length = h.length + 1 ∧
    ∀ x n, h[x]? = some n → ∃ n', (newMIME h a cs).1[x]? = some n' ∧ n'.info = n.info ∧
      n'.children = n.children ∧ (x ∉ cs → n' = n) ∧ (x ∈ cs → n'.parent = some h.length) := by
  have hlt := rep_lt.2 hf
  have hnotcs : h.length ∉ cs := fun hm => Nat.lt_irrefl _ (hlt _ (rep_roots.2 hf _ hm))
  refine ⟨rfl, ?_, ?_, fun x n hx => setParents_get (some h.length) cs _ x n (getElem?_append_of_some _ hx)⟩
  · refine repF_node.mpr ⟨cs, fp, ?_, ?_, fun hm => Nat.lt_irrefl _ (hlt _ hm), rfl⟩
    · exact (setParents_notMem _ _ _ _ hnotcs).trans List.getElem?_concat_length
    · exact setParents_repListF (some h.length) ts (rep_frame.2 hf (fun x hx => List.getElem?_append_left (rep_lt.2 hf x hx)))
  · exact (setParents_length ..).trans (List.length_append ..)

theorem cloneLoop_prefix (g : Heap α) (fuel : Nat) (e : Heap α) (o : Option Ptr) (last : Nat) (h' : Heap α)
    (hl : g.length ≤ last) (hr : cloneLoop (g ++ e) o last fuel = .ok h') : ∃ e', h' = g ++ e' := by
  induction fuel generalizing e o last with
  | zero =>
    cases o with
    | none => exact ⟨e, (Res.ok.inj hr).symm⟩
    | some p => cases hr
  | succ fuel ih =>
    cases o with
    | none => exact ⟨e, (Res.ok.inj hr).symm⟩
    | some p =>
      simp only [cloneLoop, clone] at hr
      cases hp : (g ++ e)[p]? with
      | none => simp only [hp] at hr; cases hr
      | some n =>
        simp only [hp, id] at hr
        rw [List.append_assoc, setParent_append_right g _ last _ hl] at hr
        split at hr
        · cases hr
        · exact ih _ _ _ (by rw [List.length_append]; exact Nat.le_add_right ..) hr

/-- whatever the heap and the fuel: a successful `match` returns the heap it was given,
    followed by new nodes — it never writes to an existing node -/
theorem matchGo_prefix {acc : α → Bool} {leafF : α → α} {h h' : Heap α} {chf F : Nat} {m r : Ptr}
    (hr : matchGo acc leafF h chf m F = .ok (h', r)) : ∃ e, h' = h ++ e := by
  induction F generalizing m with
  | zero => cases hr
  | succ F ih =>
    cases hm : h[m]? with
    | none => simp only [matchGo, hm] at hr; cases hr
    | some n =>
      rw [matchGo_succ acc leafF chf F hm] at hr
      split at hr
      · cases hr
      · exact ih hr
      · rw [cloneHierarchy_eq leafF chf hm] at hr
        split at hr
        · rename_i h2 hcl
          obtain ⟨rfl, _⟩ := Prod.mk.inj (Res.ok.inj hr)
          exact cloneLoop_prefix h chf _ _ _ _ (Nat.le_refl _) hcl
        · cases hr
        · cases hr

/-- one later call: `Extend` on any node, or a detection started at any node -/
inductive Step : Heap α → Heap α → Prop
  | extend {h h' : Heap α} {m c : Ptr} {a : α} : extend h m a = some (h', c) → Step h h'
  | detect {h h' : Heap α} {acc : α → Bool} {leafF : α → α} {m r : Ptr} {fuel : Nat} :
      matchH acc leafF h m fuel = .ok (h', r) → Step h h'

/-- any sequence of later calls -/
inductive Steps : Heap α → Heap α → Prop
  | refl (h : Heap α) : Steps h h
  | step {h h1 h2 : Heap α} : Step h h1 → Steps h1 h2 → Steps h h2

theorem steps_chain {h h' : Heap α} {o : Option Ptr} {ps : List Ptr} {as : List α} (hs : Steps h h')
    (hc : Chain h o ps as) : Chain h' o ps as := by
  induction hs with
  | refl => exact hc
  | step h1 _ ih =>
    refine ih ?_
    cases h1 with
    | extend he =>
      obtain ⟨nm, hm, rfl, rfl⟩ := extend_some he
      exact chain_frame hc (fun x _ n hx =>
        let ⟨n', h1, h2, h3, _⟩ := extHeap_get _ hm hx
        ⟨n', h1, h2, h3⟩)
    | detect hm => obtain ⟨e, rfl⟩ := matchGo_prefix hm; exact chain_append e hc

theorem chain_stable {h1 h2 : Heap α} {r : Ptr} {ps : List Ptr} {as : List α}
    (hc : Chain h1 (some r) ps as) (hs : Steps h1 h2) :
    Chain h2 (some r) ps as ∧ ∀ fuel, parentChain h2 r fuel = parentChain h1 r fuel := by
  have hc2 : Chain h2 (some r) ps as := steps_chain hs hc
  exact ⟨hc2, fun fuel => by rw [parentChain_of_chain hc2, parentChain_of_chain hc]⟩

theorem results_stable {h0 h1 h2 : Heap α} {root r : Ptr} {t : Tree α} {acc : α → Bool} {leafF : α → α}
    {fuel : Nat} (hrep : Rep h0 root none t) (hfuel : t.height ≤ fuel)
    (hm : matchH acc leafF h0 root fuel = .ok (h1, r)) (hs : Steps h1 h2) :
    (∀ f, parentChain h2 r f = parentChain h1 r f) ∧
    (∀ f, (walk acc t).length ≤ f → parentChain h2 r f = some (applyHead leafF (walk acc t).reverse)) := by
  obtain ⟨b, l, hbl, hlen, hm'⟩ := matchH_exact acc leafF hrep hfuel
  obtain ⟨rfl, rfl⟩ := Prod.mk.inj (Res.ok.inj (hm.symm.trans hm'))
  obtain ⟨_, h2eq⟩ := chain_stable (cloneNodes_chain l (leafF b) h0) hs
  refine ⟨h2eq, fun f hf => ?_⟩
  rw [h2eq f, hbl]
  exact parentChain_cloneNodes h0 (leafF b) l (hlen ▸ hf)

theorem lookupH_descent_both (q : α → Bool) (h : Heap α) :
    (∀ {t m par fp}, RepF h m par t fp → ∀ {ps : List Ptr} {as : List α} (F : Nat),
      Chain h par ps as → t.height ≤ F →
      match Tree.lookup q t with
      | none => lookupH q h m F = some none
      | some l => ∃ r rs, lookupH q h m F = some (some r) ∧ r ∈ fp ∧ Chain h (some r) rs (l.reverse ++ as)) ∧
    (∀ {ts par cps fp}, RepListF h par cps ts fp → ∀ {pps : List Ptr} {aas : List α} (F : Nat),
      Chain h par pps aas → heightList ts ≤ F →
      match Tree.lookupList q ts with
      | none => lookupLoop (fun c => lookupH q h c F) cps = some none
      | some l => ∃ r rs, lookupLoop (fun c => lookupH q h c F) cps = some (some r) ∧ r ∈ fp ∧
          Chain h (some r) rs (l.reverse ++ aas)) := by
  refine rep_induction ?_ (fun _ _ _ => rfl) ?_
  · intro m par a ts cps fps hm _ _ ih ps as F hc hF
    cases F with
    | zero => exact absurd hF (Nat.not_succ_le_zero _)
    | succ F =>
      have hc1 : Chain h (some m) (m :: ps) (a :: as) := Chain.cons hm hc
      have ih := ih F hc1 (Nat.le_of_succ_le_succ hF)
      simp only [lookupH, hm]
      rw [Tree.lookup]
      by_cases hq : q a = true
      · rw [if_pos hq, if_pos hq]
        exact ⟨m, m :: ps, rfl, List.mem_cons_self .., hc1⟩
      · rw [if_neg hq, if_neg hq]
        cases hll : lookupList q ts with
        | none => rw [hll] at ih; exact ih
        | some l =>
          rw [hll] at ih
          obtain ⟨r, rs, h1, h2, h3⟩ := ih
          refine ⟨r, rs, h1, List.mem_cons_of_mem _ h2, ?_⟩
          rw [List.reverse_cons, List.append_assoc]; exact h3
  · intro par c cs t ts fp1 fp2 _ _ _ iht ihts pps aas F hc hF
    rw [heightList] at hF
    have ih1 := iht F hc (Nat.le_trans (Nat.le_max_left ..) hF)
    have ih2 := ihts F hc (Nat.le_trans (Nat.le_max_right ..) hF)
    rw [lookupList, lookupLoop]
    cases hl1 : Tree.lookup q t with
    | some l =>
      rw [hl1] at ih1
      obtain ⟨r, rs, e1, e2, e3⟩ := ih1
      exact ⟨r, rs, (by rw [e1]), List.mem_append_left _ e2, e3⟩
    | none =>
      rw [hl1] at ih1
      simp only [ih1]
      cases hl2 : lookupList q ts with
      | none => rw [hl2] at ih2; exact ih2
      | some l =>
        rw [hl2] at ih2
        obtain ⟨r, rs, e1, e2, e3⟩ := ih2
        exact ⟨r, rs, e1, List.mem_append_right _ e2, e3⟩

theorem lookupLoop_descent (q : α → Bool) (h : Heap α) :
    ∀ (ts : List (Tree α)) {par : Option Ptr} {cps fp pps : List Ptr} {aas : List α} (F : Nat),
    RepListF h par cps ts fp → Chain h par pps aas → heightList ts ≤ F →
    match Tree.lookupList q ts with
    | none => lookupLoop (fun c => lookupH q h c F) cps = some none
    | some l => ∃ r rs, lookupLoop (fun c => lookupH q h c F) cps = some (some r) ∧ r ∈ fp ∧
        Chain h (some r) rs (l.reverse ++ aas) :=
  fun _ _ _ _ _ _ F hr => (lookupH_descent_both q h).2 hr F

theorem lookupList_last (q : α → Bool) : ∀ (ts : List (Tree α)) (l : List α), lookupList q ts = some l →
    ∃ b, l.getLast? = some b ∧ q b = true :=
  fun ts l hl => let ⟨b, h1, h2, _⟩ := Tree.lookupList_some q ts l hl; ⟨b, h1, h2⟩

theorem lookup_refines {h : Heap α} {root : Ptr} {t : Tree α} (q : α → Bool) (hrep : Rep h root none t)
    (fuel : Nat) (hfuel : t.height ≤ fuel) :
    match Tree.lookup q t with
    | none => lookupH q h root fuel = some none
    | some l => ∃ r n rs, lookupH q h root fuel = some (some r) ∧ h[r]? = some n ∧ some n.info = l.getLast? ∧
        q n.info = true ∧ Chain h (some r) rs l.reverse ∧
        ∀ f, l.length ≤ f → parentChain h r f = some l.reverse := by
  obtain ⟨fp, hrep⟩ := hrep
  have key := (lookupH_descent_both q h).1 hrep fuel Chain.nil hfuel
  cases hl : Tree.lookup q t with
  | none => rw [hl] at key; exact key
  | some l =>
    rw [hl] at key
    obtain ⟨r, rs, h1, _, h3⟩ := key
    rw [List.append_nil] at h3
    obtain ⟨b, hb1, hb2, _⟩ := Tree.lookup_some q t l hl
    have hlen : rs.length = l.length := (chain_length h3).trans List.length_reverse
    have hpc := parentChain_of_chain h3
    generalize hlr : l.reverse = lr at h3
    cases h3 with
    | @cons _ n ps' as' hr hc' =>
      have hlast : l.getLast? = some n.info := by rw [← List.head?_reverse, hlr]; rfl
      refine ⟨r, n, r :: ps', h1, hr, hlast.symm, ?_, hlr ▸ Chain.cons hr hc', fun f hf => ?_⟩
      · rw [← Option.some.inj (hb1.symm.trans hlast)]; exact hb2
      · rw [hpc f, if_pos (hlen ▸ hf), hlr]

/-- the abstraction `t` of `WF h root` is determined by the heap -/
theorem rep_functional_both {h : Heap α} :
    (∀ {t p par fp}, RepF h p par t fp → ∀ {par' t' fp'}, RepF h p par' t' fp' → t = t' ∧ fp = fp') ∧
    (∀ {ts par cps fp}, RepListF h par cps ts fp →
      ∀ {par' ts' fp'}, RepListF h par' cps ts' fp' → ts = ts' ∧ fp = fp') := by
  refine rep_induction ?_ ?_ ?_
  · intro p par a ts cps fps hp _ _ ih par' t' fp' hr'
    cases t' with
    | node a' ts' =>
      obtain ⟨cps', fps', hp', hl', _, rfl⟩ := repF_node.mp hr'
      obtain ⟨rfl, _, rfl⟩ := Node.mk.inj (Option.some.inj (hp.symm.trans hp'))
      obtain ⟨rfl, rfl⟩ := ih hl'
      exact ⟨rfl, rfl⟩
  · intro par par' ts' fp' hr'
    cases ts' with
    | nil => obtain ⟨_, rfl⟩ := repListF_nil.mp hr'; exact ⟨rfl, rfl⟩
    | cons t' ts' => obtain ⟨_, _, _, _, hc, _⟩ := repListF_cons.mp hr'; cases hc
  · intro par c cs t ts fp1 fp2 _ _ _ iht ihts par' ts' fp' hr'
    cases ts' with
    | nil => obtain ⟨hc, _⟩ := repListF_nil.mp hr'; cases hc
    | cons t' ts' =>
      obtain ⟨c', cs', fp1', fp2', hc, h1', h2', _, rfl⟩ := repListF_cons.mp hr'
      obtain ⟨rfl, rfl⟩ := List.cons.inj hc
      obtain ⟨rfl, rfl⟩ := iht h1'
      obtain ⟨rfl, rfl⟩ := ihts h2'
      exact ⟨rfl, rfl⟩

theorem repListF_functional {h : Heap α} : ∀ (ts : List (Tree α)) {par par' : Option Ptr} {cps : List Ptr}
    {ts' : List (Tree α)} {fp fp' : List Ptr},
    RepListF h par cps ts fp → RepListF h par' cps ts' fp' → ts = ts' ∧ fp = fp' :=
  fun _ _ _ _ _ _ _ hr => rep_functional_both.2 hr

theorem rep_functional {h : Heap α} {p : Ptr} {par par' : Option Ptr} {t t' : Tree α}
    (hr : Rep h p par t) (hr' : Rep h p par' t') : t = t' := by
  obtain ⟨fp, hr⟩ := hr
  obtain ⟨fp', hr'⟩ := hr'
  exact (rep_functional_both.1 hr hr').1

theorem match_preserves_rep {h h' : Heap α} {root m r : Ptr} {t : Tree α} {acc : α → Bool} {leafF : α → α}
    {fuel : Nat} (hrep : Rep h root none t) (hm : matchH acc leafF h m fuel = .ok (h', r)) :
    Rep h' root none t := by
  obtain ⟨fp, hrep⟩ := hrep
  obtain ⟨e, rfl⟩ := matchGo_prefix hm
  exact ⟨fp, repF_append e hrep⟩

/-- a sequence of `Extend` calls on tree nodes named by child-index paths, as in
    `C14.applyAll` (each path is resolved in the heap at the time of the call) -/
def runExt (root : Ptr) : List (List Nat × α) → Heap α → Option (Heap α)
  | [], h => some h
  | (path, a) :: ops, h =>
    match nodeAt h root path with
    | none => none
    | some m =>
      match extend h m a with
      | none => none
      | some (h', _) => runExt root ops h'

theorem wf_spelled_out {h : Heap α} {root : Ptr} {t : Tree α} (hrep : Rep h root none t) :
    (∃ n, h[root]? = some n ∧ n.parent = none ∧ n.info = t.info) ∧
    ∀ path m, nodeAt h root path = some m →
      ∃ nm, h[m]? = some nm ∧ nm.children.Nodup ∧
        ∀ c ∈ nm.children, ∃ nc, h[c]? = some nc ∧ nc.parent = some m := by
  obtain ⟨fp, hrep⟩ := hrep
  refine ⟨?_, fun path m hn => ?_⟩
  · obtain ⟨n, h1, h2, h3⟩ := rep_load.1 hrep
    exact ⟨n, h1, h3, h2⟩
  · obtain ⟨par', t', fp', h1, _⟩ := nodeAt_rep.1 hrep path m hn
    cases t' with
    | node a ts =>
      obtain ⟨cps, fps, hp, hl, _, _⟩ := repF_node.mp h1
      obtain ⟨e1, e2⟩ := rep_load.2 hl
      exact ⟨_, hp, e1, e2⟩

theorem match_refines_path {h : Heap α} {root : Ptr} {t : Tree α} (acc : α → Bool) (leafF : α → α)
    (hrep : Rep h root none t) (fuel : Nat) (hfuel : h.length ≤ fuel) :
    ∃ h' r leaf ancestors,
      matchH acc leafF h root fuel = .ok (h', r) ∧
      C03.Path acc t (leaf :: ancestors).reverse ∧
      (leaf :: ancestors).getLast? = some t.info ∧
      ∀ f, ancestors.length + 1 ≤ f → parentChain h' r f = some (leafF leaf :: ancestors) := by
  obtain ⟨h', r, h1, h2⟩ := matchH_chain acc leafF hrep hfuel
  obtain ⟨b, l, hbl, hlen⟩ := reverse_walk_cons acc t
  rw [hbl, hlen] at h2
  refine ⟨h', r, b, l, h1, ?_, ?_, h2⟩
  · rw [← hbl, List.reverse_reverse]; exact C03.walk_spec acc t
  · rw [← hbl, List.getLast?_reverse]; exact walk_head acc t

section Examples

def exTree : Tree Nat := .node 0 [.node 1 [.node 3 []], .node 2 []]

/-- built bottom-up with `newMIME`, as tree.go does: grandchild, first child, second child, root -/
def exBuild : Heap Nat × Ptr :=
  let (h1, g) := newMIME [] 3 []
  let (h2, c1) := newMIME h1 1 [g]
  let (h3, c2) := newMIME h2 2 []
  newMIME h3 0 [c1, c2]

def exHeap : Heap Nat :=
  [⟨3, some 1, []⟩, ⟨1, some 3, [0]⟩, ⟨2, some 3, []⟩, ⟨0, none, [1, 2]⟩]

example : exBuild = (exHeap, 3) := by decide +kernel

/-- through `newMIME_rep`: a leaf, then a node over it -/
example : Rep (newMIME (newMIME ([] : Heap Nat) 3 []).1 1 [0]).1 1 none (.node 1 [.node 3 []]) := by
  have h1 := (newMIME_rep (h := ([] : Heap Nat)) (cs := []) (ts := []) 3 (repListF_nil.mpr ⟨rfl, rfl⟩)).2.1
  have h2 := newMIME_rep (h := (newMIME ([] : Heap Nat) 3 []).1) (cs := [0]) (ts := [.node 3 []]) 1
    (repListF_cons.mpr ⟨0, [], [0], [], rfl, h1, repListF_nil.mpr ⟨rfl, rfl⟩, by decide, rfl⟩)
  exact ⟨_, h2.2.1⟩

def exAcc : Nat → Bool := fun n => n % 2 == 1

/- a detection: descends 3 → 1 → 0 (payloads 0, 1, 3), allocates three clones at 4, 5, 6;
   the tree part of the heap is untouched; `leafF` (+100) applies to the leaf clone only -/
def exHeap1 : Heap Nat := exHeap ++ [⟨103, some 5, []⟩, ⟨1, some 6, []⟩, ⟨0, none, []⟩]

example : Tree.walk exAcc exTree = [0, 1, 3] := by decide +kernel
example : matchH exAcc (· + 100) exHeap 3 4 = .ok (exHeap1, 4) := by decide +kernel
example : parentChain exHeap1 4 3 = some [103, 1, 0] := by decide +kernel
example : parentChain exHeap1 4 2 = none := by decide +kernel
/- too little fuel and a dangling start are reported as such -/
example : matchH exAcc (· + 100) exHeap 3 2 = .oof := by decide +kernel
example : matchH exAcc (· + 100) exHeap 9 4 = .fault := by decide +kernel

/- an extension of the first child (path [0]): node 7 is allocated with parent 1 and put in
   front of 1's children; the value-level tree is `extendAt` -/
def exHeap2 : Heap Nat :=
  [⟨3, some 1, []⟩, ⟨1, some 3, [7, 0]⟩, ⟨2, some 3, []⟩, ⟨0, none, [1, 2]⟩,
   ⟨103, some 5, []⟩, ⟨1, some 6, []⟩, ⟨0, none, []⟩, ⟨9, some 1, []⟩]

example : nodeAt exHeap1 3 [0] = some 1 := by decide +kernel
example : extend exHeap1 1 9 = some (exHeap2, 7) := by decide +kernel
example : Tree.extendAt (.node 9 []) [0] exTree = some (.node 0 [.node 1 [.node 9 [], .node 3 []], .node 2 []]) := rfl
/- the chain of the earlier result after the later extension: unchanged -/
example : parentChain exHeap2 4 3 = some [103, 1, 0] := by decide +kernel
/- while a new detection sees the extension first -/
example : (match matchH exAcc (· + 100) exHeap2 3 8 with
    | .ok (h, r) => parentChain h r 3
    | _ => none) = some [109, 1, 0] := by decide +kernel
/- `Extend` on the earlier result itself does not change the tree either -/
example : (match extend exHeap2 4 11 with
    | some (h, _) => (matchH exAcc id h 3 9, parentChain h 4 3)
    | none => (.fault, none)) =
    (.ok (exHeap2.set 4 ⟨103, some 5, [8]⟩ ++ [⟨11, some 4, []⟩, ⟨9, some 10, []⟩, ⟨1, some 11, []⟩, ⟨0, none, []⟩], 9),
     some [103, 1, 0]) := by decide +kernel

/- lookup: the grandchild is found at address 0; its `Parent()` chain is the path reversed -/
example : Tree.lookup (· == 3) exTree = some [0, 1, 3] := by decide +kernel
example : lookupH (· == 3) exHeap 3 3 = some (some 0) := by decide +kernel
example : parentChain exHeap 0 3 = some [3, 1, 0] := by decide +kernel
example : lookupH (· == 8) exHeap 3 3 = some none := by decide +kernel
example : lookupH (· == 3) exHeap 3 2 = none := by decide +kernel

/- the invariant matters: if `newMIME` forgot to set the grandchild's parent (it stays nil),
   the same descent returns a truncated hierarchy -/
def exBad : Heap Nat :=
  [⟨3, none, []⟩, ⟨1, some 3, [0]⟩, ⟨2, some 3, []⟩, ⟨0, none, [1, 2]⟩]
example : (match matchH exAcc id exBad 3 4 with
    | .ok (h, r) => parentChain h r 4
    | _ => none) = some [3] := by decide +kernel

end Examples

end Mime.HeapLemmas
