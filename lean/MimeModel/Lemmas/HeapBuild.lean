import MimeModel.Lemmas.Heap
import MimeModel.Lemmas.HeapAbs
import MimeModel.Model.HeapBuild
import MimeModel.Gen.Tree
/-
  The bottom-up construction of the detector tree (`Model/HeapBuild.lean`: nested `newMIME`
  calls, children first, left to right, as tree.go does) yields a heap that represents the tree
  (`build_rep`, by `newMIME_rep` at every node).  Any other order of the `newMIME` calls that puts
  children before their node and gives every node as a child at most once — Go's package
  initialisation order is one — represents the same trees (`sched_inv`).
-/
namespace Mime.HeapBuild
open Mime Mime.Tree Mime.Heap Mime.HeapLemmas

variable {α : Type}

theorem build_node (a : α) (ts : List (Tree α)) (h : Heap α) :
    build (.node a ts) h = newMIME (buildList ts h).1 a (buildList ts h).2 := by
  simp only [build]

theorem buildList_nil (h : Heap α) : buildList ([] : List (Tree α)) h = (h, []) := by
  simp only [buildList]

theorem buildList_cons (t : Tree α) (ts : List (Tree α)) (h : Heap α) :
    buildList (t :: ts) h =
      ((buildList ts (build t h).1).1, (build t h).2 :: (buildList ts (build t h).1).2) := by
  simp only [buildList]

theorem build_eq (a : α) (ts : List (Tree α)) (h : Heap α) :
    build (.node a ts) h = (let (h1, cs) := buildList ts h; newMIME h1 a cs) := by
  rw [build_node]

theorem buildList_eq (t : Tree α) (ts : List (Tree α)) (h : Heap α) :
    buildList (t :: ts) h = (let (h1, c) := build t h; let (h2, cs) := buildList ts h1; (h2, c :: cs)) := by
  rw [buildList_cons]

theorem build_rep :
    (∀ (t : Tree α) (h : Heap α),
      (∃ fp, RepF (build t h).1 (build t h).2 none t fp ∧ ∀ x : Nat, x ∈ fp → h.length ≤ x) ∧
      (build t h).1.length = h.length + (flatten t).length ∧
      (build t h).2 = (build t h).1.length - 1 ∧
      ∀ x : Nat, x < h.length → (build t h).1[x]? = h[x]?) ∧
    (∀ (ts : List (Tree α)) (h : Heap α),
      (∃ fp, RepListF (buildList ts h).1 none (buildList ts h).2 ts fp ∧ ∀ x : Nat, x ∈ fp → h.length ≤ x) ∧
      (buildList ts h).1.length = h.length + (flattenList ts).length ∧
      ∀ x : Nat, x < h.length → (buildList ts h).1[x]? = h[x]?) := by
  refine tree_forest_induction ?_ ?_ ?_
  · intro a ts ih h
    obtain ⟨⟨fp, hf, hfresh⟩, hlen, hframe⟩ := ih h
    rw [build_node]
    generalize buildList ts h = r at hf hlen hframe
    obtain ⟨hp, hrep, hl, _⟩ := newMIME_rep a hf
    have hle : h.length ≤ r.1.length := hlen ▸ Nat.le_add_right ..
    refine ⟨⟨r.1.length :: fp, hp ▸ hrep, fun x hx => ?_⟩, ?_, ?_, fun x hx => ?_⟩
    · rcases List.mem_cons.mp hx with rfl | hx
      · exact hle
      · exact hfresh x hx
    · rw [hl, hlen, flatten, List.length_cons, Nat.add_assoc]
    · rw [hp, hl]; rfl
    · have hnot : x ∉ r.2 := fun hm => Nat.lt_irrefl _ (Nat.lt_of_lt_of_le hx (hfresh x (rep_roots.2 hf x hm)))
      exact (setParents_notMem _ x r.2 _ hnot).trans
        ((List.getElem?_append_left (Nat.lt_of_lt_of_le hx hle)).trans (hframe x hx))
  · intro h
    exact ⟨⟨[], repListF_nil.mpr ⟨rfl, rfl⟩, fun _ hx => nomatch hx⟩, rfl, fun _ _ => rfl⟩
  · intro t ts iht ihts h
    obtain ⟨⟨fp1, hr1, hfresh1⟩, hlen1, _, hframe1⟩ := iht h
    obtain ⟨⟨fp2, hr2, hfresh2⟩, hlen2, hframe2⟩ := ihts (build t h).1
    rw [buildList_cons]
    generalize build t h = r1 at hr1 hlen1 hframe1 hr2 hfresh2 hlen2 hframe2
    generalize buildList ts r1.1 = r2 at hr2 hlen2 hframe2
    have hlt1 := rep_lt.1 hr1
    have hle : h.length ≤ r1.1.length := hlen1 ▸ Nat.le_add_right ..
    refine ⟨⟨fp1 ++ fp2, repListF_cons.mpr ⟨r1.2, r2.2, fp1, fp2, rfl, ?_, hr2, fun x hx1 hx2 => ?_, rfl⟩,
      fun x hx => ?_⟩, ?_, fun x hx => ?_⟩
    · exact rep_frame.1 hr1 (fun x hx => hframe2 x (hlt1 x hx))
    · exact Nat.lt_irrefl _ (Nat.lt_of_lt_of_le (hlt1 x hx1) (hfresh2 x hx2))
    · rcases List.mem_append.mp hx with hx | hx
      · exact hfresh1 x hx
      · exact Nat.le_trans hle (hfresh2 x hx)
    · show r2.1.length = _
      rw [hlen2, hlen1, flattenList, List.length_append, Nat.add_assoc]
    · exact (hframe2 x (Nat.lt_of_lt_of_le hx hle)).trans (hframe1 x hx)

theorem buildList_rep (ts : List (Tree α)) (h : Heap α) :
    (∃ fp, RepListF (buildList ts h).1 none (buildList ts h).2 ts fp ∧ ∀ x : Nat, x ∈ fp → h.length ≤ x) ∧
    (buildList ts h).1.length = h.length + (flattenList ts).length ∧
    ∀ x : Nat, x < h.length → (buildList ts h).1[x]? = h[x]? :=
  build_rep.2 ts h

theorem build_rep' {t : Tree α} {h h' : Heap α} {p : Ptr} (hb : build t h = (h', p)) :
    (∃ fp, RepF h' p none t fp ∧ ∀ x : Nat, x ∈ fp → h.length ≤ x) ∧
    h'.length = h.length + (flatten t).length ∧
    p = h'.length - 1 ∧
    ∀ x : Nat, x < h.length → h'[x]? = h[x]? := by
  have := build_rep.1 t h
  rw [hb] at this
  exact this

theorem build_prefix (t : Tree α) (h : Heap α) : ∃ e, (build t h).1 = h ++ e := by
  obtain ⟨_, _, _, hframe⟩ := build_rep.1 t h
  obtain ⟨e, he⟩ := List.prefix_iff_getElem?.mpr (fun i hi => (hframe i hi).trans (List.getElem?_eq_getElem hi))
  exact ⟨e, he.symm⟩

theorem build_rep_nil (t : Tree α) : Rep (build t []).1 (build t []).2 none t := by
  obtain ⟨⟨fp, hr, _⟩, _⟩ := build_rep.1 t ([] : Heap α)
  exact ⟨fp, hr⟩

theorem build_wf (t : Tree α) : WF (build t []).1 (build t []).2 := ⟨t, build_rep_nil t⟩

theorem build_abs (t : Tree α) : HeapAbs.abs (build t []).1 (build t []).2 = some t :=
  HeapAbs.abs_iff.mpr (build_rep_nil t)

theorem build_nil_size (t : Tree α) :
    (build t []).1.length = (flatten t).length ∧ (build t []).2 = (flatten t).length - 1 := by
  obtain ⟨_, hlen, hp, _⟩ := build_rep.1 t ([] : Heap α)
  simp only [List.length_nil, Nat.zero_add] at hlen
  exact ⟨hlen, by rw [hp, hlen]⟩

/-! ### any order of the calls

  tree.go does not write the tree as one nested expression: every node is a package-level
  variable (`zip = newMIME(…, xlsx, docx, …)`), and Go initialises package-level variables in
  dependency order (repeatedly the earliest declared variable whose initialiser mentions only
  initialised variables), which puts the children of a node before the node but is not the
  post-order of `build` (and `errMIME`, a node outside the tree, is allocated somewhere in between).
  `Sched` describes every such run: any sequence of `newMIME` calls, each taking as children some
  of the nodes built so far that have not been given to a call yet, in any order.  Whatever the
  order, the available nodes represent their trees (`sched_inv`); `build` is one such run
  (`build_sched`). -/

/-- a forest listed as (address, tree) pairs, so that it can be reordered -/
def RepPairs (h : Heap α) (par : Option Ptr) (l : List (Ptr × Tree α)) (fp : List Ptr) : Prop :=
  RepListF h par (l.map (·.1)) (l.map (·.2)) fp

theorem repPairs_nil {h : Heap α} {par : Option Ptr} {fp : List Ptr} : RepPairs h par [] fp ↔ fp = [] := by
  simp only [RepPairs, List.map_nil]
  rw [repListF_nil]
  exact ⟨fun hh => hh.2, fun hh => ⟨rfl, hh⟩⟩

theorem repPairs_cons {h : Heap α} {par : Option Ptr} {p : Ptr} {t : Tree α} {l : List (Ptr × Tree α)}
    {fp : List Ptr} :
    RepPairs h par ((p, t) :: l) fp ↔
      ∃ fp1 fp2, RepF h p par t fp1 ∧ RepPairs h par l fp2 ∧ (∀ x ∈ fp1, x ∉ fp2) ∧ fp = fp1 ++ fp2 := by
  simp only [RepPairs, List.map_cons]
  rw [repListF_cons]
  constructor
  · rintro ⟨c, cs, fp1, fp2, hc, h1, h2, hd, rfl⟩
    obtain ⟨rfl, rfl⟩ := List.cons.inj hc
    exact ⟨fp1, fp2, h1, h2, hd, rfl⟩
  · rintro ⟨fp1, fp2, h1, h2, hd, rfl⟩
    exact ⟨p, _, fp1, fp2, rfl, h1, h2, hd, rfl⟩

theorem repPairs_split {h : Heap α} {par : Option Ptr} (l1 : List (Ptr × Tree α)) {l2 : List (Ptr × Tree α)}
    {fp : List Ptr} (hr : RepPairs h par (l1 ++ l2) fp) :
    ∃ fp1 fp2, RepPairs h par l1 fp1 ∧ RepPairs h par l2 fp2 ∧ (∀ x ∈ fp1, x ∉ fp2) ∧ fp = fp1 ++ fp2 := by
  induction l1 generalizing fp with
  | nil => exact ⟨[], fp, repPairs_nil.mpr rfl, hr, fun _ hx => (nomatch hx), rfl⟩
  | cons a l1 ih =>
    obtain ⟨fa, fb, hra, hrb, hd, rfl⟩ := repPairs_cons.mp hr
    obtain ⟨f1, f2, h1, h2, hd12, rfl⟩ := ih hrb
    refine ⟨fa ++ f1, f2, repPairs_cons.mpr ⟨fa, f1, hra, h1, fun x hx hx1 => hd x hx (List.mem_append_left _ hx1), rfl⟩,
      h2, fun x hx hx2 => ?_, (List.append_assoc ..).symm⟩
    rcases List.mem_append.mp hx with hx | hx
    · exact hd x hx (List.mem_append_right _ hx2)
    · exact hd12 x hx hx2

theorem repPairs_perm {h : Heap α} {par : Option Ptr} {l1 l2 : List (Ptr × Tree α)} (hp : l1.Perm l2) :
    ∀ fp, RepPairs h par l1 fp → ∃ fp', RepPairs h par l2 fp' ∧ fp'.Perm fp := by
  induction hp with
  | nil => exact fun fp hr => ⟨fp, hr, .refl _⟩
  | cons a _ ih =>
    intro fp hr
    obtain ⟨fa, fb, hra, hrb, hd, rfl⟩ := repPairs_cons.mp hr
    obtain ⟨fb', hrb', hm⟩ := ih fb hrb
    exact ⟨fa ++ fb', repPairs_cons.mpr ⟨fa, fb', hra, hrb', fun x hx hx' => hd x hx (hm.mem_iff.mp hx'), rfl⟩,
      hm.append_left fa⟩
  | swap a b l =>
    intro fp hr
    obtain ⟨fb, f1, hrb, hr1, hd1, rfl⟩ := repPairs_cons.mp hr
    obtain ⟨fa, fl, hra, hrl, hd2, rfl⟩ := repPairs_cons.mp hr1
    refine ⟨fa ++ (fb ++ fl), repPairs_cons.mpr ⟨fa, fb ++ fl, hra,
      repPairs_cons.mpr ⟨fb, fl, hrb, hrl, fun x hx hx' => hd1 x hx (List.mem_append_right _ hx'), rfl⟩,
      fun x hx hx' => ?_, rfl⟩, List.perm_append_comm_assoc ..⟩
    rcases List.mem_append.mp hx' with hx' | hx'
    · exact hd1 x hx' (List.mem_append_left _ hx)
    · exact hd2 x hx hx'
  | trans _ _ ih1 ih2 =>
    intro fp hr
    obtain ⟨fp1, hr1, hm1⟩ := ih1 fp hr
    obtain ⟨fp2, hr2, hm2⟩ := ih2 fp1 hr1
    exact ⟨fp2, hr2, hm2.trans hm1⟩

theorem repPairs_mem {h : Heap α} {par : Option Ptr} {p : Ptr} {t : Tree α} (l : List (Ptr × Tree α))
    {fp : List Ptr} (hr : RepPairs h par l fp) (hm : (p, t) ∈ l) : ∃ fp1, RepF h p par t fp1 := by
  induction l generalizing fp with
  | nil => cases hm
  | cons a l ih =>
    obtain ⟨fa, fb, hra, hrb, _, _⟩ := repPairs_cons.mp hr
    rcases List.mem_cons.mp hm with rfl | hm
    · exact ⟨fa, hra⟩
    · exact ih hrb hm

/-- one `newMIME` call on the nodes `sel` out of the available ones: the others stay available, the
    new node stands for `node a` over the trees of `sel` -/
theorem call_inv {h : Heap α} (a : α) {sel rest : List (Ptr × Tree α)} {fp : List Ptr}
    (hr : RepPairs h none (sel ++ rest) fp) :
    ∃ fp', RepPairs (newMIME h a (sel.map (·.1))).1 none
      (((newMIME h a (sel.map (·.1))).2, .node a (sel.map (·.2))) :: rest) fp' := by
  obtain ⟨fs, fr, hs, hrest, hd, _⟩ := repPairs_split sel hr
  obtain ⟨hp, hrep, _, hold⟩ := newMIME_rep a hs
  have hltr := rep_lt.2 hrest
  refine ⟨(h.length :: fs) ++ fr, repPairs_cons.mpr ⟨h.length :: fs, fr, ?_, ?_, ?_, rfl⟩⟩
  · rw [hp]; exact hrep
  · refine rep_frame.2 hrest (fun x hx => ?_)
    have hx1 : x < h.length := hltr x hx
    obtain ⟨n, hn⟩ : ∃ n, h[x]? = some n := ⟨h[x], List.getElem?_eq_getElem hx1⟩
    obtain ⟨n', hn', _, _, hsame, _⟩ := hold x n hn
    have hnot : x ∉ sel.map (·.1) := fun hm => hd x (rep_roots.2 hs x hm) hx
    rw [hn', hsame hnot, hn]
  · intro x hx hx'
    rcases List.mem_cons.mp hx with rfl | hx
    · exact Nat.lt_irrefl _ (hltr _ hx')
    · exact hd x hx hx'

/-- the heaps reachable by `newMIME` calls in which every node is given as a child at most once,
    together with the nodes not yet given to a call and the trees they stand for -/
inductive Sched : Heap α → List (Ptr × Tree α) → Prop
  | init (h : Heap α) : Sched h []
  | call {h : Heap α} {avail : List (Ptr × Tree α)} (a : α) (sel rest : List (Ptr × Tree α)) :
      Sched h avail → avail.Perm (sel ++ rest) →
      Sched (newMIME h a (sel.map (·.1))).1
        (((newMIME h a (sel.map (·.1))).2, .node a (sel.map (·.2))) :: rest)

theorem sched_inv {h : Heap α} {avail : List (Ptr × Tree α)} (hs : Sched h avail) :
    ∃ fp, RepPairs h none avail fp := by
  induction hs with
  | init h => exact ⟨[], repPairs_nil.mpr rfl⟩
  | call a sel rest _ hp ih =>
    obtain ⟨fp, hr⟩ := ih
    obtain ⟨fp', hr', _⟩ := repPairs_perm hp fp hr
    exact call_inv a hr'

theorem build_sched_both :
    (∀ (t : Tree α) (h : Heap α) (avail : List (Ptr × Tree α)), Sched h avail →
      Sched (build t h).1 (((build t h).2, t) :: avail)) ∧
    (∀ (ts : List (Tree α)) (h : Heap α) (avail : List (Ptr × Tree α)), Sched h avail →
      ∃ l : List (Ptr × Tree α), l.map (·.1) = (buildList ts h).2 ∧ l.map (·.2) = ts ∧
        Sched (buildList ts h).1 (l.reverse ++ avail)) := by
  refine tree_forest_induction ?_ (fun h avail hs => ⟨[], rfl, rfl, hs⟩) ?_
  · intro a ts ih h avail hs
    obtain ⟨l, hp, ht, hl⟩ := ih h avail hs
    have := Sched.call a l avail hl ((List.reverse_perm l).append_right avail)
    rw [hp, ht] at this
    exact this
  · intro t ts iht ihts h avail hs
    obtain ⟨l, hp, ht, h2⟩ := ihts _ _ (iht h avail hs)
    refine ⟨((build t h).2, t) :: l, congrArg (_ :: ·) hp, congrArg (_ :: ·) ht, ?_⟩
    rw [List.reverse_cons, List.append_assoc]
    exact h2

theorem build_sched : ∀ (t : Tree α) (h : Heap α) (avail : List (Ptr × Tree α)), Sched h avail →
    Sched (build t h).1 (((build t h).2, t) :: avail) :=
  build_sched_both.1

theorem buildList_sched : ∀ (ts : List (Tree α)) (h : Heap α) (avail : List (Ptr × Tree α)), Sched h avail →
    ∃ l : List (Ptr × Tree α), l.map (·.1) = (buildList ts h).2 ∧ l.map (·.2) = ts ∧
      Sched (buildList ts h).1 (l.reverse ++ avail) :=
  build_sched_both.2

/-- the heap tree.go builds at package initialisation: `root` and everything below it -/
def builtinHeap : Heap Info × Ptr := build Mime.Gen.builtin []

theorem builtin_wf : WF builtinHeap.1 builtinHeap.2 := build_wf _

theorem builtin_abs : HeapAbs.abs builtinHeap.1 builtinHeap.2 = some Mime.Gen.builtin := build_abs _

theorem builtin_size :
    builtinHeap.1.length = (flatten Mime.Gen.builtin).length ∧
    builtinHeap.2 = (flatten Mime.Gen.builtin).length - 1 := build_nil_size _

section Examples
open Mime.HeapLemmas

/- `exTree = node 0 [node 1 [node 3 []], node 2 []]`: grandchild, first child, second child, root
   are allocated in this order, at 0, 1, 2, 3 -/
example : build exTree [] = (exHeap, 3) := by decide +kernel
example : build exTree [] = exBuild := by decide +kernel
example : (build exTree []).1 =
    [⟨3, some 1, []⟩, ⟨1, some 3, [0]⟩, ⟨2, some 3, []⟩, ⟨0, none, [1, 2]⟩] := by decide +kernel
example : HeapAbs.abs (build exTree []).1 (build exTree []).2 = some exTree := by decide +kernel
example : HeapAbs.abs (build exTree []).1 (build exTree []).2 = some exTree := build_abs exTree
/- the argument list alone: two parentless roots at 1 and 2 -/
example : buildList [Tree.node 1 [.node 3 []], .node 2 []] ([] : Heap Nat) =
    ([⟨3, some 1, []⟩, ⟨1, none, [0]⟩, ⟨2, none, []⟩], [1, 2]) := by decide +kernel
/- on top of an existing heap: the old nodes stay, the addresses are shifted -/
example : build exTree [⟨7, none, []⟩] =
    ([⟨7, none, []⟩, ⟨3, some 2, []⟩, ⟨1, some 4, [1]⟩, ⟨2, some 4, []⟩, ⟨0, none, [2, 3]⟩], 4) := by decide +kernel
/- another order of the same calls (Go's order for
     `var root = newMIME(0, c1, c2); var errM = newMIME(9); var c2 = newMIME(2); var c1 = newMIME(1, g); var g = newMIME(3)`
   is errM, c2, g, c1, root): other addresses, a node outside the tree in between, the same tree -/
def exSched : Heap Nat × Ptr :=
  let (h0, _) := newMIME [] 9 []
  let (h1, c2) := newMIME h0 2 []
  let (h2, g) := newMIME h1 3 []
  let (h3, c1) := newMIME h2 1 [g]
  newMIME h3 0 [c1, c2]
example : exSched = ([⟨9, none, []⟩, ⟨2, some 4, []⟩, ⟨3, some 3, []⟩, ⟨1, some 4, [2]⟩, ⟨0, none, [3, 1]⟩], 4) := by
  decide +kernel
example : HeapAbs.abs exSched.1 exSched.2 = some exTree := by decide +kernel
example : exSched.1 ≠ (build exTree []).1 := by decide +kernel
/- a detection on the built heap -/
example : matchH exAcc (· + 100) (build exTree []).1 (build exTree []).2 4 = .ok (exHeap1, 4) := by decide +kernel

end Examples

end Mime.HeapBuild
