import MimeModel.Lemmas.JsonLeaf
import MimeModel.Lemmas.JsonSpecEq
/-
  The container scanners `consumeAny` / `arrayLoop` / `objectLoop` of Model/Json.lean, one
  layer at a time: each is "skip white space, then a head scanner on the rest", and the head
  scanners are chains of smaller ones (`objHead` → `objAfterKey` → `objColon` → `objValue` →
  `objAfterVal`).  The simulations against the grammar, the truncation laws and the fuel
  lemmas are proved stage by stage from these equations.
-/
namespace Mime.JsonPrefix
open Mime Mime.Json Mime.Spec Mime.JsonLeaf

abbrev Scan := Bytes → PState → Option Bytes × PState

/-- white space as a (never failing) scanner -/
def spaceScan : Scan := fun b s => (some (consumeSpace b s).1, (consumeSpace b s).2)

theorem spaceScan_val (b : Bytes) (s : PState) :
    spaceScan b s = (some (J.skipWs b), s.bump (b.length - (J.skipWs b).length)) := by
  rw [spaceScan, consumeSpace_spec]

/-- Run `G`; if it succeeds, run `H` on the rest (`H` is also given the bytes `G` consumed); a failure of `G` is the
    failure of the whole.  Three stage scanners have this shape (`arrHead_seq`, `objValue_seq`, `objHead_seq`), and
    each development proves its sequencing lemma once, for `seqScan`, and applies it at these three places.
    (It is declared before them so that its `match` and theirs are the same constant.) -/
def seqScan (G : Scan) (H : Bytes → Scan) : Scan := fun y st =>
  match G y st with
  | (some r2, s2) => H (consumed y r2) r2 s2
  | (none, s2) => (none, s2)

theorem seqScan_congr {G G' : Scan} {H H' : Bytes → Scan} {y : Bytes} {s : PState} (hG : G y s = G' y s)
    (hH : ∀ r s1, G y s = (some r, s1) → H (consumed y r) r s1 = H' (consumed y r) r s1) :
    seqScan G H y s = seqScan G' H' y s := by
  unfold seqScan
  rw [← hG]
  generalize hres : G y s = res
  obtain ⟨o, s1⟩ := res
  cases o with
  | none => rfl
  | some r => exact hH r s1 hres

variable (qs : List Mime.Gen.Json.Query) (cap : Nat)

/-- `arrayLoop` after a value -/
def arrAfter (fuel lvl : Nat) : Scan := fun r2 s2 =>
  match r2 with
  | [] => (none, s2)
  | d :: ds =>
    if d == 0x2C then arrayLoop qs cap fuel lvl ds s2.bump
    else if d == 0x5D then (some ds, s2.bump.pop)
    else (none, s2)

/-- `arrayLoop` after the leading white space -/
def arrHead (fuel lvl : Nat) : Scan := fun y s1 =>
  match y with
  | [] => (none, s1)
  | c :: cs =>
    if c == 0x5D then (some cs, s1.bump.pop) else
    match consumeAny qs cap fuel lvl (c :: cs) s1 with
    | (some r2, s2) => arrAfter qs cap fuel lvl r2 s2
    | (none, s2) => (none, s2)

theorem arrayLoop_eq (fuel lvl : Nat) (b : Bytes) (s : PState) :
    arrayLoop qs cap (fuel + 1) lvl b s =
      match spaceScan b s with
      | (some y, s1) => arrHead qs cap fuel lvl y s1
      | (none, s1) => (none, s1) := by
  rw [arrayLoop]
  simp only [spaceScan]
  generalize consumeSpace b s = res
  obtain ⟨y, s1⟩ := res
  cases y with
  | nil => rfl
  | cons c cs =>
    refine ite_congr rfl (fun _ => rfl) fun _ => ?_
    generalize consumeAny qs cap fuel lvl (c :: cs) s1 = res2
    obtain ⟨o, s2⟩ := res2
    cases o with
    | none => rfl
    | some r2 => cases r2 <;> rfl

/-- `arrayLoop_eq` with the white space scanned: the form to rewrite with (the `match` form above is the one that
    follows the definition) -/
theorem arrayLoop_succ (fuel lvl : Nat) (b : Bytes) (s : PState) :
    arrayLoop qs cap (fuel + 1) lvl b s =
      arrHead qs cap fuel lvl (J.skipWs b) (s.bump (b.length - (J.skipWs b).length)) := by
  rw [arrayLoop_eq, spaceScan_val]

/-- `objectLoop` after a member value; `tag` = the bytes of the value -/
def objAfterVal (fuel lvl : Nat) (qm : Option Mime.Gen.Json.Query) (tag : Bytes) : Scan := fun r2 s6 =>
  match r2 with
  | [] => (none, applyQuery qm tag s6)
  | g :: gs =>
    if g == 0x2C then objectLoop qs cap fuel lvl gs (applyQuery qm tag s6).pop.bump
    else if g == 0x7D then (some gs, (applyQuery qm tag s6).pop.bump)
    else (none, applyQuery qm tag s6)

/-- `objectLoop` at a member's value (white space skipped) -/
def objValue (fuel lvl : Nat) (qm : Option Mime.Gen.Json.Query) : Scan := fun y s5 =>
  match y with
  | [] => (none, s5)
  | e :: es =>
    match consumeAny qs cap fuel lvl (e :: es) s5 with
    | (some r2, s6) => objAfterVal qs cap fuel lvl qm (consumed (e :: es) r2) r2 s6
    | (none, s6) => (none, s6)

/-- `objectLoop` after the key and white space: the colon, white space, then the value -/
def objColon (fuel lvl : Nat) (qm : Option Mime.Gen.Json.Query) : Scan := fun y s4 =>
  match y with
  | [] => (none, s4)
  | d :: ds =>
    if d != 0x3A then (none, s4) else
    match spaceScan ds s4.bump with
    | (some z, s5) => objValue qs cap fuel lvl qm z s5
    | (none, s5) => (none, s5)

/-- after the key string; `tag` = the bytes of the key including the closing quote -/
def objAfterKey (fuel lvl : Nat) (tag : Bytes) : Scan := fun r s2 =>
  let s3 := s2.push tag.dropLast
  let qm := if s3.querySatisfied then none else queryPathMatch qs s3.currPath
  match spaceScan r s3 with
  | (some y, s4) => objColon qs cap fuel lvl qm y s4
  | (none, s4) => (none, s4)

/-- `objectLoop` after the leading white space: `}`, or a member beginning with its key -/
def objHead (fuel lvl : Nat) : Scan := fun y s1 =>
  match y with
  | [] => (none, s1)
  | c :: cs =>
    if c == 0x7D then (some cs, s1.bump) else
    if c != 0x22 then (none, s1) else
    match consumeString .norm cs s1.bump with
    | (some r, s2) => objAfterKey qs cap fuel lvl (consumed cs r) r s2
    | (none, s2) => (none, s2)

theorem objectLoop_eq (fuel lvl : Nat) (b : Bytes) (s : PState) :
    objectLoop qs cap (fuel + 1) lvl b s =
      match spaceScan b s with
      | (some y, s1) => objHead qs cap fuel lvl y s1
      | (none, s1) => (none, s1) := by
  rw [objectLoop]
  simp only [spaceScan]
  -- the same tests in the same order on both sides; every scanner result is opened in turn
  generalize consumeSpace b s = res
  obtain ⟨y, s1⟩ := res
  cases y with
  | nil => rfl
  | cons c cs =>
    refine ite_congr rfl (fun _ => rfl) fun _ => ite_congr rfl (fun _ => rfl) fun _ => ?_
    generalize consumeString .norm cs s1.bump = res2
    obtain ⟨o, s2⟩ := res2
    cases o with
    | none => rfl
    | some r =>
      dsimp only [objAfterKey, spaceScan]
      generalize consumeSpace r _ = res3
      obtain ⟨y3, s4⟩ := res3
      cases y3 with
      | nil => rfl
      | cons d ds =>
        refine ite_congr rfl (fun _ => rfl) fun _ => ?_
        dsimp only [spaceScan]
        generalize consumeSpace ds _ = res4
        obtain ⟨y4, s5⟩ := res4
        cases y4 with
        | nil => rfl
        | cons e es =>
          dsimp only [objValue]
          generalize consumeAny qs cap fuel lvl (e :: es) s5 = res5
          obtain ⟨o5, s6⟩ := res5
          cases o5 with
          | none => rfl
          | some r2 => cases r2 <;> rfl

/-- `objectLoop_eq` with the white space scanned -/
theorem objectLoop_succ (fuel lvl : Nat) (b : Bytes) (s : PState) :
    objectLoop qs cap (fuel + 1) lvl b s =
      objHead qs cap fuel lvl (J.skipWs b) (s.bump (b.length - (J.skipWs b).length)) := by
  rw [objectLoop_eq, spaceScan_val]

theorem objAfterKey_eq (fuel lvl : Nat) (tag r : Bytes) (s2 : PState) :
    objAfterKey qs cap fuel lvl tag r s2 =
      objColon qs cap fuel lvl
        (if (s2.push tag.dropLast).querySatisfied then none else queryPathMatch qs (s2.push tag.dropLast).currPath)
        (J.skipWs r) ((s2.push tag.dropLast).bump (r.length - (J.skipWs r).length)) := by
  simp only [objAfterKey, spaceScan_val]

theorem objColon_colon (fuel lvl : Nat) (qm : Option Mime.Gen.Json.Query) (ds : Bytes) (s4 : PState) :
    objColon qs cap fuel lvl qm (0x3A :: ds) s4 =
      objValue qs cap fuel lvl qm (J.skipWs ds) (s4.bump.bump (ds.length - (J.skipWs ds).length)) := by
  simp only [objColon, spaceScan_val]; rfl

theorem arrHead_seq (fuel lvl : Nat) {c : Nat} (hc : ¬ (c == 0x5D) = true) (cs : Bytes) (s1 : PState) :
    arrHead qs cap fuel lvl (c :: cs) s1 =
      seqScan (consumeAny qs cap fuel lvl) (fun _ => arrAfter qs cap fuel lvl) (c :: cs) s1 := by
  simp only [arrHead, seqScan, if_neg hc]

theorem objValue_seq (fuel lvl : Nat) (qm : Option Mime.Gen.Json.Query) (e : Nat) (es : Bytes) (s5 : PState) :
    objValue qs cap fuel lvl qm (e :: es) s5 =
      seqScan (consumeAny qs cap fuel lvl) (objAfterVal qs cap fuel lvl qm) (e :: es) s5 := rfl

theorem objHead_seq (fuel lvl : Nat) (cs : Bytes) (s1 : PState) :
    objHead qs cap fuel lvl (0x22 :: cs) s1 =
      seqScan (consumeString .norm) (objAfterKey qs cap fuel lvl) cs s1.bump := by
  simp [objHead, seqScan]

/-- the dispatched scanner of `consumeAny`, as a function of the whole rest (first byte included) -/
def kindScan (fuel lvl : Nat) : Kind → Scan
  | .str => fun y st => match y with
    | [] => (none, st)
    | _ :: cs => consumeString .norm cs st.bump
  | .arr => fun y st => match y with
    | [] => (none, st)
    | _ :: cs => if cs.isEmpty then (none, st.bump.push [0x5B]) else arrayLoop qs cap fuel (lvl + 1) cs (st.bump.push [0x5B])
  | .obj => fun y st => match y with
    | [] => (none, st)
    | _ :: cs => objectLoop qs cap fuel (lvl + 1) cs st.bump
  | .litT => fun y st => consumeConst y wTrue st
  | .litF => fun y st => consumeConst y wFalse st
  | .litN => fun y st => consumeConst y wNull st
  | .num => fun y st => consumeNumber .start y st

/-- `G` followed by the tail of `consumeAny` (`finishAny`: flags, trailing white space) -/
def finishScan (lvl t : Nat) (G : Scan) : Scan := fun y st => finishAny qs.isEmpty lvl t (G y st)

/-- `consumeAny` after the cap test and the leading white space -/
def anyHead (fuel lvl : Nat) : Scan := fun y s1 =>
  match y with
  | [] => (none, s1)
  | c :: cs => finishScan qs lvl (classify c).tok (kindScan qs cap fuel lvl (classify c)) (c :: cs) s1

theorem consumeAny_eq (fuel lvl : Nat) (b : Bytes) (s : PState) :
    consumeAny qs cap (fuel + 1) lvl b s =
      if cap != 0 && lvl > cap then (none, s.enter lvl) else
      match spaceScan b (s.enter lvl) with
      | (some y, s1) => anyHead qs cap fuel lvl y s1
      | (none, s1) => (none, s1) := by
  rw [consumeAny]
  simp only [spaceScan]
  refine ite_congr rfl (fun _ => rfl) fun _ => ?_
  generalize consumeSpace b _ = res
  obtain ⟨y, s1⟩ := res
  cases y with
  | nil => rfl
  | cons c cs =>
    simp only [anyHead, finishScan]
    congr 1
    cases classify c <;> rfl

/-- `consumeAny_eq` with the white space scanned -/
theorem consumeAny_succ (fuel lvl : Nat) (b : Bytes) (s : PState) :
    consumeAny qs cap (fuel + 1) lvl b s =
      if cap != 0 && lvl > cap then (none, s.enter lvl) else
      anyHead qs cap fuel lvl (J.skipWs b) ((s.enter lvl).bump (b.length - (J.skipWs b).length)) := by
  rw [consumeAny_eq, spaceScan_val]

theorem consumeAny_nil (fuel lvl : Nat) (s : PState) : (consumeAny qs cap fuel lvl [] s).1 = none := by
  cases fuel with
  | zero => rfl
  | succ f => rw [consumeAny]; simp only [consumeSpace]; split <;> rfl

theorem arrayLoop_nil (fuel lvl : Nat) (s : PState) : (arrayLoop qs cap fuel lvl [] s).1 = none := by
  cases fuel with
  | zero => rfl
  | succ f => rw [arrayLoop]; rfl

theorem objectLoop_nil (fuel lvl : Nat) (s : PState) : (objectLoop qs cap fuel lvl [] s).1 = none := by
  cases fuel with
  | zero => rfl
  | succ f => rw [objectLoop]; rfl

theorem kindScan_nil (f lvl : Nat) (k : Kind) (st : PState) : (kindScan qs cap f lvl k [] st).1 = none := by
  cases k <;> rfl

end Mime.JsonPrefix

namespace Mime.JsonForward
open Mime Mime.Json Mime.Spec Mime.SpecComplete Mime.JsonLeaf

theorem classify_cases (c : Nat) :
    (c = 0x22 ∧ classify c = .str) ∨ (c = 0x5B ∧ classify c = .arr) ∨ (c = 0x7B ∧ classify c = .obj) ∨
    (c = 0x74 ∧ classify c = .litT) ∨ (c = 0x66 ∧ classify c = .litF) ∨ (c = 0x6E ∧ classify c = .litN) ∨
    (c ≠ 0x22 ∧ c ≠ 0x5B ∧ c ≠ 0x7B ∧ c ≠ 0x74 ∧ c ≠ 0x66 ∧ c ≠ 0x6E ∧ classify c = .num) := by
  by_cases h1 : c = 0x22
  · exact Or.inl ⟨h1, h1 ▸ rfl⟩
  by_cases h2 : c = 0x5B
  · exact Or.inr (Or.inl ⟨h2, h2 ▸ rfl⟩)
  by_cases h3 : c = 0x7B
  · exact Or.inr (Or.inr (Or.inl ⟨h3, h3 ▸ rfl⟩))
  by_cases h4 : c = 0x74
  · exact Or.inr (Or.inr (Or.inr (Or.inl ⟨h4, h4 ▸ rfl⟩)))
  by_cases h5 : c = 0x66
  · exact Or.inr (Or.inr (Or.inr (Or.inr (Or.inl ⟨h5, h5 ▸ rfl⟩))))
  by_cases h6 : c = 0x6E
  · exact Or.inr (Or.inr (Or.inr (Or.inr (Or.inr (Or.inl ⟨h6, h6 ▸ rfl⟩)))))
  refine Or.inr (Or.inr (Or.inr (Or.inr (Or.inr (Or.inr ⟨h1, h2, h3, h4, h5, h6, ?_⟩)))))
  unfold classify
  rw [if_neg (beq_ne h1), if_neg (beq_ne h2), if_neg (beq_ne h3), if_neg (beq_ne h4), if_neg (beq_ne h5), if_neg (beq_ne h6)]

/-- the grammar's dispatch on the first byte of a value is the scanner's `classify` -/
theorem valueHead_classify (s : Bool) (f c : Nat) (cs : Bytes) :
    valueHead s f c cs =
      match classify c with
      | .str => wrap .str (J.str s cs [])
      | .arr => J.items s f cs [] true
      | .obj => J.members s f cs [] true
      | .litT => wrap (fun _ => .bool true) (J.lit wTrue (c :: cs))
      | .litF => wrap (fun _ => .bool false) (J.lit wFalse (c :: cs))
      | .litN => wrap (fun _ => .null) (J.lit wNull (c :: cs))
      | .num => wrap (fun _ => .num) (if s then J.numStrict (c :: cs) else J.numRelaxed (c :: cs)) := by
  rcases classify_cases c with
    ⟨rfl, hk⟩ | ⟨rfl, hk⟩ | ⟨rfl, hk⟩ | ⟨rfl, hk⟩ | ⟨rfl, hk⟩ | ⟨rfl, hk⟩ |
    ⟨n1, n2, n3, n4, n5, n6, hk⟩
  -- six literal first bytes, on which both sides compute; then the number case
  · rw [hk]
    rfl
  · rw [hk]
    rfl
  · rw [hk]
    rfl
  · rw [hk]
    rfl
  · rw [hk]
    rfl
  · rw [hk]
    rfl
  · rw [hk, valueHead, if_neg (beq_ne n1), if_neg (beq_ne n2), if_neg (beq_ne n3), if_neg (beq_ne n4), if_neg (beq_ne n5),
      if_neg (beq_ne n6)]

end Mime.JsonForward
