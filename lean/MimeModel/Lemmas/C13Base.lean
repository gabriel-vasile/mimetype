import MimeModel.Model.Custom
import MimeModel.Lemmas.Lines
import MimeModel.Lemmas.DetectTie
import MimeModel.Spec.All
import MimeModel.Lemmas.JsonBackC
import MimeModel.Props.C08
/-
  C13 — line-oriented formats survive truncation and require well-formed lines.
  Here: what `dropLastLine` keeps, NDJSON in both directions (`ndjson_sound`, `ndjson_complete`), and
  `whole_and_cut`, from which every check that reads through `dropLastLine` gets its forward theorem.
-/
namespace Mime.C13Base
open Mime Mime.Cust Mime.Json Mime.Spec Mime.JsonLeaf Mime.JsonBack
open Mime.LinesLemmas

theorem dropLastLine_whole (b : Bytes) (lim : Nat) (h : lim = 0 ∨ b.length < lim) : dropLastLine b lim = b := by
  unfold dropLastLine
  rcases h with h | h
  · simp [h]
  · simp [h]

theorem dropLastLine_prefix (b : Bytes) (lim : Nat) : dropLastLine b lim <+: b := by
  unfold dropLastLine
  split
  · exact List.prefix_refl _
  · split
    · exact List.prefix_refl _
    · split
      · exact List.take_prefix _ _
      · exact List.prefix_refl _

/-- the lines of a byte string: split at LF, one trailing CR dropped per line; text after the
    last LF is a line only when it is not empty -/
def linesAux : Nat → Bytes → List Bytes
  | 0, _ => []
  | f + 1, b => if b.isEmpty then [] else (scanLine b).1 :: linesAux f (scanLine b).2

def lines (b : Bytes) : List Bytes := linesAux (b.length + 1) b

/-- a line the stream may contain: blank, or one complete JSON value of the relaxed grammar
    with only white space around it -/
def LineOK (l : Bytes) : Prop := isBlankLine l = true ∨ ∃ v, lineValue l = some v

def ContainerLine (l : Bytes) : Prop := ∃ v, lineValue l = some v ∧ isContainer v = true

theorem skipWs_nil_blank (l : Bytes) (h : J.skipWs l = []) : isBlankLine l = true := by
  induction l with
  | nil => rfl
  | cons c cs ih =>
    simp only [J.skipWs] at h
    split at h
    · rename_i hw
      simp only [isBlankLine, List.all_cons, hw, Bool.true_and]
      exact ih h
    · cases h

theorem tok_ne_invalid (c : Nat) : (classify c).tok ≠ tokInvalid := by
  rcases JsonForward.classify_cases c with ⟨_, h⟩ | ⟨_, h⟩ | ⟨_, h⟩ | ⟨_, h⟩ | ⟨_, h⟩ | ⟨_, h⟩ | ⟨_, _, _, _, _, _, h⟩ <;>
    rw [h] <;> decide

theorem tok_container (c : Nat) : ((classify c).tok == tokArray || (classify c).tok == tokObject) = (c == 0x5B || c == 0x7B) := by
  rcases JsonForward.classify_cases c with ⟨rfl, h⟩ | ⟨rfl, h⟩ | ⟨rfl, h⟩ | ⟨rfl, h⟩ | ⟨rfl, h⟩ | ⟨rfl, h⟩ | ⟨_, n2, n3, _, _, _, h⟩
  all_goals (rw [h]; try decide)
  have e2 : (c == 0x5B) = false := by simpa using n2
  have e3 : (c == 0x7B) = false := by simpa using n3
  rw [e2, e3]; decide

theorem value_container (strict : Bool) (f : Nat) (l : Bytes) (c : Nat) (cs : Bytes) (v : J.JVal) (r : Bytes)
    (hsk : J.skipWs l = c :: cs) (hv : J.value strict f l = .ok v r) :
    isContainer v = (c == 0x5B || c == 0x7B) := by
  rw [← JsonQuery.value_containerV strict f l c cs v r hsk hv]
  cases v <;> rfl

theorem firstToken_eq {l : Bytes} {c : Nat} {cs : Bytes} (hsk : J.skipWs l = c :: cs) :
    (Json.parse Gen.Json.q_json l).firstToken = (classify c).tok :=
  (C08.top_flags Gen.Json.maxRecursion (2 * l.length + 3) l PState.fresh.reset c cs hsk (by decide)).1

theorem line_accepted (l : Bytes)
    (h : (l.length != (Json.parse Gen.Json.q_json l).parsed &&
          !((Json.parse Gen.Json.q_json l).firstToken == tokInvalid && l.length == (Json.parse Gen.Json.q_json l).inspected)) = false) :
    LineOK l ∧ (((Json.parse Gen.Json.q_json l).firstToken == tokArray || (Json.parse Gen.Json.q_json l).firstToken == tokObject) = true →
      ContainerLine l) := by
  cases hsk : J.skipWs l with
  | nil =>
    have hb := skipWs_nil_blank l hsk
    refine ⟨Or.inl hb, ?_⟩
    intro hc
    exfalso
    -- a blank line leaves firstToken invalid
    have hq : Gen.Json.q_json = [] := rfl
    simp only [Json.parse, parseWith, fuelFor, hq] at hc
    rw [show 2 * l.length + 4 = (2 * l.length + 3) + 1 from rfl, consumeAny] at hc
    simp only [consumeSpace_spec, hsk] at hc
    have hcap : (Gen.Json.maxRecursion != 0 && decide (0 > Gen.Json.maxRecursion)) = false := by decide
    simp only [hcap, Bool.false_eq_true, ↓reduceIte] at hc
    simp [PState.bump, PState.enter, PState.reset, PState.fresh, tokInvalid, tokArray, tokObject] at hc
  | cons c cs =>
    rw [firstToken_eq hsk] at h ⊢
    have hne : ((classify c).tok == tokInvalid) = false := by
      simpa using tok_ne_invalid c
    simp only [hne, Bool.false_and, Bool.not_false, Bool.and_true, bne_eq_false_iff_eq] at h
    have hlne : l ≠ [] := by intro e; subst e; simp [J.skipWs] at hsk
    have hpos : 0 < l.length := List.length_pos_iff.mpr hlne
    have hb := (back_all Gen.Json.q_json Gen.Json.maxRecursion (fuelFor l)).1 0 l PState.fresh.reset (by simp [fuelFor])
    simp only [Json.parse, parseWith] at h
    generalize consumeAny Gen.Json.q_json Gen.Json.maxRecursion (fuelFor l) 0 l PState.fresh.reset = run at h hb
    obtain ⟨o, s'⟩ := run
    cases o with
    | none => simp only at h; omega
    | some rest =>
      simp only at h
      obtain ⟨⟨v, hv⟩, _, h3⟩ := hb
      have hrest : rest = [] := List.eq_nil_of_length_eq_zero (by omega)
      subst hrest
      rcases valueWs_cases (fuelFor l) l with ⟨v', r0, e1, e2⟩ | ⟨e1, e2⟩ | ⟨e1, e2⟩
      · rw [e2] at hv
        simp only [J.R.ok.injEq] at hv
        have hlv : lineValue l = some v' := by
          unfold lineValue
          have hff : J.fuelFor l = fuelFor l := rfl
          rw [hff, e1]
          simp [hv.2]
        refine ⟨Or.inr ⟨v', hlv⟩, ?_⟩
        intro hc
        refine ⟨v', hlv, ?_⟩
        rw [value_container false (fuelFor l) l c cs v' r0 hsk e1, ← tok_container]
        exact hc
      · rw [e2] at hv; cases hv
      · rw [e2] at hv; cases hv

theorem loop_sound : ∀ (f : Nat) (b : Bytes) (lc oa lc' oa' : Nat),
    ndjsonLoop f b lc oa = some (lc', oa') →
    lc' = lc + (linesAux f b).length ∧ (∀ l ∈ linesAux f b, LineOK l) ∧
    (oa < oa' → ∃ l ∈ linesAux f b, ContainerLine l) := by
  intro f
  induction f with
  | zero =>
    intro b lc oa lc' oa' h
    simp only [ndjsonLoop, Option.some.injEq, Prod.mk.injEq] at h
    obtain ⟨rfl, rfl⟩ := h
    simp [linesAux]
  | succ f ih =>
    intro b lc oa lc' oa' h
    rw [ndjsonLoop] at h
    by_cases hb : b.isEmpty = true
    · simp only [hb, ↓reduceIte, Option.some.injEq, Prod.mk.injEq] at h
      obtain ⟨rfl, rfl⟩ := h
      simp [linesAux, hb]
    · simp only [hb, Bool.false_eq_true, ↓reduceIte] at h
      split at h
      · cases h
      · rename_i hacc
        have hacc' := line_accepted (scanLine b).1 (by simpa using hacc)
        obtain ⟨i1, i2, i3⟩ := ih _ _ _ _ _ h
        simp only [linesAux, hb, Bool.false_eq_true, ↓reduceIte, List.length_cons, List.mem_cons, forall_eq_or_imp]
        refine ⟨by omega, ⟨hacc'.1, i2⟩, ?_⟩
        intro hlt
        by_cases hc : (((Json.parse Gen.Json.q_json (scanLine b).1).firstToken == tokArray ||
            (Json.parse Gen.Json.q_json (scanLine b).1).firstToken == tokObject) = true)
        · exact ⟨_, Or.inl rfl, hacc'.2 hc⟩
        · simp only [hc, Bool.false_eq_true, ↓reduceIte] at i3
          obtain ⟨l, hl, hcl⟩ := i3 hlt
          exact ⟨l, Or.inr hl, hcl⟩

/-- **C13 (NDJSON, converse)**: NDJSON is reported only if, among the complete lines of the
    examined bytes (the cut-off last line dropped in truncated mode), there are at least two,
    every one is blank or a complete JSON value, and at least one is an object or array -/
theorem ndjson_sound (raw : Bytes) (lim : Nat) (h : ndjson raw lim = true) :
    let ls := lines (dropLastLine raw lim)
    2 ≤ ls.length ∧ (∀ l ∈ ls, LineOK l) ∧ ∃ l ∈ ls, ContainerLine l := by
  unfold ndjson at h
  simp only at h
  split at h
  · cases h
  · rename_i lc oa hloop
    simp only [Bool.and_eq_true, decide_eq_true_eq] at h
    obtain ⟨i1, i2, i3⟩ := loop_sound _ _ _ _ _ _ hloop
    exact ⟨by simp only [lines]; omega, i2, i3 (by omega)⟩

def joinLF : List Bytes → Bytes
  | [] => []
  | [l] => l
  | l :: l2 :: ls => l ++ 0x0A :: joinLF (l2 :: ls)

/-- a record: after removing the CR of a CRLF terminator, one RFC 8259 value (any kind, depth
    within the cap) with only white space around it -/
def RecordOK (l : Bytes) : Prop :=
  ∃ v r, J.value true (J.fuelFor (dropCR l)) (dropCR l) = .ok v r ∧ J.skipWs r = [] ∧ J.depth v ≤ Gen.Json.maxRecursion

def RecordContainer (l : Bytes) : Prop :=
  ∃ v r, J.value true (J.fuelFor (dropCR l)) (dropCR l) = .ok v r ∧ isContainer v = true

def tokFlag (l : Bytes) : Bool :=
  (Json.parse Gen.Json.q_json (dropCR l)).firstToken == tokArray || (Json.parse Gen.Json.q_json (dropCR l)).firstToken == tokObject

theorem record_parsed (l : Bytes) (h : RecordOK l) :
    (Json.parse Gen.Json.q_json (dropCR l)).parsed = (dropCR l).length ∧ dropCR l ≠ [] := by
  obtain ⟨v, r, hv, hr, hd⟩ := h
  have hne : dropCR l ≠ [] := by
    intro e
    rw [e] at hv
    simp [J.value, J.fuelFor, J.skipWs] at hv
  refine ⟨?_, hne⟩
  have hfw := (JsonForward.forward_all Gen.Json.q_json Gen.Json.maxRecursion (J.fuelFor (dropCR l))).1 0 (dropCR l) v r
    PState.fresh.reset hv (JsonForward.delim_of_ws_only r (by simp [hr])) (Or.inr (by omega))
  obtain ⟨f1, _, _⟩ := hfw
  rw [hr] at f1
  simp only [Json.parse, parseWith]
  have hff : fuelFor (dropCR l) = J.fuelFor (dropCR l) := rfl
  rw [hff]
  generalize consumeAny Gen.Json.q_json Gen.Json.maxRecursion (J.fuelFor (dropCR l)) 0 (dropCR l) PState.fresh.reset = res at f1
  obtain ⟨o, s'⟩ := res
  simp only at f1
  subst f1
  simp

theorem record_flag (l : Bytes) (h : RecordContainer l) : tokFlag l = true := by
  obtain ⟨v, r, hv, hc⟩ := h
  cases hsk : J.skipWs (dropCR l) with
  | nil =>
    have : J.value true (J.fuelFor (dropCR l)) (dropCR l) = .more := by
      simp [J.fuelFor, J.value, hsk]
    rw [this] at hv; cases hv
  | cons c cs =>
    unfold tokFlag
    rw [firstToken_eq hsk, tok_container, ← value_container true _ _ c cs v r hsk hv]
    exact hc

theorem loop_forward : ∀ (ls : List Bytes), ls ≠ [] → (∀ l ∈ ls, NoLF l ∧ RecordOK l) →
    ∀ (f lc oa : Nat) (tail : Bytes), (tail = [] ∨ tail = [0x0A]) → (joinLF ls ++ tail).length < f →
    ndjsonLoop f (joinLF ls ++ tail) lc oa = some (lc + ls.length, oa + (ls.filter tokFlag).length) := by
  intro ls
  induction ls with
  | nil => intro h; exact absurd rfl h
  | cons l rest ih =>
    intro _ hall f lc oa tail htail hf
    obtain ⟨hnolf, hrec⟩ := hall l (List.mem_cons_self ..)
    obtain ⟨hparsed, hne⟩ := record_parsed l hrec
    have hlne : l ≠ [] := by
      intro e; subst e; exact hne (by simp [dropCR])
    obtain ⟨f', rfl⟩ : ∃ f', f = f' + 1 := ⟨f - 1, by omega⟩
    have step : ∀ (rest' : Bytes), cutNL (joinLF (l :: rest) ++ tail) = (l, rest') →
        ndjsonLoop (f' + 1) (joinLF (l :: rest) ++ tail) lc oa =
          ndjsonLoop f' rest' (lc + 1) (if tokFlag l then oa + 1 else oa) := by
      intro rest' hcut
      rw [ndjsonLoop]
      have hb : (joinLF (l :: rest) ++ tail).isEmpty = false := by
        cases rest with
        | nil => cases l with
          | nil => exact absurd rfl hlne
          | cons _ _ => rfl
        | cons _ _ => cases l <;> rfl
      simp only [hb, Bool.false_eq_true, ↓reduceIte, scanLine, hcut]
      have hacc : ((dropCR l).length != (Json.parse Gen.Json.q_json (dropCR l)).parsed &&
          !((Json.parse Gen.Json.q_json (dropCR l)).firstToken == tokInvalid &&
            (dropCR l).length == (Json.parse Gen.Json.q_json (dropCR l)).inspected)) = false := by
        rw [hparsed]; simp
      rw [if_neg (by rw [hacc]; simp)]
      rfl
    cases rest with
    | nil =>
      have hcut : cutNL (joinLF [l] ++ tail) = (l, []) := by
        rcases htail with rfl | rfl
        · simpa [joinLF] using cutNL_noLF l hnolf
        · simpa [joinLF] using cutNL_line l [] hnolf
      rw [step [] hcut]
      have : ∀ (a b : Nat), ndjsonLoop f' [] a b = some (a, b) := by
        intro a b; cases f' <;> simp [ndjsonLoop]
      rw [this]
      simp only [List.length_cons, List.length_nil, List.filter_cons, List.filter_nil]
      split <;> simp
    | cons l2 rest2 =>
      have hcut : cutNL (joinLF (l :: l2 :: rest2) ++ tail) = (l, joinLF (l2 :: rest2) ++ tail) := by
        simpa [joinLF] using cutNL_line l (joinLF (l2 :: rest2) ++ tail) hnolf
      rw [step _ hcut]
      have hlen : (joinLF (l2 :: rest2) ++ tail).length < f' := by
        simp only [joinLF, List.append_assoc, List.length_append, List.length_cons] at hf ⊢
        omega
      rw [ih (by simp) (fun x hx => hall x (List.mem_cons_of_mem _ hx)) f' _ _ tail htail hlen]
      simp only [List.length_cons, List.filter_cons]
      split <;> simp <;> omega

theorem dropLastLine_cut (a p : Bytes) (lim : Nat) (ha : a ≠ []) (hp : NoLF p) (hl : lim ≠ 0)
    (hlen : lim ≤ (a ++ 0x0A :: p).length) : dropLastLine (a ++ 0x0A :: p) lim = a := by
  unfold dropLastLine
  have hc : (lim == 0 || decide ((a ++ 0x0A :: p).length < lim)) = false := by
    simp only [Bool.or_eq_false_iff, beq_eq_false_iff_ne, decide_eq_false_iff_not]
    exact ⟨hl, by omega⟩
  rw [if_neg (by rw [hc]; simp)]
  cases a with
  | nil => exact absurd rfl ha
  | cons x xs =>
    simp only [List.cons_append]
    rw [lastIdx_last xs p hp]
    simp

/-- the shape of the forward theorems of C13: the check `f` reports `body` when it is examined
    whole (with or without a final LF), and when the limit cuts anywhere in a later line `part`,
    which is incomplete and ignored -/
def SurvivesCut (f : Bytes → Nat → Bool) (body : Bytes) : Prop :=
  (∀ tail lim, (tail = [] ∨ tail = [0x0A]) → (lim = 0 ∨ (body ++ tail).length < lim) →
    f (body ++ tail) lim = true) ∧
  (∀ part lim, NoLF part → lim ≠ 0 → lim ≤ (body ++ 0x0A :: part).length →
    f (body ++ 0x0A :: part) lim = true)

/-- a check that sees its input through `dropLastLine` only and accepts `body` with or without a
    final LF survives the cut -/
theorem whole_and_cut {f : Bytes → Nat → Bool} {g : Bytes → Bool}
    (hf : ∀ raw lim, f raw lim = g (dropLastLine raw lim)) (body : Bytes) (hne : body ≠ [])
    (hg : ∀ tail, (tail = [] ∨ tail = [0x0A]) → g (body ++ tail) = true) : SurvivesCut f body := by
  constructor
  · intro tail lim ht hw
    rw [hf, dropLastLine_whole _ _ hw]
    exact hg tail ht
  · intro part lim hp hl hlen
    rw [hf, dropLastLine_cut body part lim hne hp hl hlen]
    have := hg [] (Or.inl rfl)
    rwa [List.append_nil] at this

theorem joinLF_ne_nil (l l2 : Bytes) (rest : List Bytes) : joinLF (l :: l2 :: rest) ≠ [] := by
  simp [joinLF]

theorem ndjson_dropLastLine (raw : Bytes) (lim : Nat) : ndjson raw lim = ndjson (dropLastLine raw lim) 0 := by
  unfold ndjson
  rw [dropLastLine_whole (dropLastLine raw lim) 0 (Or.inl rfl)]

/-- **C13 (NDJSON, forward)**: a stream of at least two records, one per line (LF or CRLF),
    at least one of them an object or array, is reported: when examined whole (with or without
    a final newline), and when the limit cuts it anywhere after these lines — `part` is the
    incomplete last line, which is ignored -/
theorem ndjson_complete (ls : List Bytes) (h2 : 2 ≤ ls.length) (hall : ∀ l ∈ ls, NoLF l ∧ RecordOK l)
    (hcont : ∃ l ∈ ls, RecordContainer l) :
    (∀ tail lim, (tail = [] ∨ tail = [0x0A]) → (lim = 0 ∨ (joinLF ls ++ tail).length < lim) →
      ndjson (joinLF ls ++ tail) lim = true) ∧
    (∀ part lim, NoLF part → lim ≠ 0 → lim ≤ (joinLF ls ++ 0x0A :: part).length →
      ndjson (joinLF ls ++ 0x0A :: part) lim = true) := by
  have hne : ls ≠ [] := by intro e; subst e; simp at h2
  have hcount : 0 < (ls.filter tokFlag).length := by
    obtain ⟨l, hl, hc⟩ := hcont
    exact List.length_pos_iff.mpr (List.ne_nil_of_mem (List.mem_filter.mpr ⟨hl, record_flag l hc⟩))
  have hjne : joinLF ls ≠ [] := by
    match ls, h2 with
    | l :: l2 :: rest, _ => exact joinLF_ne_nil l l2 rest
  refine whole_and_cut (f := ndjson) (g := fun b => ndjson b 0) ndjson_dropLastLine (joinLF ls) hjne ?_
  intro tail ht
  have := loop_forward ls hne hall ((joinLF ls ++ tail).length + 1) 0 0 tail ht (Nat.lt_succ_self _)
  unfold ndjson
  rw [dropLastLine_whole _ 0 (Or.inl rfl)]
  simp only [this, Bool.and_eq_true, decide_eq_true_eq]
  omega

/- non-vacuity: a two-line stream {"a":1} LF 2 -/
example : ndjson [0x7B, 0x22, 0x61, 0x22, 0x3A, 0x31, 0x7D, 0x0A, 0x32] 0 = true := by decide +kernel

/-- regenerated tie: `Detect` / `DetectReader` load the limit once, atomically (see Lemmas/DetectTie.lean) -/
theorem tie_single_limit : Mime.DetectTie.SingleLimit := Mime.DetectTie.single_limit

end Mime.C13Base
