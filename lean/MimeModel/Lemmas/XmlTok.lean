import MimeModel.Model.XmlTok
import MimeModel.Model.MediaType
import MimeModel.Props.C12
import MimeModel.Lemmas.Bytes
/-
  Theorems about the model of the first raw token of `encoding/xml` (`Model/XmlTok.lean`)
  and the byte-level C12 XML clause: a declared encoding is reported.
-/
namespace Mime.XmlTokLemmas
open Mime Mime.Charset Mime.XmlTok

theorem dropWhile_all {p : Nat → Bool} (ws r : Bytes) (h : ∀ c ∈ ws, p c = true) :
    (ws ++ r).dropWhile p = r.dropWhile p := List.dropWhile_append_of_pos h

theorem dropWhile_append_stop {p : Nat → Bool} (s : Bytes) (x : Nat) (r : Bytes) (hx : p x = false) :
    (s ++ x :: r).dropWhile p = s.dropWhile p ++ x :: r := by
  induction s with
  | nil => simp [List.dropWhile, hx]
  | cons c cs ih =>
    simp only [List.cons_append, List.dropWhile]
    cases p c <;> simp [ih]

theorem untilPIEnd_first {inst : Bytes} (rest : Bytes) (h : ¬ piEnd <:+: inst) :
    untilPIEnd (inst ++ piEnd ++ rest) = some inst := by
  induction inst with
  | nil => simp [untilPIEnd, piEnd, hasPrefix, List.isPrefixOf]
  | cons a t ih =>
    have ht : ¬ piEnd <:+: t := fun hi => h (List.IsInfix.trans hi (List.suffix_cons a t).isInfix)
    have hp : hasPrefix (a :: (t ++ piEnd ++ rest)) piEnd = false := by
      cases t with
      | nil =>
        simp only [piEnd, hasPrefix, List.nil_append, List.cons_append, List.isPrefixOf]
        simp
      | cons b t' =>
        simp only [piEnd, hasPrefix, List.cons_append, List.isPrefixOf, Bool.and_true]
        apply Bool.eq_false_iff.mpr
        intro hab
        simp only [Bool.and_eq_true, beq_iff_eq] at hab
        apply h
        refine ⟨[], t', ?_⟩
        simp [piEnd, hab.1, hab.2]
    simp only [List.cons_append, untilPIEnd, hp, Bool.false_eq_true, ↓reduceIte]
    have := ih ht
    simp only [List.append_assoc] at this ⊢
    rw [this]

theorem no_infix_of_no_q {x : Bytes} (h : ∀ c ∈ x, c ≠ 0x3F) : ¬ piEnd <:+: x := by
  rintro ⟨s, t, e⟩
  apply h 0x3F _ rfl
  rw [← e]
  simp [piEnd]

theorem nameStop_of_space {c : Nat} (h : isXmlSpace c = true) : nameStop c = true := by
  simp only [isXmlSpace, Bool.or_eq_true, beq_iff_eq] at h
  rcases h with ((rfl | rfl) | rfl) | rfl <;> decide

theorem isXmlSpace_ne_q {c : Nat} (h : isXmlSpace c = true) : c ≠ 0x3F := by
  rintro rfl; exact absurd h (by decide)

theorem readName_xml (ws : Nat) (r : Bytes) (h : isXmlSpace ws = true) :
    readName (tXml ++ ws :: r) = some (tXml, ws :: r) := by
  have hs := nameStop_of_space h
  have e1 : nameStop 0x78 = false := by decide
  have e2 : nameStop 0x6D = false := by decide
  have e3 : nameStop 0x6C = false := by decide
  simp only [tXml, List.cons_append, List.nil_append, readName, e1, e2, e3, hs,
    Bool.false_eq_true, ↓reduceIte]

theorem isName_xml : isName tXml = true := by decide

def ltQ : Bytes := [0x3C, 0x3F]                       -- "<?"
def prologStart : Bytes := [0x3C, 0x3F, 0x78, 0x6D, 0x6C]   -- "<?xml"

/-- the `Inst` of the token is `inst` WITHOUT ITS LEADING XML WHITE SPACE: `d.space()` skips all of it, not
    only the separator byte after the target -/
theorem firstPI_prolog (ws : Nat) (inst rest : Bytes) (hws : isXmlSpace ws = true) (hno : ¬ piEnd <:+: inst) :
    firstPI (prologStart ++ [ws] ++ inst ++ piEnd ++ rest) =
      if versionOk (inst.dropWhile isXmlSpace) then some (tXml, inst.dropWhile isXmlSpace) else none := by
  have hd : (ws :: (inst ++ piEnd ++ rest)).dropWhile isXmlSpace
      = inst.dropWhile isXmlSpace ++ piEnd ++ rest := by
    simp only [List.dropWhile, hws]
    have : inst ++ piEnd ++ rest = inst ++ 0x3F :: (0x3E :: rest) := by simp [piEnd]
    rw [this, dropWhile_append_stop inst 0x3F _ (by decide)]
    simp [piEnd]
  have hno' : ¬ piEnd <:+: inst.dropWhile isXmlSpace :=
    fun hi => hno (List.IsInfix.trans hi (List.dropWhile_suffix _).isInfix)
  have e : prologStart ++ [ws] ++ inst ++ piEnd ++ rest
      = 0x3C :: 0x3F :: (tXml ++ ws :: (inst ++ piEnd ++ rest)) := by
    simp [prologStart, tXml]
  rw [e]
  unfold firstPI piToken
  simp only [beq_self_eq_true, Bool.and_self, ↓reduceIte, readName_xml ws _ hws, isName_xml, Bool.not_true,
    Bool.false_eq_true, hd, untilPIEnd_first rest hno', Bool.true_and]
  cases versionOk (inst.dropWhile isXmlSpace) <;> rfl

theorem prolog_token (ws : Nat) (inst rest : Bytes) (hws : isXmlSpace ws = true)
    (hno : ¬ piEnd <:+: inst) (hver : versionOk (inst.dropWhile isXmlSpace) = true) :
    firstPI (prologStart ++ [ws] ++ inst ++ piEnd ++ rest) = some (tXml, inst.dropWhile isXmlSpace) := by
  rw [firstPI_prolog ws inst rest hws hno, if_pos hver]

/-- the instruction of the standard declaration:
    `version=` q `1.0` q S `encoding=` q L q tail -/
def declInst (q : Nat) (S L tail : Bytes) : Bytes :=
  kwVersionEq ++ q :: (v10 ++ q :: (S ++ (kwEncodingEq ++ q :: (L ++ q :: tail))))

theorem declInst_version (q : Nat) (S L tail : Bytes) (hq : q = 0x22 ∨ q = 0x27) :
    procInst kwVersionEq (declInst q S L tail) = v10 := by
  unfold procInst
  rw [procInstF]
  have h0 : indexOf kwVersionEq (declInst q S L tail) = some 0 :=
    indexOf_self_append _ (by decide)
  rw [h0]
  rcases hq with rfl | rfl <;>
    simp [declInst, kwVersionEq, v10, indexByte]

/-- 13 = the length of `version=` q `1.0` q in front of `S` -/
theorem declInst_encoding_at (q : Nat) (S L tail : Bytes) (hq : q = 0x22 ∨ q = 0x27)
    (hS : ∀ c ∈ S, isXmlSpace c = true) :
    indexOf kwEncodingEq (declInst q S L tail) = some (13 + S.length) := by
  have hq101 : q ≠ 101 := by rcases hq with rfl | rfl <;> decide
  have hne : ∀ c ∈ [114, 115, 105, 111, 110, 61, q, 49, 46, 48, q] ++ S, c ≠ 101 :=
    List.forall_mem_append.mpr ⟨by simp [hq101], fun c hc e => absurd (hS c hc) (by rw [e]; decide)⟩
  -- "v", "e" (where `encoding=` cannot start), then bytes other than "e" up to the keyword
  have e : declInst q S L tail = 118 :: 101 :: (([114, 115, 105, 111, 110, 61, q, 49, 46, 48, q] ++ S) ++
      (kwEncodingEq ++ q :: (L ++ q :: tail))) := by
    simp [declInst, kwVersionEq, v10]
  rw [e, show kwEncodingEq = 101 :: [110, 99, 111, 100, 105, 110, 103, 61] from rfl, indexOf_cons,
    if_neg (by simp [List.isPrefixOf]), indexOf_cons, if_neg (by simp [List.isPrefixOf]),
    indexOf_skip 101 _ _ _ hne, indexOf_self_append _ (by decide)]
  simp
  omega

/-- … and 9 = the length of `encoding=` -/
theorem declInst_drop (q : Nat) (S L tail : Bytes) :
    (declInst q S L tail).drop (13 + S.length + 9) = q :: L ++ q :: tail := by
  have e : declInst q S L tail = ([118, 101, 114, 115, 105, 111, 110, 61, q, 49, 46, 48, q] ++ S ++ kwEncodingEq) ++
      (q :: L ++ q :: tail) := by
    simp [declInst, kwVersionEq, v10]
  rw [e]
  apply List.drop_left'
  simp [kwEncodingEq]
  omega

def kwStandaloneEq : Bytes := [115, 116, 97, 110, 100, 97, 108, 111, 110, 101, 61]   -- "standalone="
def vYes : Bytes := [121, 101, 115]
def vNo : Bytes := [110, 111]

/-- what may follow the encoding pseudo-attribute: XML white space, optionally with a
    `standalone` pseudo-attribute (`yes` / `no`, either quote) in it -/
inductive TailForm : Bytes → Prop
  | ws (t : Bytes) : (∀ c ∈ t, isXmlSpace c = true) → TailForm t
  | standalone (w1 w2 v : Bytes) (q2 : Nat) :
      (∀ c ∈ w1, isXmlSpace c = true) → (∀ c ∈ w2, isXmlSpace c = true) →
      (q2 = 0x22 ∨ q2 = 0x27) → (v = vYes ∨ v = vNo) →
      TailForm (w1 ++ kwStandaloneEq ++ [q2] ++ v ++ [q2] ++ w2)

theorem TailForm.no_q {t : Bytes} (h : TailForm t) : ∀ c ∈ t, c ≠ 0x3F := by
  cases h with
  | ws _ hw => exact fun c hc => isXmlSpace_ne_q (hw c hc)
  | standalone w1 w2 v q2 h1 h2 hq hv =>
    have hq' : q2 ≠ 0x3F := by rcases hq with rfl | rfl <;> decide
    have hv' : ∀ c ∈ v, c ≠ 0x3F := by rcases hv with rfl | rfl <;> decide
    simp only [List.forall_mem_append, List.forall_mem_singleton]
    exact ⟨⟨⟨⟨⟨fun c hc => isXmlSpace_ne_q (h1 c hc), by decide⟩, hq'⟩, hv'⟩, hq'⟩,
      fun c hc => isXmlSpace_ne_q (h2 c hc)⟩

theorem tokenChar_ne_q {c : Nat} (h : MT.isTokenChar c = true) : c ≠ 0x3F ∧ c ≠ 0x22 := by
  constructor <;> (rintro rfl; exact absurd h (by decide))

theorem declInst_no_q (q : Nat) (S L tail : Bytes) (hq : q = 0x22 ∨ q = 0x27)
    (hS : ∀ c ∈ S, isXmlSpace c = true) (hL : ∀ c ∈ L, MT.isTokenChar c = true)
    (ht : TailForm tail) : ∀ c ∈ declInst q S L tail, c ≠ 0x3F := by
  have hq' : q ≠ 0x3F := by rcases hq with rfl | rfl <;> decide
  simp only [declInst, List.forall_mem_append, List.forall_mem_cons]
  exact ⟨by decide, hq', by decide, hq', fun c hc => isXmlSpace_ne_q (hS c hc), by decide, hq',
    fun c hc => (tokenChar_ne_q (hL c hc)).1, hq', ht.no_q⟩

theorem declDoc_eq (lead S L tail rest : Bytes) (q : Nat) :
    lead ++ prologStart ++ [0x20] ++ kwVersionEq ++ [q] ++ v10 ++ [q] ++ S ++
        kwEncodingEq ++ [q] ++ L ++ [q] ++ tail ++ piEnd ++ rest
      = lead ++ 0x3C :: ([0x3F, 0x78, 0x6D, 0x6C, 0x20] ++ (declInst q S L tail ++ (piEnd ++ rest))) := by
  simp only [declInst, prologStart, List.append_assoc, List.cons_append, List.nil_append]

theorem declared_inst (lead : Bytes) (q : Nat) (S L tail rest : Bytes) (hlead : ∀ c ∈ lead, isWS c = true)
    (hq : q = 0x22 ∨ q = 0x27)
    (hS : ∀ c ∈ S, isXmlSpace c = true) (hL : ∀ c ∈ L, MT.isTokenChar c = true)
    (ht : TailForm tail) :
    firstProcInst (trimLWS (lead ++ prologStart ++ [0x20] ++ kwVersionEq ++ [q] ++ v10 ++ [q] ++ S ++
        kwEncodingEq ++ [q] ++ L ++ [q] ++ tail ++ piEnd ++ rest))
      = some (declInst q S L tail) := by
  have hd : (declInst q S L tail).dropWhile isXmlSpace = declInst q S L tail := by
    simp [declInst, kwVersionEq, isXmlSpace]
  have hv : versionOk (declInst q S L tail) = true := by
    unfold versionOk; rw [declInst_version q S L tail hq]; rfl
  have e : (0x3C :: ([0x3F, 0x78, 0x6D, 0x6C, 0x20] ++ (declInst q S L tail ++ (piEnd ++ rest))) : Bytes)
      = prologStart ++ [0x20] ++ declInst q S L tail ++ piEnd ++ rest := by
    simp only [prologStart, List.append_assoc, List.cons_append, List.nil_append]
  unfold firstProcInst
  rw [declDoc_eq, trimLWS_lead lead 0x3C _ hlead (by decide), e,
    firstPI_prolog 0x20 _ rest (by decide) (no_infix_of_no_q (declInst_no_q q S L tail hq hS hL ht)), hd, if_pos hv]

theorem not_prolog_none {b : Bytes} (h : b[0]? ≠ some 0x3C ∨ b[1]? ≠ some 0x3F) :
    firstProcInst b = none := by
  unfold firstProcInst firstPI
  match b, h with
  | [], _ => rfl
  | [_], _ => rfl
  | a :: c :: rest, h =>
    have : (a == 0x3C && c == 0x3F) = false := by
      apply Bool.eq_false_iff.mpr
      intro hab
      simp only [Bool.and_eq_true, beq_iff_eq] at hab
      rcases h with h | h
      · exact h (by simp [hab.1])
      · exact h (by simp [hab.2])
    simp only [this, Bool.false_eq_true, ↓reduceIte]

theorem readName_split (s n r : Bytes) (h : readName s = some (n, r)) :
    s = n ++ r ∧ (∀ c ∈ n, nameStop c = false) ∧ ∃ x r', r = x :: r' ∧ nameStop x = true := by
  fun_induction readName s generalizing n r with
  | case1 => cases h
  | case2 b rest hb =>
    obtain ⟨rfl, rfl⟩ := Prod.mk.inj (Option.some.inj h)
    exact ⟨rfl, (fun _ hc => nomatch hc), b, rest, rfl, hb⟩
  | case3 => cases h
  | case4 b rest hb n' r' hr ih =>
    obtain ⟨rfl, rfl⟩ := Prod.mk.inj (Option.some.inj h)
    obtain ⟨e, hn, hx⟩ := ih n' r' hr
    exact ⟨congrArg (b :: ·) e, List.forall_mem_cons.mpr ⟨Bool.eq_false_iff.mpr hb, hn⟩, hx⟩

theorem untilPIEnd_split {s : Bytes} (d : Bytes) (h : untilPIEnd s = some d) :
    (∃ rest, s = d ++ piEnd ++ rest) ∧ ¬ piEnd <:+: d := by
  fun_induction untilPIEnd s generalizing d with
  | case1 => cases h
  | case2 a rest hp =>
    obtain rfl := Option.some.inj h
    obtain ⟨t, ht⟩ := hasPrefix_iff.mp hp
    exact ⟨⟨t, ht.symm⟩, fun hi => nomatch List.eq_nil_of_infix_nil hi⟩
  | case3 => cases h
  | case4 a rest hp d' hr ih =>
    obtain rfl := Option.some.inj h
    obtain ⟨⟨t, e⟩, hno⟩ := ih d' hr
    refine ⟨⟨t, congrArg (a :: ·) e⟩, fun hin => ?_⟩
    rcases List.infix_cons_iff.mp hin with hpre | hin'
    · refine hp (hasPrefix_iff.mpr (hpre.trans ?_))
      rw [e, List.append_assoc]
      exact List.prefix_append (a :: d') _
    · exact hno hin'

theorem firstPI_sound (b target inst : Bytes) (h : firstPI b = some (target, inst)) :
    ∃ ws rest, b = ltQ ++ target ++ ws ++ inst ++ piEnd ++ rest ∧
      isName target = true ∧ (∀ c ∈ target, nameStop c = false) ∧
      (∀ c ∈ ws, isXmlSpace c = true) ∧ (∀ x, inst.head? = some x → isXmlSpace x = false) ∧
      ¬ piEnd <:+: inst ∧ (target = tXml → versionOk inst = true) := by
  unfold firstPI at h
  split at h
  · rename_i a c s
    split at h
    · rename_i hac
      obtain ⟨ha, hc⟩ := (Bool.and_eq_true _ _).mp hac
      rw [beq_iff_eq.mp ha, beq_iff_eq.mp hc]
      unfold piToken at h
      split at h
      · cases h
      · rename_i n r hr
        split at h
        · cases h
        · rename_i hn
          split at h
          · cases h
          · rename_i d hu
            split at h
            · cases h
            · rename_i hv
              obtain ⟨rfl, rfl⟩ := Prod.mk.inj (Option.some.inj h)
              obtain ⟨es, hstop, _⟩ := readName_split s n r hr
              obtain ⟨⟨rest, ed⟩, hno⟩ := untilPIEnd_split d hu
              have er : r = r.takeWhile isXmlSpace ++ (d ++ piEnd ++ rest) := by
                rw [← ed]; exact List.takeWhile_append_dropWhile.symm
              refine ⟨r.takeWhile isXmlSpace, rest, ?_, by simpa using hn, hstop,
                fun x hx => List.all_eq_true.mp List.all_takeWhile x hx, fun x hx => ?_, hno, fun et => ?_⟩
              · rw [es]
                conv => lhs; rw [er]
                simp [ltQ, List.append_assoc]
              · have := List.head?_dropWhile_not isXmlSpace r
                rw [ed, List.append_assoc, List.head?_append, hx] at this
                simpa using this
              · subst et
                simpa using hv
    · cases h
  · cases h

/-- a charset is declared only by a first processing instruction: if the unexported `fromXML`
    reports a label, the trimmed content starts with `<?`, a name, … `?>` -/
theorem fromXMLDecl_ne_nil (content : Bytes) (h : fromXMLDecl content ≠ []) :
    ∃ target inst ws rest, trimLWS content = ltQ ++ target ++ ws ++ inst ++ piEnd ++ rest ∧
      isName target = true ∧ fromXMLDecl content = lowerASCII (xmlEncoding inst) := by
  unfold fromXMLDecl firstProcInst at h ⊢
  cases hp : firstPI (trimLWS content) with
  | none => simp [hp] at h
  | some p =>
    obtain ⟨t, i⟩ := p
    obtain ⟨ws, rest, e, hn, _⟩ := firstPI_sound _ t i hp
    exact ⟨t, i, ws, rest, e, hn, by simp⟩

-- the standard declaration
example : firstProcInst [60, 63, 120, 109, 108, 32, 118, 101, 114, 115, 105, 111, 110, 61, 34, 49, 46, 48, 34, 32, 101, 110, 99, 111, 100, 105, 110, 103, 61, 34, 85, 84, 70, 45, 56, 34, 63, 62, 60, 97, 47, 62] = some [118, 101, 114, 115, 105, 111, 110, 61, 34, 49, 46, 48, 34, 32, 101, 110, 99, 111, 100, 105, 110, 103, 61, 34, 85, 84, 70, 45, 56, 34] := by decide +kernel
-- ALL white space after the target is skipped; the one before ?> stays
example : firstProcInst [60, 63, 120, 109, 108, 32, 9, 13, 10, 32, 101, 110, 99, 111, 100, 105, 110, 103, 61, 39, 120, 39, 32, 63, 62] = some [101, 110, 99, 111, 100, 105, 110, 103, 61, 39, 120, 39, 32] := by decide +kernel
-- FF ends the target but is not skipped
example : firstProcInst [60, 63, 120, 109, 108, 12, 101, 110, 99, 111, 100, 105, 110, 103, 61, 39, 120, 39, 63, 62] = some [12, 101, 110, 99, 111, 100, 105, 110, 103, 61, 39, 120, 39] := by decide +kernel
-- <?xml?> : empty instruction
example : firstProcInst [60, 63, 120, 109, 108, 63, 62] = some [] := by decide +kernel
-- version 1.1 is an error
example : firstProcInst [60, 63, 120, 109, 108, 32, 118, 101, 114, 115, 105, 111, 110, 61, 34, 49, 46, 49, 34, 63, 62] = none := by decide +kernel
-- an empty version counts as absent
example : firstProcInst [60, 63, 120, 109, 108, 32, 118, 101, 114, 115, 105, 111, 110, 61, 39, 39, 32, 101, 110, 99, 111, 100, 105, 110, 103, 61, 34, 120, 34, 63, 62] = some [118, 101, 114, 115, 105, 111, 110, 61, 39, 39, 32, 101, 110, 99, 111, 100, 105, 110, 103, 61, 34, 120, 34] := by decide +kernel
-- an unquoted version counts as absent
example : firstProcInst [60, 63, 120, 109, 108, 32, 118, 101, 114, 115, 105, 111, 110, 61, 49, 46, 49, 32, 101, 110, 99, 111, 100, 105, 110, 103, 61, 34, 120, 34, 63, 62] = some [118, 101, 114, 115, 105, 111, 110, 61, 49, 46, 49, 32, 101, 110, 99, 111, 100, 105, 110, 103, 61, 34, 120, 34] := by decide +kernel
-- procInst resumes AFTER the byte following `version=`: this 1.1 is not seen
example : firstProcInst [60, 63, 120, 109, 108, 32, 118, 101, 114, 115, 105, 111, 110, 61, 118, 101, 114, 115, 105, 111, 110, 61, 34, 49, 46, 49, 34, 63, 62] = some [118, 101, 114, 115, 105, 111, 110, 61, 118, 101, 114, 115, 105, 111, 110, 61, 34, 49, 46, 49, 34] := by decide +kernel
-- procInst has no word boundary: `xversion=` is read as the version
example : firstProcInst [60, 63, 120, 109, 108, 32, 120, 118, 101, 114, 115, 105, 111, 110, 61, 34, 50, 34, 63, 62] = none := by decide +kernel
-- ... nor does it know about quoting: a version inside another value counts
example : firstProcInst [60, 63, 120, 109, 108, 32, 97, 61, 34, 118, 101, 114, 115, 105, 111, 110, 61, 39, 50, 39, 34, 63, 62] = none := by decide +kernel
-- only the exact target `xml` has its version checked
example : firstProcInst [60, 63, 88, 77, 76, 32, 118, 101, 114, 115, 105, 111, 110, 61, 34, 50, 46, 48, 34, 63, 62] = some [118, 101, 114, 115, 105, 111, 110, 61, 34, 50, 46, 48, 34] := by decide +kernel
-- any other processing instruction
example : firstProcInst [60, 63, 120, 109, 108, 45, 115, 116, 121, 108, 101, 115, 104, 101, 101, 116, 32, 104, 114, 101, 102, 61, 34, 97, 34, 63, 62] = some [104, 114, 101, 102, 61, 34, 97, 34] := by decide +kernel
-- non-ASCII letters in the target (é = U+00E9 is in `first`)
example : firstProcInst [60, 63, 195, 169, 108, 195, 169, 109, 101, 110, 116, 32, 97, 63, 62] = some [97] := by decide +kernel
-- U+00B7 is in `second`
example : firstProcInst [60, 63, 97, 194, 183, 32, 97, 63, 62] = some [97] := by decide +kernel
-- ... so it cannot come first
example : firstProcInst [60, 63, 194, 183, 97, 32, 97, 63, 62] = none := by decide +kernel
-- invalid UTF-8 in the target
example : firstProcInst [60, 63, 120, 255, 32, 97, 63, 62] = none := by decide +kernel
-- U+00D7 (multiplication sign) is not a name character
example : firstProcInst [60, 63, 120, 195, 151, 32, 97, 63, 62] = none := by decide +kernel
-- no character check inside the instruction
example : firstProcInst [60, 63, 120, 32, 255, 0, 1, 63, 62] = some [255, 0, 1] := by decide +kernel
-- a digit cannot start the target
example : firstProcInst [60, 63, 49, 120, 32, 97, 63, 62] = none := by decide +kernel
-- no ?> : unexpected EOF
example : firstProcInst [60, 63, 120, 109, 108, 32, 118, 101, 114, 115, 105, 111, 110, 61, 34, 49, 46, 48, 34] = none := by decide +kernel
-- ? and > must be adjacent
example : firstProcInst [60, 63, 120, 109, 108, 32, 118, 101, 114, 115, 105, 111, 110, 61, 34, 49, 46, 48, 34, 32, 63, 32, 62] = none := by decide +kernel
-- no target
example : firstProcInst [60, 63, 32, 120, 109, 108, 63, 62] = none := by decide +kernel
-- start element
example : firstProcInst [60, 97, 62] = none := by decide +kernel
-- comment
example : firstProcInst [60, 33, 45, 45, 99, 45, 45, 62] = none := by decide +kernel
-- character data
example : firstProcInst [116, 101, 120, 116] = none := by decide +kernel
-- empty input
example : firstProcInst [] = none := by decide +kernel
-- firstProcInst itself does not trim (fromXML does)
example : firstProcInst [32, 60, 63, 120, 109, 108, 63, 62] = none := by decide +kernel
-- leading white space incl. FF is trimmed by fromXML
example : fromXMLBytes [32, 10, 9, 12, 13, 60, 63, 120, 109, 108, 32, 118, 101, 114, 115, 105, 111, 110, 61, 34, 49, 46, 48, 34, 32, 101, 110, 99, 111, 100, 105, 110, 103, 61, 34, 73, 83, 79, 45, 56, 56, 53, 57, 45, 53, 34, 63, 62] = [105, 115, 111, 45, 56, 56, 53, 57, 45, 53] := by decide +kernel
-- single quotes, standalone
example : fromXMLBytes [60, 63, 120, 109, 108, 32, 118, 101, 114, 115, 105, 111, 110, 61, 39, 49, 46, 48, 39, 32, 101, 110, 99, 111, 100, 105, 110, 103, 61, 39, 75, 79, 73, 56, 45, 82, 39, 32, 115, 116, 97, 110, 100, 97, 108, 111, 110, 101, 61, 39, 121, 101, 115, 39, 63, 62, 60, 97, 47, 62] = [107, 111, 105, 56, 45, 114] := by decide +kernel
-- the target is not looked at: any first PI with `encoding=` declares a charset
example : fromXMLBytes [60, 63, 120, 109, 108, 45, 115, 116, 121, 108, 101, 115, 104, 101, 101, 116, 32, 101, 110, 99, 111, 100, 105, 110, 103, 61, 34, 120, 34, 63, 62] = [120] := by decide +kernel
-- ... and `encoding=` needs no word boundary
example : fromXMLBytes [60, 63, 112, 104, 112, 32, 36, 109, 121, 101, 110, 99, 111, 100, 105, 110, 103, 61, 34, 108, 97, 116, 105, 110, 49, 34, 59, 32, 63, 62] = [108, 97, 116, 105, 110, 49] := by decide +kernel
-- unsupported version: the declaration is lost, FromPlain answers
example : fromXMLBytes [60, 63, 120, 109, 108, 32, 118, 101, 114, 115, 105, 111, 110, 61, 34, 49, 46, 49, 34, 32, 101, 110, 99, 111, 100, 105, 110, 103, 61, 34, 107, 111, 105, 56, 45, 114, 34, 63, 62] = [117, 116, 102, 45, 56] := by decide +kernel
-- VT is not trimmed: character data, FromPlain answers
example : fromXMLBytes [11, 60, 63, 120, 109, 108, 32, 118, 101, 114, 115, 105, 111, 110, 61, 34, 49, 46, 48, 34, 32, 101, 110, 99, 111, 100, 105, 110, 103, 61, 34, 107, 111, 105, 56, 45, 114, 34, 63, 62] = [117, 116, 102, 45, 56] := by decide +kernel

end Mime.XmlTokLemmas
