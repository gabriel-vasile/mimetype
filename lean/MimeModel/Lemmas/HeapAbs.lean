import MimeModel.Model.HeapAbs
import MimeModel.Lemmas.Heap
/-
  The executable abstraction function `HeapAbs.abs` (`Model/HeapAbs.lean`) is sound and complete
  for the representation invariant of `Model/Heap.lean`: `abs h root = some t ↔ Rep h root none t`
  (`abs_iff`), hence `WF h root` is decidable; the footprint it returns is the pre-order list of
  the addresses of the tree (`abs_flatten`).
-/
namespace Mime.HeapAbs
open Mime Mime.Tree Mime.Heap Mime.HeapLemmas
variable {α : Type}

theorem absList_nil (rec : Ptr → List Ptr → Option (Tree α × List Ptr)) (seen : List Ptr) :
    absList rec [] seen = some ([], []) := rfl

theorem absList_cons_iff {rec : Ptr → List Ptr → Option (Tree α × List Ptr)} {c : Ptr} {cs seen : List Ptr}
    {r : List (Tree α) × List Ptr} :
    absList rec (c :: cs) seen = some r ↔
      ∃ t fp1 ts fp2, rec c seen = some (t, fp1) ∧ absList rec cs (fp1 ++ seen) = some (ts, fp2) ∧
        r = (t :: ts, fp1 ++ fp2) := by
  constructor
  · intro hr
    simp only [absList] at hr
    split at hr
    · cases hr
    · rename_i t fp1 h1
      split at hr
      · cases hr
      · rename_i ts fp2 h2
        exact ⟨t, fp1, ts, fp2, h1, h2, (Option.some.inj hr).symm⟩
  · rintro ⟨t, fp1, ts, fp2, h1, h2, rfl⟩
    simp only [absList, h1, h2]

theorem absF_zero (h : Heap α) (p : Ptr) (par : Option Ptr) (seen : List Ptr) :
    absF h 0 p par seen = none := rfl

theorem absF_succ_iff {h : Heap α} {fuel : Nat} {p : Ptr} {par : Option Ptr} {seen : List Ptr}
    {r : Tree α × List Ptr} :
    absF h (fuel + 1) p par seen = some r ↔
      ∃ n ts fps, h[p]? = some n ∧ n.parent = par ∧ p ∉ seen ∧
        absListF h fuel (some p) n.children (p :: seen) = some (ts, fps) ∧
        r = (.node n.info ts, p :: fps) := by
  rw [absF]
  constructor
  · intro hr
    cases hn : h[p]? with
    | none => rw [hn] at hr; cases hr
    | some n =>
      rw [hn] at hr
      dsimp only at hr
      by_cases hpar : n.parent = par
      · rw [if_pos hpar] at hr
        by_cases hs : seen.contains p = true
        · rw [if_pos hs] at hr; cases hr
        · rw [if_neg hs] at hr
          cases hl : absList (fun c s => absF h fuel c (some p) s) n.children (p :: seen) with
          | none => rw [hl] at hr; cases hr
          | some r' =>
            rw [hl] at hr
            exact ⟨n, r'.1, r'.2, rfl, hpar, fun hm => hs (List.contains_iff_mem.mpr hm), hl, (Option.some.inj hr).symm⟩
      · rw [if_neg hpar] at hr; cases hr
  · rintro ⟨n, ts, fps, hn, hpar, hseen, hl, rfl⟩
    have hs : ¬ seen.contains p = true := fun hb => hseen (List.contains_iff_mem.mp hb)
    unfold absListF at hl
    rw [hn]
    dsimp only
    rw [if_pos hpar, if_neg hs, hl]

theorem absList_sound {h : Heap α} {par : Option Ptr} {rec : Ptr → List Ptr → Option (Tree α × List Ptr)}
    (hrec : ∀ c s t fp, rec c s = some (t, fp) → RepF h c par t fp ∧ ∀ x ∈ fp, x ∉ s)
    (cps seen : List Ptr) (ts : List (Tree α)) (fp : List Ptr) (hr : absList rec cps seen = some (ts, fp)) :
    RepListF h par cps ts fp ∧ ∀ x ∈ fp, x ∉ seen := by
  induction cps generalizing seen ts fp with
  | nil =>
    obtain ⟨rfl, rfl⟩ := Prod.mk.inj (Option.some.inj hr)
    exact ⟨repListF_nil.mpr ⟨rfl, rfl⟩, fun _ hx => nomatch hx⟩
  | cons c cs ih =>
    obtain ⟨t, fp1, ts', fp2, h1, h2, he⟩ := absList_cons_iff.mp hr
    obtain ⟨rfl, rfl⟩ := Prod.mk.inj he
    obtain ⟨r1, d1⟩ := hrec c seen t fp1 h1
    obtain ⟨r2, d2⟩ := ih (fp1 ++ seen) ts' fp2 h2
    refine ⟨repListF_cons.mpr ⟨c, cs, fp1, fp2, rfl, r1, r2, fun x hx hx2 => d2 x hx2 (List.mem_append_left _ hx), rfl⟩,
      fun x hx => ?_⟩
    rcases List.mem_append.mp hx with hx | hx
    · exact d1 x hx
    · exact fun hs => d2 x hx (List.mem_append_right _ hs)

theorem absF_sound {h : Heap α} (fuel : Nat) (p : Ptr) (par : Option Ptr) (seen : List Ptr)
    (t : Tree α) (fp : List Ptr) (hr : absF h fuel p par seen = some (t, fp)) :
    RepF h p par t fp ∧ ∀ x ∈ fp, x ∉ seen := by
  induction fuel generalizing p par seen t fp with
  | zero => cases hr
  | succ fuel ih =>
    obtain ⟨n, ts, fps, hn, hpar, hseen, hl, he⟩ := absF_succ_iff.mp hr
    obtain ⟨rfl, rfl⟩ := Prod.mk.inj he
    obtain ⟨r, d⟩ := absList_sound (fun c s t fp hc => ih c (some p) s t fp hc) n.children (p :: seen) ts fps hl
    refine ⟨repF_node.mpr ⟨n.children, fps, hpar ▸ hn, r, fun hm => d p hm (List.mem_cons_self ..), rfl⟩,
      fun x hx => ?_⟩
    rcases List.mem_cons.mp hx with rfl | hx
    · exact hseen
    · exact fun hs => d x hx (List.mem_cons_of_mem _ hs)

theorem absListF_sound {h : Heap α} {fuel : Nat} {par : Option Ptr} {cps seen : List Ptr}
    {ts : List (Tree α)} {fp : List Ptr} (hr : absListF h fuel par cps seen = some (ts, fp)) :
    RepListF h par cps ts fp ∧ ∀ x ∈ fp, x ∉ seen :=
  absList_sound (fun c s t fp hc => absF_sound fuel c par s t fp hc) cps seen ts fp hr

theorem abs_complete_both {h : Heap α} :
    (∀ {t p par fp}, RepF h p par t fp → ∀ (seen : List Ptr) (fuel : Nat), (∀ x ∈ fp, x ∉ seen) →
      t.height ≤ fuel → absF h fuel p par seen = some (t, fp)) ∧
    (∀ {ts par cps fp}, RepListF h par cps ts fp → ∀ (seen : List Ptr) (fuel : Nat), (∀ x ∈ fp, x ∉ seen) →
      heightList ts ≤ fuel → absListF h fuel par cps seen = some (ts, fp)) := by
  refine rep_induction ?_ (fun _ _ _ _ => rfl) ?_
  · intro p par a ts cps fps hp _ hn ih seen fuel hd hf
    cases fuel with
    | zero => exact absurd hf (Nat.not_succ_le_zero _)
    | succ fuel =>
      refine absF_succ_iff.mpr ⟨⟨a, par, cps⟩, ts, fps, hp, rfl, hd p (List.mem_cons_self ..),
        ih (p :: seen) fuel (fun x hx hm => ?_) (Nat.le_of_succ_le_succ hf), rfl⟩
      rcases List.mem_cons.mp hm with rfl | hm
      · exact hn hx
      · exact hd x (List.mem_cons_of_mem _ hx) hm
  · intro par c cs t ts fp1 fp2 _ _ hdis iht ihts seen fuel hd hf
    rw [heightList] at hf
    refine absList_cons_iff.mpr ⟨t, fp1, ts, fp2,
      iht seen fuel (fun x hx => hd x (List.mem_append_left _ hx)) (Nat.le_trans (Nat.le_max_left ..) hf),
      ihts (fp1 ++ seen) fuel (fun x hx hm => ?_) (Nat.le_trans (Nat.le_max_right ..) hf), rfl⟩
    rcases List.mem_append.mp hm with hm | hm
    · exact hdis x hm hx
    · exact hd x (List.mem_append_right _ hx) hm

theorem absListF_complete {h : Heap α} : ∀ (ts : List (Tree α)) {par : Option Ptr} {cps fp : List Ptr}
    (seen : List Ptr) (fuel : Nat), RepListF h par cps ts fp → (∀ x ∈ fp, x ∉ seen) →
    heightList ts ≤ fuel → absListF h fuel par cps seen = some (ts, fp) :=
  fun _ _ _ _ seen fuel hr => abs_complete_both.2 hr seen fuel

theorem abs_eq_some {h : Heap α} {root : Ptr} {t : Tree α} :
    abs h root = some t ↔ ∃ fp, absFp h root = some (t, fp) :=
  Option.map_eq_some_iff.trans ⟨fun ⟨⟨_, fp⟩, h1, h2⟩ => ⟨fp, h2 ▸ h1⟩, fun ⟨_, h1⟩ => ⟨_, h1, rfl⟩⟩

/-- fuel `h.length + 1` is enough: `rep_height_le` -/
theorem absFp_iff {h : Heap α} {root : Ptr} {t : Tree α} {fp : List Ptr} :
    absFp h root = some (t, fp) ↔ RepF h root none t fp :=
  ⟨fun hr => (absF_sound _ _ _ _ _ _ hr).1, fun hr =>
    abs_complete_both.1 hr [] _ (fun _ _ hm => nomatch hm) (Nat.le_succ_of_le (rep_height_le ⟨fp, hr⟩))⟩

theorem abs_iff {h : Heap α} {root : Ptr} {t : Tree α} : abs h root = some t ↔ Rep h root none t :=
  abs_eq_some.trans (exists_congr fun _ => absFp_iff)

theorem abs_isSome_iff {h : Heap α} {root : Ptr} : (abs h root).isSome = true ↔ WF h root :=
  Option.isSome_iff_exists.trans (exists_congr fun _ => abs_iff)

theorem wfb_iff {h : Heap α} {root : Ptr} : wfb h root = true ↔ WF h root := abs_isSome_iff

theorem abs_none_iff {h : Heap α} {root : Ptr} : abs h root = none ↔ ¬ WF h root := by
  rw [← abs_isSome_iff, Bool.not_eq_true, Option.isSome_eq_false_iff, Option.isNone_iff_eq_none]

instance instDecidableWF (h : Heap α) (root : Ptr) : Decidable (WF h root) :=
  decidable_of_iff ((abs h root).isSome = true) abs_isSome_iff

instance instDecidableRep [DecidableEq (Tree α)] (h : Heap α) (root : Ptr) (t : Tree α) :
    Decidable (Rep h root none t) :=
  decidable_of_iff (abs h root = some t) abs_iff

theorem rep_flatten {h : Heap α} :
    (∀ {t p par fp}, RepF h p par t fp → fp.map (fun x => h[x]?.map (·.info)) = (flatten t).map some) ∧
    (∀ {ts par cps fp}, RepListF h par cps ts fp →
      fp.map (fun x => h[x]?.map (·.info)) = (flattenList ts).map some) :=
  rep_induction
    (fun hp _ _ ih => by rw [List.map_cons, hp, ih]; rfl)
    rfl
    (fun _ _ _ ih1 ih2 => by rw [List.map_append, ih1, ih2, flattenList, List.map_append])

theorem repListF_flatten {h : Heap α} : ∀ (ts : List (Tree α)) {par : Option Ptr} {cps fp : List Ptr},
    RepListF h par cps ts fp → fp.map (fun x => h[x]?.map (·.info)) = (flattenList ts).map some :=
  fun _ _ _ _ hr => rep_flatten.2 hr

/-- what the driver reads off a successful `absFp` -/
theorem abs_flatten {h : Heap α} {root : Ptr} {t : Tree α} {fp : List Ptr}
    (ha : absFp h root = some (t, fp)) :
    abs h root = some t ∧ fp.Nodup ∧ (∀ x : Nat, x ∈ fp → x < h.length) ∧ fp.head? = some root ∧
    fp.length = (flatten t).length ∧
    fp.map (fun x => h[x]?.map (·.info)) = (flatten t).map some := by
  have hr := absFp_iff.mp ha
  have hfl := rep_flatten.1 hr
  refine ⟨abs_eq_some.mpr ⟨fp, ha⟩, rep_nodup.1 hr, rep_lt.1 hr, ?_, ?_, hfl⟩
  · cases t with
    | node a ts =>
      obtain ⟨_, fps, _, _, _, rfl⟩ := repF_node.mp hr
      rfl
  · rw [← List.length_map (f := fun x => h[x]?.map (·.info)), hfl, List.length_map]

theorem abs_flatten' {h : Heap α} {root : Ptr} {t : Tree α} (ha : abs h root = some t) :
    ∃ fp, absFp h root = some (t, fp) ∧ fp.Nodup ∧ (∀ x : Nat, x ∈ fp → x < h.length) ∧
      fp.map (fun x => h[x]?.map (·.info)) = (flatten t).map some := by
  obtain ⟨fp, hr⟩ := abs_eq_some.mp ha
  obtain ⟨_, h1, h2, _, _, h3⟩ := abs_flatten hr
  exact ⟨fp, hr, h1, h2, h3⟩

theorem absF_fuel_irrelevant {h : Heap α} {fuel fuel' : Nat} {p : Ptr} {par : Option Ptr} {seen : List Ptr}
    {t : Tree α} {fp : List Ptr} (hr : absF h fuel p par seen = some (t, fp)) (hf : t.height ≤ fuel') :
    absF h fuel' p par seen = some (t, fp) := by
  obtain ⟨r, d⟩ := absF_sound _ _ _ _ _ _ hr
  exact abs_complete_both.1 r seen fuel' d hf

section Examples

/-- the four-node heap of `Lemmas/Heap.lean` (root at 3, children 1 and 2, grandchild 0) -/
example : abs exHeap 3 = some exTree := by decide +kernel
example : absFp exHeap 3 = some (exTree, [3, 1, 0, 2]) := by decide +kernel
theorem _root_.Mime.HeapLemmas.exWF : WF exHeap 3 := by decide +kernel
example : WF exHeap 3 := exWF
example : Rep exHeap 3 none exTree := by decide +kernel
/-- garbage (here: the nodes a detection has allocated) is ignored -/
example : abs exHeap1 3 = some exTree := by decide +kernel
example : abs exHeap2 3 = some (.node 0 [.node 1 [.node 9 [], .node 3 []], .node 2 []]) := by decide +kernel
/-- fuel: one unit per level -/
example : absF exHeap 3 3 none [] = some (exTree, [3, 1, 0, 2]) := by decide +kernel
example : absF exHeap 2 3 none [] = none := by decide +kernel
/-- a sub-heap is not a detector tree (its root has a parent), but it is represented as a subtree -/
example : abs exHeap 1 = none := by decide +kernel
example : ¬ WF exHeap 1 := by decide +kernel
example : absF exHeap 5 1 (some 3) [] = some (.node 1 [.node 3 []], [1, 0]) := by decide +kernel

/-- a wrong parent pointer: node 2 names 1 as its parent, it is a child of 3 -/
def badParent : Heap Nat :=
  [⟨3, some 1, []⟩, ⟨1, some 3, [0]⟩, ⟨2, some 1, []⟩, ⟨0, none, [1, 2]⟩]
example : abs badParent 3 = none := by decide +kernel
example : ¬ WF badParent 3 := by decide +kernel

/-- the root has a parent pointer -/
def badRoot : Heap Nat :=
  [⟨3, some 1, []⟩, ⟨1, some 3, [0]⟩, ⟨2, some 3, []⟩, ⟨0, some 0, [1, 2]⟩]
example : abs badRoot 3 = none := by decide +kernel

/-- node 0 is a child of 1 and of 2 (its parent pointer can only name one of them, so the
    parent check refuses it; `matchH` on such a heap: `exBad` of `Lemmas/Heap.lean`) -/
def shared : Heap Nat :=
  [⟨3, some 1, []⟩, ⟨1, some 3, [0]⟩, ⟨2, some 3, [0]⟩, ⟨0, none, [1, 2]⟩]
example : abs shared 3 = none := by decide +kernel
example : ¬ WF shared 3 := by decide +kernel

/-- node 0 is twice a child of 1: every parent pointer is right, only the footprint check
    (`seen`) refuses it -/
def twice : Heap Nat :=
  [⟨3, some 1, []⟩, ⟨1, some 3, [0, 0]⟩, ⟨2, some 3, []⟩, ⟨0, none, [1, 2]⟩]
example : abs twice 3 = none := by decide +kernel
example : ¬ WF twice 3 := by decide +kernel
/-- the same with an empty `seen` for the second visit would be accepted: the check matters -/
example : absF twice 5 0 (some 1) [] = some (.node 3 [], [0]) := by decide +kernel
example : absF twice 5 0 (some 1) [0, 1, 3] = none := by decide +kernel

/-- a cycle below the root: 3 → 1 → 0 → 1 -/
def cyc : Heap Nat :=
  [⟨3, some 1, [1]⟩, ⟨1, some 3, [0]⟩, ⟨2, some 3, []⟩, ⟨0, none, [1, 2]⟩]
example : abs cyc 3 = none := by decide +kernel
example : ¬ WF cyc 3 := by decide +kernel
/-- the two-node cycle of `Lemmas/Heap.lean` (`cloneHierarchy` does not terminate on it): from
    either node, with any expected parent, with much fuel -/
example : abs cycleHeap 0 = none := by decide +kernel
example : abs cycleHeap 1 = none := by decide +kernel
/-- a cycle all of whose parent pointers are right (0 and 1 are each other's only child and
    parent): refused by the footprint check, not by lack of fuel -/
def cyc2 : Heap Nat := [⟨10, some 1, [1]⟩, ⟨11, some 0, [0]⟩]
example : absF cyc2 100 0 (some 1) [] = none := by decide +kernel
example : abs cyc2 0 = none := by decide +kernel

/-- a dangling child: 7 is not allocated -/
def dangling : Heap Nat :=
  [⟨3, some 1, []⟩, ⟨1, some 3, [0, 7]⟩, ⟨2, some 3, []⟩, ⟨0, none, [1, 2]⟩]
example : abs dangling 3 = none := by decide +kernel
example : ¬ WF dangling 3 := by decide +kernel
/-- a dangling root; the empty heap -/
example : abs exHeap 4 = none := by decide +kernel
example : abs ([] : Heap Nat) 0 = none := by decide +kernel

/-- a heap that is one path (the height is the size: fuel `h.length` is needed) -/
def pathHeap : Heap Nat := [⟨0, none, [1]⟩, ⟨1, some 0, [2]⟩, ⟨2, some 1, [3]⟩, ⟨3, some 2, []⟩]
example : abs pathHeap 0 = some (.node 0 [.node 1 [.node 2 [.node 3 []]]]) := by decide +kernel
example : absF pathHeap 4 0 none [] = some (.node 0 [.node 1 [.node 2 [.node 3 []]]], [0, 1, 2, 3]) := by decide +kernel
example : absF pathHeap 3 0 none [] = none := by decide +kernel

/-- the abstraction commutes with the calls: `Extend` on the heap, `extendAt` on the tree -/
example : (extend exHeap 1 9).bind (fun r => abs r.1 3) = Tree.extendAt (.node 9 []) [0] exTree := by decide +kernel

end Examples

end Mime.HeapAbs
