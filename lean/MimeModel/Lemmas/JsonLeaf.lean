import MimeModel.Model.Json
import MimeModel.Lemmas.JsonSpecEq
/-
  Leaf-level lemmas relating the scanner model (Model/Json.lean) to the reference
  recogniser (Spec/Json.lean): white space, literals, strings, numbers.
-/
namespace Mime.JsonLeaf
open Mime Mime.Json Mime.Spec

theorem isSpace_eq_ws (c : Nat) : isSpace c = J.ws c := by
  unfold isSpace J.ws
  cases (c == 0x20) <;> cases (c == 0x09) <;> cases (c == 0x0A) <;> cases (c == 0x0D) <;> rfl

theorem skipWs_length_le (b : Bytes) : (J.skipWs b).length ≤ b.length := by
  induction b with
  | nil => exact Nat.le_refl _
  | cons d ds ihd =>
    rw [J.skipWs]
    split
    · exact Nat.le_succ_of_le ihd
    · exact Nat.le_refl _

theorem consumeSpace_spec (b : Bytes) (s : PState) :
    consumeSpace b s = (J.skipWs b, s.bump (b.length - (J.skipWs b).length)) := by
  induction b generalizing s with
  | nil => cases s; rfl
  | cons c cs ih =>
    rw [consumeSpace, J.skipWs, isSpace_eq_ws]
    split
    · rw [ih, List.length_cons, Nat.succ_sub (skipWs_length_le cs)]
      cases s; simp only [PState.bump, Nat.add_assoc, Nat.add_comm 1]
    · rw [Nat.sub_self]; cases s; rfl

theorem skipWs_idem (b : Bytes) : J.skipWs (J.skipWs b) = J.skipWs b := by
  induction b with
  | nil => rfl
  | cons d ds ih =>
    simp only [J.skipWs]
    split
    · exact ih
    · rename_i h; simp [J.skipWs, h]

theorem skipWs_head (b : Bytes) (c : Nat) (cs : Bytes) (h : J.skipWs b = c :: cs) : J.ws c = false := by
  induction b with
  | nil => simp [J.skipWs] at h
  | cons d ds ih =>
    simp only [J.skipWs] at h
    split at h
    · exact ih h
    · rename_i hd
      simp only [List.cons.injEq] at h
      rw [← h.1]; simpa using hd

@[simp] theorem bump_ib (s : PState) (k : Nat) : (s.bump k).ib = s.ib + k := rfl
@[simp] theorem bump_bump (s : PState) (a b : Nat) : (s.bump a).bump b = s.bump (a + b) := by
  simp [PState.bump, Nat.add_assoc]
@[simp] theorem bump_zero (s : PState) : s.bump 0 = s := by cases s; rfl

theorem setFlags_ib (x : PState) (q : Bool) (lvl t : Nat) : ((x.setFirst lvl t).setQ q).ib = x.ib := by
  unfold PState.setFirst PState.setQ; split <;> split <;> rfl

/-- the grammar's fuel and the scanner's are the same number -/
theorem fuelFor_eq (b : Bytes) : J.fuelFor b = fuelFor b := rfl

theorem beq_ne {c k : Nat} (h : c ≠ k) : ¬ (c == k) = true := fun e => h (beq_iff_eq.mp e)

theorem consumeConst_ok (w : Bytes) : ∀ (b r : Bytes) (s : PState), b = w ++ r →
    consumeConst b w s = (some r, s.bump w.length) := by
  induction w with
  | nil =>
    intro b r s h
    simp only [List.nil_append] at h
    subst h
    cases b <;> simp [consumeConst]
  | cons x xs ih =>
    intro b r s h
    subst h
    simp only [List.cons_append, consumeConst, beq_self_eq_true, ↓reduceIte]
    rw [ih (xs ++ r) r s.bump rfl]
    simp [Nat.add_comm]

theorem lit_ok_iff (w b r : Bytes) (h : J.lit w b = .ok () r) : b = w ++ r := by
  unfold J.lit at h
  split at h
  · rename_i hp
    simp only [J.R.ok.injEq, true_and] at h
    rw [List.isPrefixOf_iff_prefix] at hp
    obtain ⟨t, ht⟩ := hp
    subst ht; subst h; simp
  · split at h <;> cases h

theorem isXDigit_eq_hexd (c : Nat) : isXDigit c = J.hexd c := rfl
theorem isDigit_eq_digit (c : Nat) : isDigit c = J.digit c := rfl

theorem cs_norm_bs (cs : Bytes) (s : PState) : consumeString .norm (0x5C :: cs) s = consumeString .esc cs s.bump := by
  rw [consumeString]; simp
theorem cs_norm_quote (cs : Bytes) (s : PState) : consumeString .norm (0x22 :: cs) s = (some cs, s.bump) := by
  rw [consumeString]; simp
theorem cs_norm_other (c : Nat) (cs : Bytes) (s : PState) (h1 : (c == 0x5C) = false) (h2 : (c == 0x22) = false) :
    consumeString .norm (c :: cs) s = consumeString .norm cs s.bump := by
  rw [consumeString]; simp [h1, h2]
theorem cs_esc_simple (e : Nat) (cs : Bytes) (s : PState) (h : isSimpleEsc e = true) :
    consumeString .esc (e :: cs) s = consumeString .norm cs s.bump := by
  rw [consumeString]; simp [h]
theorem cs_esc_u (cs : Bytes) (s : PState) : consumeString .esc (0x75 :: cs) s = consumeString (.hex 4) cs s.bump := by
  rw [consumeString]; simp [isSimpleEsc]
theorem cs_esc_bad (e : Nat) (cs : Bytes) (s : PState) (h : isSimpleEsc e = false) (hu : (e == 0x75) = false) :
    consumeString .esc (e :: cs) s = (none, s) := by
  rw [consumeString]; simp [h, hu]
theorem cs_hex_ok (k c : Nat) (cs : Bytes) (s : PState) (h : isXDigit c = true) :
    consumeString (.hex k) (c :: cs) s =
      if k ≤ 1 then consumeString .norm cs s.bump else consumeString (.hex (k - 1)) cs s.bump := by
  rw [consumeString]; simp [h]
theorem cs_hex_bad (k c : Nat) (cs : Bytes) (s : PState) (h : isXDigit c = false) :
    consumeString (.hex k) (c :: cs) s = (none, s) := by
  rw [consumeString]; simp [h]
theorem cs_nil (m : SMode) (s : PState) : consumeString m [] s = (none, s) := by
  rw [consumeString]

theorem consumeString_hex4 (h1 h2 h3 h4 : Nat) (r : Bytes) (s : PState)
    (hh : (J.hexd h1 && J.hexd h2 && J.hexd h3 && J.hexd h4) = true) :
    consumeString (.hex 4) (h1 :: h2 :: h3 :: h4 :: r) s = consumeString .norm r (s.bump 4) := by
  simp only [Bool.and_eq_true] at hh
  obtain ⟨⟨⟨a, b⟩, c⟩, d⟩ := hh
  rw [cs_hex_ok 4 h1 _ _ a, if_neg (by decide)]
  rw [cs_hex_ok 3 h2 _ _ b, if_neg (by decide)]
  rw [cs_hex_ok 2 h3 _ _ c, if_neg (by decide)]
  rw [cs_hex_ok 1 h4 _ _ d, if_pos (Nat.le_refl 1), bump_bump, bump_bump, bump_bump]

/-- a successful run of `n'` bytes leaving `r`, seen from `k` bytes earlier -/
theorem ran_shift {res : Option Bytes × PState} {s : PState} {k n n' : Nat} {r : Bytes}
    (h1 : res = (some r, (s.bump k).bump (n' - r.length))) (h2 : r.length ≤ n') (hn : n = n' + k) :
    res = (some r, s.bump (n - r.length)) ∧ r.length ≤ n := by
  subst hn
  refine ⟨?_, Nat.le_trans h2 (Nat.le_add_right ..)⟩
  rw [h1, bump_bump, Nat.add_comm n' k, Nat.add_sub_assoc h2]

theorem ran_shift_lt {res : Option Bytes × PState} {s : PState} {k n n' : Nat} {r : Bytes}
    (h1 : res = (some r, (s.bump k).bump (n' - r.length))) (h2 : r.length ≤ n') (hn : n = n' + k) (hk : 0 < k) :
    res = (some r, s.bump (n - r.length)) ∧ r.length < n :=
  ⟨(ran_shift h1 h2 hn).1, hn ▸ Nat.lt_of_le_of_lt h2 (Nat.lt_add_of_pos_right hk)⟩

/-- a string body the reference recogniser accepts (strict or relaxed)
    is consumed by the scanner up to and including the closing quote, every byte counted -/
theorem str_forward (strict : Bool) (cs acc : Bytes) : ∀ (body r : Bytes) (s : PState),
    J.str strict cs acc = .ok body r →
    consumeString .norm cs s = (some r, s.bump (cs.length - r.length)) ∧ r.length < cs.length := by
  fun_induction J.str strict cs acc with
  | case2 c cs acc hq =>
    intro body r s h
    cases h
    rw [beq_iff_eq.mp hq, cs_norm_quote, List.length_cons, Nat.add_sub_cancel_left]
    exact ⟨rfl, Nat.lt_succ_self _⟩
  | case4 c acc hq hb e es he ih =>
    intro body r s h
    rw [beq_iff_eq.mp hb, cs_norm_bs, cs_esc_simple e es _ he, bump_bump]
    obtain ⟨i1, i2⟩ := ih body r _ h
    exact ran_shift_lt i1 (Nat.le_of_lt i2) rfl (by decide)
  | case5 c acc hq hb e he hu h1 h2 h3 h4 r' hh ih =>
    intro body r s h
    rw [beq_iff_eq.mp hb, beq_iff_eq.mp hu, cs_norm_bs, cs_esc_u, consumeString_hex4 h1 h2 h3 h4 r' _ hh, bump_bump, bump_bump]
    obtain ⟨i1, i2⟩ := ih body r _ h
    exact ran_shift_lt i1 (Nat.le_of_lt i2) rfl (by decide)
  | case11 c cs acc hq hb hctl ih =>
    intro body r s h
    rw [cs_norm_other c cs s (Bool.eq_false_iff.mpr hb) (Bool.eq_false_iff.mpr hq)]
    obtain ⟨i1, i2⟩ := ih body r _ h
    exact ran_shift_lt i1 (Nat.le_of_lt i2) rfl (by decide)
  | case1 | case3 | case6 | case7 | case8 | case9 | case10 => intro body r s h; cases h

theorem cn_nil (m : NMode) (s : PState) : consumeNumber m [] s = (if m.got then some [] else none, s) := by
  rw [consumeNumber]
theorem cn_step (m m' : NMode) (c : Nat) (cs : Bytes) (s : PState) (h : numStep m c = some m') :
    consumeNumber m (c :: cs) s = consumeNumber m' cs s.bump := by
  rw [consumeNumber]; simp [h]
theorem cn_stop (m : NMode) (c : Nat) (cs : Bytes) (s : PState) (h : numStep m c = none) :
    consumeNumber m (c :: cs) s = (if m.got then some (c :: cs) else none, s) := by
  rw [consumeNumber]; simp [h]

theorem digits_spec (b : Bytes) : ∃ ds, b = ds ++ (J.digits b).2 ∧ ds.length = (J.digits b).1 ∧
    (∀ d ∈ ds, J.digit d = true) ∧ (∀ c ∈ (J.digits b).2.head?, J.digit c = false) := by
  induction b with
  | nil => exact ⟨[], by simp [J.digits]⟩
  | cons c cs ih =>
    simp only [J.digits]
    split
    · rename_i hd
      obtain ⟨ds, h1, h2, h3, h4⟩ := ih
      refine ⟨c :: ds, ?_, ?_, ?_, ?_⟩
      · simp only [List.cons_append]; congr 1
      · simp [h2]
      · intro d hd'
        cases hd' with
        | head => exact hd
        | tail _ h' => exact h3 d h'
      · exact h4
    · rename_i hd
      exact ⟨[], by simp, by simp, by simp, by simpa using hd⟩

theorem digit_run (mk : Bool → NMode) (hmk : ∀ g d, J.digit d = true → numStep (mk g) d = some (mk true))
    (ds : Bytes) (hds : ∀ d ∈ ds, J.digit d = true) : ∀ (g : Bool) (r : Bytes) (s : PState),
    consumeNumber (mk g) (ds ++ r) s = consumeNumber (mk (g || !ds.isEmpty)) r (s.bump ds.length) := by
  induction ds with
  | nil => intro g r s; simp
  | cons d ds ih =>
    intro g r s
    rw [List.cons_append, cn_step _ _ d _ s (hmk g d (hds d (List.mem_cons_self ..))),
      ih (fun x hx => hds x (List.mem_cons_of_mem _ hx))]
    simp [Nat.add_comm]

theorem int_run (ds : Bytes) (hds : ∀ d ∈ ds, J.digit d = true) (g : Bool) (r : Bytes) (s : PState) :
    consumeNumber (.int g) (ds ++ r) s = consumeNumber (.int (g || !ds.isEmpty)) r (s.bump ds.length) :=
  digit_run .int (fun g d h => by simp [numStep, show isDigit d = true from h]) ds hds g r s

theorem frac_run (ds : Bytes) (hds : ∀ d ∈ ds, J.digit d = true) (g : Bool) (r : Bytes) (s : PState) :
    consumeNumber (.frac g) (ds ++ r) s = consumeNumber (.frac (g || !ds.isEmpty)) r (s.bump ds.length) :=
  digit_run .frac (fun g d h => by simp [numStep, show isDigit d = true from h]) ds hds g r s

theorem exp_run (ds : Bytes) (hds : ∀ d ∈ ds, J.digit d = true) (g : Bool) (r : Bytes) (s : PState) :
    consumeNumber (.exp g) (ds ++ r) s = consumeNumber (.exp (g || !ds.isEmpty)) r (s.bump ds.length) :=
  digit_run .exp (fun g d h => by simp [numStep, show isDigit d = true from h]) ds hds g r s

/-- the byte after a number in a document: not something the liberal scanner would swallow -/
def Delim (r : Bytes) : Prop := ∀ c ∈ r.head?, J.digit c = false ∧ c ≠ 0x2E ∧ isE c = false

theorem stop_at (m : NMode) (hm : m.got = true) (r : Bytes) (s : PState)
    (hr : ∀ c ∈ r.head?, numStep m c = none) : consumeNumber m r s = (some r, s) := by
  cases r with
  | nil => rw [cn_nil, if_pos hm]
  | cons c cs => rw [cn_stop m c cs s (hr c rfl), if_pos hm]

theorem expChar_not_digit (e : Nat) (h : J.isExpChar e = true) : J.digit e = false ∧ (e == 0x2E) = false ∧ (e == 0x2D) = false := by
  simp only [J.isExpChar, Bool.or_eq_true, beq_iff_eq] at h
  rcases h with h | h <;> subst h <;> decide

theorem digits1_ok (t r : Bytes) (h : J.digits1 t = .ok () r) :
    ∃ d ds, t = (d :: ds) ++ r ∧ (∀ x ∈ d :: ds, J.digit x = true) ∧ (∀ c ∈ r.head?, J.digit c = false) := by
  unfold J.digits1 at h
  obtain ⟨ds, h1, h2, h3, h4⟩ := digits_spec t
  generalize hd : J.digits t = p at h h1 h2 h4
  obtain ⟨n, r'⟩ := p
  simp only at h h1 h2 h4
  split at h
  · split at h <;> cases h
  · rename_i hn
    simp only [J.R.ok.injEq, true_and] at h
    subst h
    cases ds with
    | nil => simp at h2; simp [← h2] at hn
    | cons d ds => exact ⟨d, ds, h1, h3, h4⟩

/-! the scanner's modes and the grammar's `dropMinus` / `dropSign`: an optional sign is one step -/

theorem dropMinus_length_le (b : Bytes) : (J.dropMinus b).length ≤ b.length := by
  unfold J.dropMinus; split
  · exact Nat.le_succ _
  · exact Nat.le_refl _

theorem dropSign_length_le (t : Bytes) : (J.dropSign t).length ≤ t.length := by
  cases t with
  | nil => exact Nat.le_refl _
  | cons sg t' =>
    rw [SpecComplete.dropSign_cons]; split
    · exact Nat.le_succ _
    · exact Nat.le_refl _

end Mime.JsonLeaf

namespace Mime.JsonBack
open Mime Mime.Json Mime.JsonLeaf

theorem start_eq_int (b : Bytes) (s : PState) (h : b.head? ≠ some 0x2D) :
    consumeNumber .start b s = consumeNumber (.int false) b s := by
  cases b with
  | nil => rw [cn_nil, cn_nil]; rfl
  | cons c cs =>
    have hc : (c == 0x2D) = false := by simpa using h
    rw [consumeNumber, consumeNumber]
    simp only [numStep, hc, Bool.false_eq_true, ↓reduceIte, Bool.false_and, NMode.got]

theorem expSign_eq_exp (t : Bytes) (s : PState) (h : ∀ c ∈ t.head?, (c == 0x2B || c == 0x2D) = false) :
    consumeNumber .expSign t s = consumeNumber (.exp false) t s := by
  cases t with
  | nil => rw [cn_nil, cn_nil]; rfl
  | cons c cs =>
    have hc := h c (by simp)
    rw [consumeNumber, consumeNumber]
    simp only [numStep, hc, Bool.false_eq_true, ↓reduceIte, NMode.got]

end Mime.JsonBack

namespace Mime.JsonLeaf
open Mime Mime.Json Mime.Spec Mime.JsonBack

theorem start_dropMinus (b : Bytes) (s : PState) :
    consumeNumber .start b s = consumeNumber (.int false) (J.dropMinus b) (s.bump (b.length - (J.dropMinus b).length)) := by
  cases b with
  | nil => rw [SpecComplete.dropMinus_nil, Nat.sub_self, bump_zero, start_eq_int _ _ (by simp)]
  | cons c cs =>
    by_cases hc : (c == 0x2D) = true
    · rw [beq_iff_eq.mp hc, SpecComplete.dropMinus_minus, List.length_cons, Nat.add_sub_cancel_left]
      exact cn_step .start (.int false) 0x2D cs s rfl
    · rw [SpecComplete.dropMinus_non c cs (Bool.eq_false_iff.mpr hc), Nat.sub_self, bump_zero,
        start_eq_int _ _ (by simpa using hc)]

theorem expSign_dropSign (t : Bytes) (s : PState) :
    consumeNumber .expSign t s = consumeNumber (.exp false) (J.dropSign t) (s.bump (t.length - (J.dropSign t).length)) := by
  cases t with
  | nil => rw [SpecComplete.dropSign_nil, Nat.sub_self, bump_zero, expSign_eq_exp _ _ (by simp)]
  | cons sg t' =>
    rw [SpecComplete.dropSign_cons]
    by_cases hs : (sg == 0x2B || sg == 0x2D) = true
    · rw [if_pos hs, List.length_cons, Nat.add_sub_cancel_left]
      exact cn_step .expSign (.exp false) sg t' s (by rw [numStep, if_pos hs])
    · rw [if_neg hs, Nat.sub_self, bump_zero, expSign_eq_exp _ _ (fun c hc => by cases hc; exact Bool.eq_false_iff.mpr hs)]

theorem expPart_forward (m : NMode) (hm : m = .int true ∨ m = .frac true) (r2 r : Bytes) (s : PState)
    (h : J.expPart r2 = .ok () r) (hd : Delim r) :
    consumeNumber m r2 s = (some r, s.bump (r2.length - r.length)) ∧ r.length ≤ r2.length := by
  have hgot : m.got = true := by rcases hm with rfl | rfl <;> rfl
  have hstop : ∀ c, J.digit c = false → (c == 0x2E) = false → isE c = false → numStep m c = none := by
    intro c h1 h2 h3
    rcases hm with rfl | rfl <;> simp [numStep, show isDigit c = false from h1, h2, h3]
  cases r2 with
  | nil => cases h; rw [cn_nil, if_pos hgot]; exact ⟨rfl, Nat.le_refl _⟩
  | cons e t =>
    rw [SpecComplete.expPart_cons] at h
    by_cases he : J.isExpChar e = true
    · rw [if_pos he] at h
      obtain ⟨hnd, hndot, _⟩ := expChar_not_digit e he
      have hstep : numStep m e = some .expSign := by
        rcases hm with rfl | rfl <;> simp [numStep, show isDigit e = false from hnd, hndot, show isE e = true from he]
      obtain ⟨d, ds, ht, hds, hr⟩ := digits1_ok _ r h
      -- the digits of the exponent; then back over the optional sign and the `e`
      have e0 : consumeNumber (.exp false) (J.dropSign t) (s.bump.bump (t.length - (J.dropSign t).length)) =
          (some r, (s.bump.bump (t.length - (J.dropSign t).length)).bump ((J.dropSign t).length - r.length)) := by
        rw [ht, exp_run (d :: ds) hds false r, show (false || !(d :: ds).isEmpty) = true from rfl,
          stop_at (.exp true) rfl r _ (fun c hc => by simp [numStep, show isDigit c = false from hr c hc]),
          List.length_append, Nat.add_sub_cancel]
      have e1 := ran_shift e0 (by rw [ht, List.length_append]; exact Nat.le_add_left ..)
        (Nat.add_sub_of_le (dropSign_length_le t)).symm
      rw [cn_step m .expSign e t s hstep, expSign_dropSign]
      exact ran_shift e1.1 e1.2 rfl
    · rw [if_neg he] at h
      cases h
      have hde := hd e rfl
      rw [cn_stop m e t s (hstop e hde.1 (Bool.eq_false_iff.mpr (beq_ne hde.2.1)) hde.2.2), if_pos hgot, Nat.sub_self, bump_zero]
      exact ⟨rfl, Nat.le_refl _⟩

theorem fracStrict_forward (r1 r2 : Bytes) (s : PState) (h : J.fracStrict r1 = .ok () r2) :
    ∃ m, (m = .int true ∨ m = .frac true) ∧ r2.length ≤ r1.length ∧
      consumeNumber (.int true) r1 s = consumeNumber m r2 (s.bump (r1.length - r2.length)) := by
  have hsame : J.fracStrict r1 = .ok () r1 → r2 = r1 := fun e => by rw [e] at h; cases h; rfl
  have stay : r2 = r1 → ∃ m, (m = .int true ∨ m = .frac true) ∧ r2.length ≤ r1.length ∧
      consumeNumber (.int true) r1 s = consumeNumber m r2 (s.bump (r1.length - r2.length)) := by
    rintro rfl; exact ⟨.int true, Or.inl rfl, Nat.le_refl _, by rw [Nat.sub_self, bump_zero]⟩
  cases r1 with
  | nil => exact stay (hsame rfl)
  | cons c t =>
    by_cases hc : c = 0x2E
    · subst hc
      obtain ⟨d, ds, ht, hds, hr⟩ := digits1_ok t r2 h
      have hl := congrArg List.length ht
      simp only [List.length_append, List.length_cons] at hl
      refine ⟨.frac true, Or.inr rfl, by rw [List.length_cons]; omega, ?_⟩
      rw [cn_step (.int true) (.frac true) 0x2E t s rfl, ht, frac_run (d :: ds) hds, bump_bump, ← ht]
      congr 2
      simp only [List.length_cons]; omega
    · refine stay (hsame ?_)
      unfold J.fracStrict; split
      · rename_i heq; exact absurd (List.cons.inj heq).1 hc
      · rfl

/-- an RFC 8259 number followed by a delimiter is consumed exactly -/
theorem numStrict_forward (b r : Bytes) (s : PState) (h : J.numStrict b = .ok () r) (hd : Delim r) :
    consumeNumber .start b s = (some r, s.bump (b.length - r.length)) ∧ r.length < b.length := by
  unfold J.numStrict at h
  have hmin := dropMinus_length_le b
  rw [start_dropMinus]
  generalize J.dropMinus b = b1 at h hmin
  cases b1 with
  | nil => cases h
  | cons c cs =>
    dsimp only at h
    by_cases hdc : J.digit c = true
    · rw [hdc, Bool.not_true, if_neg Bool.false_ne_true] at h
      -- the first digit; then the digits of the integer part, none after a leading zero
      generalize hs0 : s.bump (b.length - (c :: cs).length) = s0
      rw [cn_step (.int false) (.int true) c cs _ (by simp [numStep, show isDigit c = true from hdc])]
      obtain ⟨ds, hai, hds⟩ : ∃ ds, cs = ds ++ (if c == 0x30 then cs else (J.digits cs).2) ∧ ∀ d ∈ ds, J.digit d = true := by
        by_cases hz : (c == 0x30) = true
        · rw [if_pos hz]; exact ⟨[], rfl, fun _ h => nomatch h⟩
        · rw [if_neg hz]
          obtain ⟨ds, hcs, _, hds, _⟩ := digits_spec cs
          exact ⟨ds, hcs, hds⟩
      generalize (if c == 0x30 then cs else (J.digits cs).2) = afterInt at h hai
      cases hf : J.fracStrict afterInt with
      | more => rw [hf] at h; cases h
      | bad => rw [hf] at h; cases h
      | ok u r2 =>
        rw [hf] at h
        obtain ⟨m, hm, hle, hrun⟩ := fracStrict_forward afterInt r2 (s0.bump.bump ds.length) hf
        obtain ⟨he1, he2⟩ := expPart_forward m hm r2 r ((s0.bump.bump ds.length).bump (afterInt.length - r2.length)) h hd
        -- back from the exponent over the fraction, the integer digits, the first digit and the sign
        have e1 := ran_shift he1 he2 (Nat.add_sub_of_le hle).symm
        have e2 := ran_shift e1.1 e1.2 ((congrArg List.length hai).trans ((List.length_append ..).trans (Nat.add_comm ..)))
        have e3 := ran_shift (n := (c :: cs).length) e2.1 e2.2 rfl
        rw [← hs0] at e3
        have e4 := ran_shift e3.1 e3.2 (Nat.add_sub_of_le hmin).symm
        rw [hai, int_run ds hds, Bool.true_or, hrun, ← hs0]
        exact ⟨e4.1, Nat.lt_of_lt_of_le (Nat.lt_succ_of_le e2.2) hmin⟩
    · rw [Bool.eq_false_iff.mpr hdc] at h; cases h

end Mime.JsonLeaf
