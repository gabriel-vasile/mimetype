import MimeModel.Lemmas.JsonScanEq
/-
  Truncation lemmas ("prefix laws"): if a scanner function succeeds on `b` consuming `n`
  bytes, then on every cut `b.take k`
  * `k < n`  : all `k` bytes are inspected (and the result is a failure or an empty rest);
  * `n ≤ k`  : the result is the same, with the rest cut accordingly.
  These hold for every state, query and cap: the run on the prefix follows the run on the
  whole input until the cut.
-/
namespace Mime.JsonPrefix
open Mime Mime.Json Mime.Spec Mime.JsonLeaf

/-- outcome "nothing left": a failure, or a success with an empty rest -/
def EndsEmpty (o : Option Bytes) : Prop := o = none ∨ o = some []

/-- the prefix law for one successful call `F b s = (some r, s')` -/
def PrefixLaw (F : Bytes → PState → Option Bytes × PState) (b : Bytes) (s : PState) (r : Bytes) (s' : PState) : Prop :=
  r.length ≤ b.length ∧ s'.ib = s.ib + (b.length - r.length) ∧
  ∀ k : Nat,
    (k < b.length - r.length → (F (b.take k) s).2.ib = s.ib + k ∧ EndsEmpty (F (b.take k) s).1) ∧
    (b.length - r.length ≤ k → F (b.take k) s = (some (r.take (k - (b.length - r.length))), s'))

theorem take_cons_succ {α} (c : α) (cs : List α) (k : Nat) : (c :: cs).take (k + 1) = c :: cs.take k := rfl

/-- on empty input a scanner makes no progress and leaves nothing -/
def NoProgressOnEmpty (H : Scan) : Prop := ∀ x : PState, (H [] x).2.ib = x.ib ∧ EndsEmpty (H [] x).1

theorem consumed_take (b r1 : Bytes) (k : Nat) (h1 : r1.length ≤ b.length) (hk : b.length - r1.length ≤ k) :
    consumed (b.take k) (r1.take (k - (b.length - r1.length))) = consumed b r1 := by
  -- with `|b| = n + |r1|` and `k = n + j` both sides are `b.take n`
  obtain ⟨j, rfl⟩ := Nat.exists_eq_add_of_le hk
  unfold consumed
  have hb : b.length = (b.length - r1.length) + r1.length := (Nat.sub_add_cancel h1).symm
  generalize b.length - r1.length = n at hb ⊢
  rw [List.take_take, List.length_take, List.length_take, Nat.add_sub_cancel_left, hb, Nat.add_min_add_left, Nat.add_sub_cancel,
    Nat.min_eq_left (Nat.le_add_right n j)]

/-- `F = G ; H` on every cut of `b` (run `G`, on success continue with `H` on
    the rest; `H` may also look at the bytes `G` consumed; on failure only non-`ib` fields change) -/
theorem seq_law (G : Scan) (H : Bytes → Scan) (g : PState → PState) (F : Scan)
    (hg : ∀ x, (g x).ib = x.ib)
    (b : Bytes) (s : PState) (r1 : Bytes) (s1 : PState) (r : Bytes) (s' : PState)
    (hF : ∀ k, F (b.take k) s = match G (b.take k) s with
      | (some r1', s1') => H (consumed (b.take k) r1') r1' s1'
      | (none, s1') => (none, g s1'))
    (lG : PrefixLaw G b s r1 s1)
    (lH : PrefixLaw (H (consumed b r1)) r1 s1 r s') (hE : ∀ tag, NoProgressOnEmpty (H tag)) :
    PrefixLaw F b s r s' := by
  obtain ⟨g1, g2, g3⟩ := lG
  obtain ⟨h1, h2, h3⟩ := lH
  -- `n1` bytes for `G`, then `n2` for `H`
  have hn : b.length - r.length = (b.length - r1.length) + (r1.length - r.length) := (Nat.sub_add_sub_cancel g1 h1).symm
  generalize hn1 : b.length - r1.length = n1 at hn g2 g3
  generalize r1.length - r.length = n2 at hn h2 h3
  refine ⟨Nat.le_trans h1 g1, by rw [h2, g2, hn, Nat.add_assoc], fun k => ?_⟩
  rw [hn, hF]
  by_cases hk1 : k < n1
  · refine ⟨fun _ => ?_, fun hk => absurd hk (Nat.not_le_of_lt (Nat.lt_of_lt_of_le hk1 (Nat.le_add_right ..)))⟩
    obtain ⟨a1, a2⟩ := (g3 k).1 hk1
    generalize G (b.take k) s = res at a1 a2
    obtain ⟨o, x⟩ := res
    rcases a2 with rfl | rfl
    · exact ⟨(hg x).trans a1, Or.inl rfl⟩
    · obtain ⟨e1, e2⟩ := hE (consumed (b.take k) []) x
      exact ⟨e1.trans a1, e2⟩
  · have hk1' : n1 ≤ k := Nat.le_of_not_lt hk1
    rw [(g3 k).2 hk1']
    dsimp only
    have hc := consumed_take b r1 k g1 (hn1 ▸ hk1')
    rw [hn1] at hc
    rw [hc, ← Nat.sub_sub]
    refine ⟨fun hk => ?_, fun hk => (h3 (k - n1)).2 (Nat.le_sub_of_add_le' hk)⟩
    obtain ⟨a1, a2⟩ := (h3 (k - n1)).1 (Nat.sub_lt_left_of_lt_add hk1' hk)
    exact ⟨by rw [a1, g2, Nat.add_assoc, Nat.add_sub_of_le hk1'], a2⟩

theorem law_whole (F : Scan) (b : Bytes) (s : PState) (r : Bytes) (s' : PState) (l : PrefixLaw F b s r s') :
    F b s = (some r, s') := by
  have := (l.2.2 b.length).2 (Nat.sub_le ..)
  rw [List.take_length, Nat.sub_sub_self l.1, List.take_length] at this
  exact this

/-- one byte, then continue: `F (c :: x) s = K x s.bump` -/
theorem peek_law (F K : Scan) (c : Nat) (s : PState)
    (hF : ∀ x, F (c :: x) s = K x s.bump) (hF0 : (F [] s).2.ib = s.ib ∧ EndsEmpty (F [] s).1)
    (cs r : Bytes) (s' : PState) (lK : PrefixLaw K cs s.bump r s') :
    PrefixLaw F (c :: cs) s r s' := by
  obtain ⟨k1, k2, k3⟩ := lK
  have hn : (c :: cs).length - r.length = (cs.length - r.length) + 1 := Nat.succ_sub k1
  generalize cs.length - r.length = n at hn k2 k3
  refine ⟨Nat.le_succ_of_le k1, by rw [k2, hn, bump_ib, Nat.add_assoc, Nat.add_comm 1], fun k => ?_⟩
  rw [hn]
  cases k with
  | zero => exact ⟨fun _ => hF0, fun hk => absurd hk (Nat.not_succ_le_zero _)⟩
  | succ k =>
    rw [take_cons_succ, hF, Nat.add_sub_add_right]
    refine ⟨fun hk => ?_, fun hk => (k3 k).2 (Nat.le_of_succ_le_succ hk)⟩
    obtain ⟨a1, a2⟩ := (k3 k).1 (Nat.lt_of_succ_lt_succ hk)
    exact ⟨by rw [a1, bump_ib, Nat.add_assoc, Nat.add_comm 1], a2⟩

/-- one byte, then done: `F (c :: x) s = (some x, t)` -/
theorem last_byte_law (F : Scan) (c : Nat) (s t : PState) (ht : t.ib = s.ib + 1)
    (hF : ∀ x, F (c :: x) s = (some x, t)) (hF0 : (F [] s).2.ib = s.ib ∧ EndsEmpty (F [] s).1) (cs : Bytes) :
    PrefixLaw F (c :: cs) s cs t := by
  have hn : (c :: cs).length - cs.length = 1 := Nat.add_sub_cancel_left ..
  refine ⟨Nat.le_succ _, by rw [ht, hn], fun k => ?_⟩
  rw [hn]
  cases k with
  | zero => exact ⟨fun _ => hF0, fun hk => absurd hk (Nat.not_succ_le_zero _)⟩
  | succ k =>
    rw [take_cons_succ, hF, Nat.add_sub_cancel]
    exact ⟨fun hk => absurd hk (Nat.not_succ_le_zero _ ∘ Nat.le_of_succ_le_succ), fun _ => rfl⟩

/-- no byte: a scanner that hands back every cut unchanged -/
theorem stop_law (F : Scan) {b : Bytes} {s : PState} (hF : ∀ k, F (b.take k) s = (some (b.take k), s)) :
    PrefixLaw F b s b s := by
  refine ⟨Nat.le_refl _, by rw [Nat.sub_self]; rfl, fun k => ?_⟩
  rw [Nat.sub_self]
  exact ⟨fun hk => absurd hk (Nat.not_lt_zero _), fun _ => hF k⟩

/-- the law only looks at `ib` and at the cuts of `b`: it transfers to a function that agrees
    with `F'` on every non-empty cut and makes no progress on the empty one -/
theorem law_congr (F F' : Scan) (s s0 : PState) (hib : s0.ib = s.ib) (b r : Bytes) (s' : PState)
    (hFF : ∀ k, 0 < k → F (b.take k) s = F' (b.take k) s0)
    (hF0 : (F [] s).2.ib = s.ib ∧ EndsEmpty (F [] s).1) (hF'0 : (F' [] s0).1 = none)
    (h : PrefixLaw F' b s0 r s') : PrefixLaw F b s r s' := by
  obtain ⟨h1, h2, h3⟩ := h
  refine ⟨h1, by rw [h2, hib], ?_⟩
  intro k
  cases k with
  | zero =>
    simp only [List.take_zero]
    constructor
    · intro _; exact hF0
    · intro hk
      have := (h3 0).2 hk
      simp only [List.take_zero] at this
      rw [this] at hF'0
      cases hF'0
  | succ k =>
    rw [hFF _ (by omega), ← hib]
    exact h3 (k + 1)

theorem law_congr_all (F F' : Scan) (s s0 : PState) (hib : s0.ib = s.ib) (b r : Bytes) (s' : PState)
    (hFF : ∀ x, F x s = F' x s0) (h : PrefixLaw F' b s0 r s') : PrefixLaw F b s r s' := by
  obtain ⟨h1, h2, h3⟩ := h
  refine ⟨h1, by rw [h2, hib], ?_⟩
  intro k
  rw [hFF, ← hib]
  exact h3 k

theorem skipWs_take (b : Bytes) (k : Nat) :
    let m := b.length - (J.skipWs b).length
    (k < m → J.skipWs (b.take k) = [] ∧ (b.take k).length = k) ∧
    (m ≤ k → J.skipWs (b.take k) = (J.skipWs b).take (k - m) ∧ (b.take k).length - (J.skipWs (b.take k)).length = m) := by
  induction b generalizing k with
  | nil => simp [J.skipWs]
  | cons c cs ih =>
    dsimp only
    by_cases hw : J.ws c = true
    · -- a blank: one more byte skipped than in `cs`
      have e : ∀ t, J.skipWs (c :: t) = J.skipWs t := fun t => by rw [J.skipWs, if_pos hw]
      rw [e, show (c :: cs).length - (J.skipWs cs).length = (cs.length - (J.skipWs cs).length) + 1 from
        Nat.succ_sub (skipWs_length_le cs)]
      cases k with
      | zero => exact ⟨fun _ => ⟨rfl, rfl⟩, fun h => absurd h (Nat.not_succ_le_zero _)⟩
      | succ k =>
        rw [take_cons_succ, e, Nat.add_sub_add_right, List.length_cons]
        refine ⟨fun h => ?_, fun h => ?_⟩
        · obtain ⟨a1, a2⟩ := (ih k).1 (Nat.lt_of_succ_lt_succ h)
          exact ⟨a1, by rw [a2]⟩
        · obtain ⟨a1, a2⟩ := (ih k).2 (Nat.le_of_succ_le_succ h)
          exact ⟨a1, by rw [Nat.succ_sub (skipWs_length_le _), a2]⟩
    · have e : ∀ t, J.skipWs (c :: t) = c :: t := fun t => by rw [J.skipWs, if_neg hw]
      rw [e, Nat.sub_self]
      refine ⟨fun h => absurd h (Nat.not_lt_zero _), fun _ => ?_⟩
      cases k with
      | zero => exact ⟨rfl, rfl⟩
      | succ k => rw [take_cons_succ, e]; exact ⟨rfl, Nat.sub_self _⟩

theorem consumeConst_short (w : Bytes) : ∀ (k : Nat) (s : PState), k < w.length →
    consumeConst (w.take k) w s = (none, s.bump k) := by
  induction w with
  | nil => intro k s h; simp at h
  | cons x xs ih =>
    intro k s h
    cases k with
    | zero => simp [consumeConst]
    | succ k =>
      simp only [take_cons_succ, consumeConst, beq_self_eq_true, ↓reduceIte]
      rw [ih k s.bump (by simpa using h)]
      simp [Nat.add_comm]

theorem consumeConst_prefix (w r : Bytes) (s : PState) :
    PrefixLaw (fun b s => consumeConst b w s) (w ++ r) s r (s.bump w.length) := by
  refine ⟨by simp, by simp, ?_⟩
  intro k
  simp only [List.length_append, Nat.add_sub_cancel]
  constructor
  · intro hk
    have : (w ++ r).take k = w.take k := by rw [List.take_append_of_le_length (by omega)]
    rw [this, consumeConst_short w k s hk]
    exact ⟨by simp, Or.inl rfl⟩
  · intro hk
    have : (w ++ r).take k = w ++ r.take (k - w.length) := by
      rw [List.take_append]
      congr 1
      exact List.take_of_length_le hk
    rw [this]
    exact consumeConst_ok w _ _ _ rfl

/-- `consumeString` is an automaton: on a byte it moves to another mode, or it is the closing quote, or it fails -/
theorem consumeString_step (m : SMode) (c : Nat) :
    (∃ m', ∀ x s, consumeString m (c :: x) s = consumeString m' x s.bump) ∨
    (∀ x s, consumeString m (c :: x) s = (some x, s.bump)) ∨ (∀ x s, consumeString m (c :: x) s = (none, s)) := by
  cases m with
  | norm =>
    by_cases h1 : (c == 0x5C) = true
    · rw [beq_iff_eq.mp h1]; exact Or.inl ⟨.esc, cs_norm_bs⟩
    · by_cases h2 : (c == 0x22) = true
      · rw [beq_iff_eq.mp h2]; exact Or.inr (Or.inl cs_norm_quote)
      · exact Or.inl ⟨.norm, fun x s => cs_norm_other c x s (Bool.eq_false_iff.mpr h1) (Bool.eq_false_iff.mpr h2)⟩
  | esc =>
    by_cases h1 : isSimpleEsc c = true
    · exact Or.inl ⟨.norm, fun x s => cs_esc_simple c x s h1⟩
    · by_cases h2 : (c == 0x75) = true
      · rw [beq_iff_eq.mp h2]; exact Or.inl ⟨.hex 4, cs_esc_u⟩
      · exact Or.inr (Or.inr fun x s => cs_esc_bad c x s (Bool.eq_false_iff.mpr h1) (Bool.eq_false_iff.mpr h2))
  | hex j =>
    by_cases h1 : isXDigit c = true
    · by_cases hj : j ≤ 1
      · exact Or.inl ⟨.norm, fun x s => by rw [cs_hex_ok j c x s h1, if_pos hj]⟩
      · exact Or.inl ⟨.hex (j - 1), fun x s => by rw [cs_hex_ok j c x s h1, if_neg hj]⟩
    · exact Or.inr (Or.inr fun x s => cs_hex_bad j c x s (Bool.eq_false_iff.mpr h1))

theorem consumeString_prefix (cs : Bytes) : ∀ (m : SMode) (s : PState) (r : Bytes) (s' : PState),
    consumeString m cs s = (some r, s') → PrefixLaw (consumeString m) cs s r s' := by
  induction cs with
  | nil => intro m s r s' h; rw [cs_nil] at h; cases h
  | cons c cs ih =>
    intro m s r s' h
    have h0 : (consumeString m [] s).2.ib = s.ib ∧ EndsEmpty (consumeString m [] s).1 := by
      rw [cs_nil]; exact ⟨rfl, Or.inl rfl⟩
    rcases consumeString_step m c with ⟨m', hm⟩ | hq | hbad
    · rw [hm] at h
      exact peek_law _ _ c s (fun x => hm x s) h0 cs r s' (ih m' s.bump r s' h)
    · rw [hq] at h
      cases h
      exact last_byte_law _ c s s.bump rfl (fun x => hq x s) h0 cs
    · rw [hbad] at h; cases h

theorem consumeNumber_prefix (b : Bytes) : ∀ (m : NMode) (s : PState) (r : Bytes) (s' : PState),
    consumeNumber m b s = (some r, s') → PrefixLaw (consumeNumber m) b s r s' := by
  induction b with
  | nil =>
    intro m s r s' h
    rw [cn_nil] at h
    by_cases hg : m.got = true
    · rw [if_pos hg] at h; cases h
      exact stop_law _ fun k => by rw [List.take_nil, cn_nil, if_pos hg]
    · rw [if_neg hg] at h; cases h
  | cons c cs ih =>
    intro m s r s' h
    have h0 : (consumeNumber m [] s).2.ib = s.ib ∧ EndsEmpty (consumeNumber m [] s).1 := by
      rw [cn_nil]; exact ⟨rfl, by by_cases hg : m.got = true <;> simp [hg, EndsEmpty]⟩
    cases hs : numStep m c with
    | some m' =>
      rw [cn_step m m' c cs s hs] at h
      exact peek_law _ _ c s (fun x => cn_step m m' c x s hs) h0 cs r s' (ih m' s.bump r s' h)
    | none =>
      rw [cn_stop m c cs s hs] at h
      by_cases hg : m.got = true
      · rw [if_pos hg] at h; cases h
        refine stop_law _ fun k => ?_
        cases k with
        | zero => rw [List.take_zero, cn_nil, if_pos hg]
        | succ k => rw [take_cons_succ, cn_stop m c _ s hs, if_pos hg]
      · rw [if_neg hg] at h; cases h

theorem spaceScan_law (b : Bytes) (s : PState) :
    PrefixLaw spaceScan b s (J.skipWs b) (s.bump (b.length - (J.skipWs b).length)) := by
  refine ⟨skipWs_length_le b, rfl, fun k => ?_⟩
  have h := skipWs_take b k
  rw [spaceScan_val]
  constructor
  · intro hk
    obtain ⟨a1, a2⟩ := h.1 hk
    rw [a1, a2]
    exact ⟨rfl, Or.inr rfl⟩
  · intro hk
    obtain ⟨a1, a2⟩ := h.2 hk
    rw [a2, a1]

/-- a scanner whose every success obeys the prefix law -/
def Lawful (F : Scan) : Prop := ∀ b s r s', F b s = (some r, s') → PrefixLaw F b s r s'

theorem lawful_space : Lawful spaceScan := by
  intro b s r s' h
  rw [spaceScan_val] at h; cases h
  exact spaceScan_law b s

theorem seqScan_law (G : Scan) (H : Bytes → Scan) (b : Bytes) (s : PState) (r1 : Bytes) (s1 : PState) (r : Bytes) (s' : PState)
    (lG : PrefixLaw G b s r1 s1) (lH : PrefixLaw (H (consumed b r1)) r1 s1 r s') (hE : ∀ tag, NoProgressOnEmpty (H tag)) :
    PrefixLaw (seqScan G H) b s r s' :=
  seq_law G H id (seqScan G H) (fun _ => rfl) b s r1 s1 r s' (fun _ => rfl) lG lH hE

theorem seqScan_nil {G : Scan} (H : Bytes → Scan) {s : PState} (h : (G [] s).1 = none) : (seqScan G H [] s).1 = none := by
  unfold seqScan
  generalize G [] s = res at h
  obtain ⟨o, x⟩ := res
  cases h
  rfl

theorem Lawful.seq {G : Scan} {H : Bytes → Scan} (hG : Lawful G) (hH : ∀ tag, Lawful (H tag))
    (hE : ∀ tag, NoProgressOnEmpty (H tag)) : Lawful (seqScan G H) := by
  intro b s r s' h
  have h' := h
  unfold seqScan at h'
  generalize hres : G b s = res at h'
  obtain ⟨o, s1⟩ := res
  cases o with
  | none => cases h'
  | some r1 => exact seqScan_law G H b s r1 s1 r s' (hG _ _ _ _ hres) (hH _ _ _ _ _ h') hE

/-- the law at one state, from a lawful scanner that does the same from a state with the same counter -/
theorem Lawful.congr {F F' : Scan} {s s0 : PState} (hib : s0.ib = s.ib) (hFF : ∀ x, F x s = F' x s0) (hF' : Lawful F')
    {b r : Bytes} {s' : PState} (h : F b s = (some r, s')) : PrefixLaw F b s r s' :=
  law_congr_all F F' s s0 hib b r s' hFF (hF' _ _ _ _ (by rw [← hFF]; exact h))

/-- what a scanner does with a first byte `c` from state `s`: it goes on as another scanner behind the byte,
    it is done, it is another lawful scanner on the whole input, or it fails.  `peek` is for a scanner that
    consumes `c` itself (`K` starts behind it), `same` for one that hands `c :: x` on unchanged. -/
inductive HeadStep (F : Scan) (c : Nat) (s : PState) : Prop
  | peek (K : Scan) (hK : ∀ cs r s', K cs s.bump = (some r, s') → PrefixLaw K cs s.bump r s') (hF : ∀ x, F (c :: x) s = K x s.bump)
  | last (t : PState) (ht : t.ib = s.ib + 1) (hF : ∀ x, F (c :: x) s = (some x, t))
  | same (F' : Scan) (hF' : Lawful F') (hnil : (F' [] s).1 = none) (hF : ∀ x, F (c :: x) s = F' (c :: x) s)
  | fail (hF : ∀ x, (F (c :: x) s).1 = none)

theorem lawful_of_head {F : Scan} (hib : ∀ s, (F [] s).2.ib = s.ib) (hnil : ∀ s, (F [] s).1 = none)
    (hc : ∀ c s, HeadStep F c s) : Lawful F := by
  intro b s r s' h
  have h0 : (F [] s).2.ib = s.ib ∧ EndsEmpty (F [] s).1 := ⟨hib s, Or.inl (hnil s)⟩
  cases b with
  | nil => have := hnil s; rw [h] at this; cases this
  | cons c cs =>
    cases hc c s with
    | peek K hK hF => rw [hF] at h; exact peek_law F K c s hF h0 cs r s' (hK cs r s' h)
    | last t ht hF => rw [hF] at h; cases h; exact last_byte_law F c s _ ht hF h0 _
    | same F' hF' hn hF =>
      rw [hF] at h
      refine law_congr F F' s s rfl (c :: cs) r s' (fun k hk => ?_) h0 hn (hF' _ _ _ _ h)
      cases k with
      | zero => exact absurd hk (Nat.lt_irrefl 0)
      | succ k => rw [take_cons_succ]; exact hF _
    | fail hF => have := hF cs; rw [h] at this; cases this

end Mime.JsonPrefix
