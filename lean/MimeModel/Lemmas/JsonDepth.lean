import MimeModel.Props.C09
import MimeModel.Lemmas.JsonQuery
import MimeModel.Lemmas.JsonScanEq
/-
  C16, the converse of the cap hypothesis of the forward simulation: whatever the scanner
  accepts has nesting depth within the recursion cap.

  Reading of the model (Model/Json.lean): `consumeAny … lvl` fails at once when
  `cap ≠ 0 ∧ lvl > cap`; the top-level value is scanned at `lvl = 0`; an array / object scanned
  at level `L` scans its items / member values at `L + 1`.  Hence a value (scalar or container)
  at level `L` needs `L ≤ cap`; a container with at least one child needs `L + 1 ≤ cap`; but an
  EMPTY container at level `L` needs only `L ≤ cap` although `J.depth` counts it as 1.  The
  tight bound in terms of `J.depth` is therefore

      lvl + J.depth v ≤ cap + 1

  (reached by `[[]]` at cap 1).
-/
namespace Mime.JsonDepth
open Mime Mime.Json Mime.Spec Mime.JsonLeaf Mime.JsonBack Mime.JsonForward

theorem depthList_le (d : Nat) : ∀ xs : List J.JVal, (∀ x ∈ xs, J.depth x ≤ d) → J.depthList xs ≤ d
  | [], _ => Nat.zero_le d
  | x :: xs, h => Nat.max_le.mpr ⟨h x (List.mem_cons_self ..), depthList_le d xs (fun y hy => h y (List.mem_cons_of_mem _ hy))⟩

theorem depthMembers_le (d : Nat) : ∀ ms : List (Bytes × J.JVal), (∀ m ∈ ms, J.depth m.2 ≤ d) → J.depthMembers ms ≤ d
  | [], _ => Nat.zero_le d
  | m :: ms, h => Nat.max_le.mpr ⟨h m (List.mem_cons_self ..), depthMembers_le d ms (fun y hy => h y (List.mem_cons_of_mem _ hy))⟩

/-- the arithmetic of one more level, on variables (`omega` is slow on goals that mention `J.depth`) -/
theorem level_sub {l c d : Nat} (h : l + 1 + d ≤ c + 1) : d ≤ c - l := by omega
theorem level_add {l c d : Nat} (hl : l ≤ c) (h : d ≤ c - l) : l + (d + 1) ≤ c + 1 := by omega

theorem depth_arr_le {lvl cap : Nat} (hl : lvl ≤ cap) {xs : List J.JVal} (h : ∀ x ∈ xs, lvl + 1 + J.depth x ≤ cap + 1) :
    lvl + J.depth (.arr xs) ≤ cap + 1 :=
  level_add hl (depthList_le (cap - lvl) xs (fun x hx => level_sub (h x hx)))

theorem depth_obj_le {lvl cap : Nat} (hl : lvl ≤ cap) {ms : List (Bytes × J.JVal)} (h : ∀ m ∈ ms, lvl + 1 + J.depth m.2 ≤ cap + 1) :
    lvl + J.depth (.obj ms) ≤ cap + 1 :=
  level_add hl (depthMembers_le (cap - lvl) ms (fun m hm => level_sub (h m hm)))

theorem finishAny_ok_inv {q : Bool} {lvl t : Nat} {res : Option Bytes × PState} {rest : Bytes}
    (h : (finishAny q lvl t res).1 = some rest) : ∃ r0, res.1 = some r0 := by
  obtain ⟨o, s'⟩ := res
  cases o with
  | none => cases h
  | some r => exact ⟨r, rfl⟩

theorem value_scalar (f : Nat) (b : Bytes) (c : Nat) (cs : Bytes) (v : J.JVal) (r : Bytes)
    (hy : J.skipWs b = c :: cs) (h1 : (c == 0x5B) = false) (h2 : (c == 0x7B) = false)
    (hv : J.value false f b = .ok v r) : J.depth v = 0 := by
  have hk := JsonQuery.value_containerV false f b c cs v r hy hv
  rw [h1, h2] at hk
  cases v with
  | arr _ => cases hk
  | obj _ => cases hk
  | _ => rfl

variable (qs : List Mime.Gen.Json.Query) (cap : Nat)

/-! By induction on the fuel, along the pieces of the container scanners (Lemmas/JsonScanEq.lean) on one
  side and of the reference (Lemmas/JsonSpecEq.lean) on the other; the backward simulation
  (`back_all`) keeps the two in step: where the scanner stops is where the reference stops, up to
  white space. -/

/-- a value accepted at level `lvl` has `lvl + depth ≤ cap + 1` -/
def DAny (f : Nat) : Prop := ∀ (lvl : Nat) (b : Bytes) (s : PState) (rest : Bytes) (v : J.JVal) (r : Bytes),
  2 * b.length + 1 ≤ f → (consumeAny qs cap f lvl b s).1 = some rest → J.value false f b = .ok v r →
  lvl + J.depth v ≤ cap + 1

/-- every item collected by the array loop running at level `lvl` has `lvl + depth ≤ cap + 1` -/
def DArr (f : Nat) : Prop := ∀ (lvl : Nat) (b : Bytes) (s : PState) (acc : List J.JVal) (first : Bool)
    (rest : Bytes) (v : J.JVal) (r : Bytes),
  2 * b.length + 2 ≤ f → (arrayLoop qs cap f lvl b s).1 = some rest → J.items false f b acc first = .ok v r →
  (∀ x ∈ acc, lvl + J.depth x ≤ cap + 1) →
  ∃ xs, v = .arr xs ∧ ∀ x ∈ xs, lvl + J.depth x ≤ cap + 1

/-- every member value collected by the object loop running at level `lvl` has `lvl + depth ≤ cap + 1` -/
def DObj (f : Nat) : Prop := ∀ (lvl : Nat) (b : Bytes) (s : PState) (acc : List (Bytes × J.JVal)) (first : Bool)
    (rest : Bytes) (v : J.JVal) (r : Bytes),
  2 * b.length + 2 ≤ f → (objectLoop qs cap f lvl b s).1 = some rest → J.members false f b acc first = .ok v r →
  (∀ m ∈ acc, lvl + J.depth m.2 ≤ cap + 1) →
  ∃ ms, v = .obj ms ∧ ∀ m ∈ ms, lvl + J.depth m.2 ≤ cap + 1

section steps
open Mime.JsonPrefix Mime.SpecComplete
variable {qs cap}

theorem classify_arr : classify 0x5B = .arr := rfl
theorem classify_obj : classify 0x7B = .obj := rfl
theorem kindScan_arr (f lvl c d : Nat) (ds : Bytes) (st : PState) :
    kindScan qs cap f lvl .arr (c :: d :: ds) st = arrayLoop qs cap f (lvl + 1) (d :: ds) (st.bump.push [0x5B]) := rfl
theorem kindScan_obj (f lvl c : Nat) (cs : Bytes) (st : PState) :
    kindScan qs cap f lvl .obj (c :: cs) st = objectLoop qs cap f (lvl + 1) cs st.bump := rfl
theorem valueHead_arr (f : Nat) (cs : Bytes) : valueHead false f 0x5B cs = J.items false f cs [] true := rfl
theorem valueHead_obj (f : Nat) (cs : Bytes) : valueHead false f 0x7B cs = J.members false f cs [] true := rfl

variable {f : Nat} (hV : DAny qs cap f) (hA : DArr qs cap f) (hO : DObj qs cap f)

include hV in
theorem accepted_of (lvl : Nat) (b : Bytes) (s : PState) (rest : Bytes)
    (hf : 2 * b.length + 1 ≤ f) (h : (consumeAny qs cap f lvl b s).1 = some rest) :
    ∃ v r, J.value false f b = .ok v r ∧ J.skipWs r = rest ∧ rest.length ≤ b.length ∧ lvl + J.depth v ≤ cap + 1 := by
  have hd := fun v r => hV lvl b s rest v r hf h
  have hb := (back_all qs cap f).1 lvl b s hf
  generalize consumeAny qs cap f lvl b s = res at h hb
  obtain ⟨o, s'⟩ := res
  cases h
  obtain ⟨⟨v, hv⟩, _, hlen⟩ := hb
  rcases valueWs_cases f b with ⟨v', r0, e1, e2⟩ | ⟨_, e2⟩ | ⟨_, e2⟩
  · rw [e2] at hv
    injection hv with _ e4
    exact ⟨v', r0, e1, e4, hlen, hd v' r0 e1⟩
  · rw [e2] at hv; cases hv
  · rw [e2] at hv; cases hv

include hA in
theorem arrAfter_depth (lvl : Nat) (r0 r2 : Bytes) (s2 : PState) (acc : List J.JVal)
    (rest : Bytes) (x v : J.JVal) (r : Bytes) (hsk : J.skipWs r0 = r2) (hf : 2 * r2.length ≤ f)
    (h : (arrAfter qs cap f lvl r2 s2).1 = some rest) (hv : itemsAfter false f acc (.ok x r0) = .ok v r)
    (hacc : ∀ y ∈ x :: acc, lvl + J.depth y ≤ cap + 1) : ∃ xs, v = .arr xs ∧ ∀ y ∈ xs, lvl + J.depth y ≤ cap + 1 := by
  cases r2 with
  | nil => cases h
  | cons d ds =>
    rw [itemsAfter_cons hsk] at hv
    simp only [arrAfter] at h
    by_cases h1 : (d == 0x2C) = true
    · rw [if_pos h1] at h hv
      exact hA lvl ds s2.bump (x :: acc) false rest v r (by simp only [List.length_cons] at hf; omega) h hv hacc
    · rw [if_neg h1] at h hv
      by_cases h2 : (d == 0x5D) = true
      · rw [if_pos h2] at hv
        cases hv
        exact ⟨_, rfl, fun y hy => hacc y (List.mem_reverse.mp hy)⟩
      · rw [if_neg h2] at h
        cases h

include hV hA in
theorem arr_depth_step : DArr qs cap (f + 1) := by
  intro lvl b s acc first rest v r hb h hv hacc
  rw [arrayLoop_eq, spaceScan_val] at h
  have hle := skipWs_length_le b
  cases hy : J.skipWs b with
  | nil => rw [hy] at h; cases h
  | cons c cs =>
    rw [hy] at h hle
    simp only [arrHead] at h
    by_cases hc : (c == 0x5D) = true
    · rw [items_close hy (by rw [hc]; simp)] at hv
      cases hv
      exact ⟨_, rfl, fun y hy => hacc y (List.mem_reverse.mp hy)⟩
    · rw [if_neg hc] at h
      rw [items_val hy (by rw [Bool.and_eq_true]; exact fun e => hc e.1)] at hv
      generalize hres : consumeAny qs cap f lvl (c :: cs) _ = res at h
      obtain ⟨o, s2⟩ := res
      cases o with
      | none => cases h
      | some r2 =>
        obtain ⟨x, r0, h1, hsk, hlen, hd⟩ := accepted_of hV lvl (c :: cs) _ r2 (by omega) (by rw [hres])
        rw [h1] at hv
        exact arrAfter_depth hA lvl r0 r2 s2 acc rest x v r hsk (by omega) h hv
          (fun y hy => (List.mem_cons.mp hy).elim (fun e => e ▸ hd) (hacc y))

include hO in
theorem objAfterVal_depth (lvl : Nat) (qm : Option Gen.Json.Query) {tag : Bytes} (r0 r2 : Bytes) (s6 : PState)
    (acc : List (Bytes × J.JVal)) (rest k : Bytes) (x v : J.JVal) (r : Bytes) (hsk : J.skipWs r0 = r2) (hf : 2 * r2.length ≤ f)
    (h : (objAfterVal qs cap f lvl qm tag r2 s6).1 = some rest) (hv : membersAfterVal false f acc k (.ok x r0) = .ok v r)
    (hacc : ∀ m ∈ (k, x) :: acc, lvl + J.depth m.2 ≤ cap + 1) : ∃ ms, v = .obj ms ∧ ∀ m ∈ ms, lvl + J.depth m.2 ≤ cap + 1 := by
  cases r2 with
  | nil => cases h
  | cons g gs =>
    rw [membersAfterVal_cons hsk] at hv
    simp only [objAfterVal] at h
    by_cases h1 : (g == 0x2C) = true
    · rw [if_pos h1] at h hv
      exact hO lvl gs _ ((k, x) :: acc) false rest v r (by simp only [List.length_cons] at hf; omega) h hv hacc
    · rw [if_neg h1] at h hv
      by_cases h2 : (g == 0x7D) = true
      · rw [if_pos h2] at hv
        cases hv
        exact ⟨_, rfl, fun m hm => hacc m (List.mem_reverse.mp hm)⟩
      · rw [if_neg h2] at h
        cases h

include hV hO in
theorem objColon_depth (lvl : Nat) {qm : Option Gen.Json.Query} (rk : Bytes) {y : Bytes}
    {s4 : PState} (acc : List (Bytes × J.JVal)) (rest k : Bytes) (v : J.JVal) (r : Bytes) (hsk : J.skipWs rk = y)
    (hf : 2 * y.length + 1 ≤ f) (h : (objColon qs cap f lvl qm y s4).1 = some rest)
    (hv : membersAfterKey false f acc (.ok k rk) = .ok v r) (hacc : ∀ m ∈ acc, lvl + J.depth m.2 ≤ cap + 1) :
    ∃ ms, v = .obj ms ∧ ∀ m ∈ ms, lvl + J.depth m.2 ≤ cap + 1 := by
  cases y with
  | nil => cases h
  | cons d ds =>
    rw [membersAfterKey_cons hsk] at hv
    simp only [objColon] at h
    by_cases hd : (d != 0x3A) = true
    · rw [if_pos hd] at h; cases h
    · rw [if_neg hd, spaceScan_val] at h
      rw [if_neg hd, value_skipWs] at hv
      have hle := skipWs_length_le ds
      simp only [List.length_cons] at hf
      generalize J.skipWs ds = z at h hv hle
      cases z with
      | nil => cases h
      | cons e es =>
        simp only [objValue] at h
        generalize hres : consumeAny qs cap f lvl (e :: es) _ = res at h
        obtain ⟨o, s6⟩ := res
        cases o with
        | none => cases h
        | some r2 =>
          obtain ⟨x, r0, h1, hsk2, hlen, hdx⟩ := accepted_of hV lvl (e :: es) _ r2 (by omega) (by rw [hres])
          rw [h1] at hv
          exact objAfterVal_depth hO lvl qm r0 r2 s6 acc rest k x v r hsk2 (by omega) h hv
            (fun m hm => (List.mem_cons.mp hm).elim (fun e => e ▸ hdx) (hacc m))

include hV hO in
theorem obj_depth_step : DObj qs cap (f + 1) := by
  intro lvl b s acc first rest v r hb h hv hacc
  rw [objectLoop_eq, spaceScan_val] at h
  have hle := skipWs_length_le b
  cases hy : J.skipWs b with
  | nil => rw [hy] at h; cases h
  | cons c cs =>
    rw [hy] at h hle
    simp only [objHead] at h
    by_cases hc : (c == 0x7D) = true
    · rw [members_close hy (by rw [hc]; simp)] at hv
      cases hv
      exact ⟨_, rfl, fun m hm => hacc m (List.mem_reverse.mp hm)⟩
    · rw [if_neg hc] at h
      rw [members_key hy (by rw [Bool.and_eq_true]; exact fun e => hc e.1)] at hv
      by_cases hq : (c != 0x22) = true
      · rw [if_pos hq] at h; cases h
      · rw [if_neg hq] at h hv
        have ik := str_back cs [] (s.bump (b.length - (c :: cs).length)).bump
        generalize consumeString .norm cs _ = resk at h ik
        obtain ⟨ok, s2⟩ := resk
        cases ok with
        | none => cases h
        | some rk =>
          obtain ⟨⟨k, hk⟩, _, i3⟩ := ik
          rw [hk] at hv
          simp only [objAfterKey, spaceScan_val] at h
          have hler := skipWs_length_le rk
          simp only [List.length_cons] at hle
          exact objColon_depth hV hO lvl rk acc rest k v r rfl (by omega) h hv hacc

include hA hO in
theorem any_depth_step (hc : cap ≠ 0) : DAny qs cap (f + 1) := by
  intro lvl b s rest v r hb h hv
  rw [consumeAny_eq] at h
  by_cases hover : (cap != 0 && decide (lvl > cap)) = true
  · rw [if_pos hover] at h; cases h
  · have hlt : lvl ≤ cap := by
      simp only [Bool.and_eq_true, bne_iff_ne, ne_eq, decide_eq_true_eq, not_and, Nat.not_lt] at hover
      exact hover hc
    rw [if_neg hover, spaceScan_val] at h
    have hle := skipWs_length_le b
    cases hy : J.skipWs b with
    | nil => rw [hy] at h; cases h
    | cons c cs =>
      rw [hy] at h hle
      simp only [List.length_cons] at hle
      simp only [anyHead, finishScan] at h
      obtain ⟨r0, hr0⟩ := finishAny_ok_inv h
      by_cases h5 : c = 0x5B
      · subst h5
        rw [value_cons hy, valueHead_arr] at hv
        rw [classify_arr] at hr0
        cases cs with
        | nil => cases hr0
        | cons d ds =>
          rw [kindScan_arr] at hr0
          obtain ⟨xs, rfl, hxs⟩ := hA (lvl + 1) (d :: ds) _ [] true r0 v r
            (by simp only [List.length_cons] at hle ⊢; omega) hr0 hv (fun _ hx => nomatch hx)
          exact depth_arr_le hlt hxs
      · by_cases h7 : c = 0x7B
        · subst h7
          rw [value_cons hy, valueHead_obj] at hv
          rw [classify_obj, kindScan_obj] at hr0
          obtain ⟨ms, rfl, hms⟩ := hO (lvl + 1) cs _ [] true r0 v r (by omega) hr0 hv (fun _ hx => nomatch hx)
          exact depth_obj_le hlt hms
        · rw [value_scalar (f + 1) b c cs v r hy (by simpa using h5) (by simpa using h7) hv]
          exact Nat.le_succ_of_le hlt

end steps

theorem depth_all (hc : cap ≠ 0) : ∀ f, DAny qs cap f ∧ DArr qs cap f ∧ DObj qs cap f := by
  intro f
  induction f with
  | zero =>
    refine ⟨?_, ?_, ?_⟩
    · intro lvl b s rest v r h
      exact absurd h (Nat.not_succ_le_zero _)
    · intro lvl b s acc first rest v r h
      exact absurd h (Nat.not_succ_le_zero _)
    · intro lvl b s acc first rest v r h
      exact absurd h (Nat.not_succ_le_zero _)
  | succ f ih =>
    obtain ⟨hV, hA, hO⟩ := ih
    exact ⟨any_depth_step hA hO hc, arr_depth_step hV hA, obj_depth_step hV hO⟩

/-- **values**: what `consumeAny` accepts at level `lvl` (non-zero cap, enough fuel) the relaxed reference
    accepts with a tree `v`, the same rest up to white space, and `lvl + depth v ≤ cap + 1` -/
theorem accepted_depth (hc : cap ≠ 0) (f lvl : Nat) (b : Bytes) (s : PState) (rest : Bytes)
    (hf : 2 * b.length + 1 ≤ f) (h : (consumeAny qs cap f lvl b s).1 = some rest) :
    ∃ v r, J.value false f b = .ok v r ∧ J.skipWs r = rest ∧ lvl + J.depth v ≤ cap + 1 := by
  obtain ⟨v, r, h1, h2, _, h4⟩ := accepted_of (depth_all qs cap hc f).1 lvl b s rest hf h
  exact ⟨v, r, h1, h2, h4⟩

theorem accepted_items_depth (hc : cap ≠ 0) (f lvl : Nat) (b : Bytes) (s : PState) (acc : List J.JVal) (first : Bool)
    (rest : Bytes) (hf : 2 * b.length + 2 ≤ f) (h : (arrayLoop qs cap f lvl b s).1 = some rest)
    (hacc : ∀ x ∈ acc, lvl + J.depth x ≤ cap + 1) :
    ∃ xs, J.items false f b acc first = .ok (.arr xs) rest ∧ ∀ x ∈ xs, lvl + J.depth x ≤ cap + 1 := by
  have hd := fun v r => (depth_all qs cap hc f).2.1 lvl b s acc first rest v r hf h
  have hb := (back_all qs cap f).2.1 lvl b s acc first hf
  generalize arrayLoop qs cap f lvl b s = res at h hb
  obtain ⟨o, s'⟩ := res
  simp only at h
  subst h
  obtain ⟨⟨v, hv⟩, _, _⟩ := hb
  obtain ⟨xs, rfl, hxs⟩ := hd v rest hv hacc
  exact ⟨xs, hv, hxs⟩

theorem accepted_members_depth (hc : cap ≠ 0) (f lvl : Nat) (b : Bytes) (s : PState) (acc : List (Bytes × J.JVal))
    (first : Bool) (rest : Bytes) (hf : 2 * b.length + 2 ≤ f) (h : (objectLoop qs cap f lvl b s).1 = some rest)
    (hacc : ∀ m ∈ acc, lvl + J.depth m.2 ≤ cap + 1) :
    ∃ ms, J.members false f b acc first = .ok (.obj ms) rest ∧ ∀ m ∈ ms, lvl + J.depth m.2 ≤ cap + 1 := by
  have hd := fun v r => (depth_all qs cap hc f).2.2 lvl b s acc first rest v r hf h
  have hb := (back_all qs cap f).2.2 lvl b s acc first hf
  generalize objectLoop qs cap f lvl b s = res at h hb
  obtain ⟨o, s'⟩ := res
  simp only at h
  subst h
  obtain ⟨⟨v, hv⟩, _, _⟩ := hb
  obtain ⟨ms, rfl, hms⟩ := hd v rest hv hacc
  exact ⟨ms, hv, hms⟩

/- tightness at cap 1: `[[]]` (depth 2 = cap + 1) is accepted, `[[[]]]` (depth 3 = cap + 2) is rejected;
   with a child in the innermost array the limit is one lower: `[1]` accepted, `[[1]]` rejected -/
example : (consumeAny [] 1 20 0 [0x5B, 0x5B, 0x5D, 0x5D] PState.fresh).1 = some [] ∧
    (J.doc false [0x5B, 0x5B, 0x5D, 0x5D]).map J.depth = some 2 := by decide +kernel
example : (consumeAny [] 1 20 0 [0x5B, 0x5B, 0x5B, 0x5D, 0x5D, 0x5D] PState.fresh).1 = none ∧
    (J.doc false [0x5B, 0x5B, 0x5B, 0x5D, 0x5D, 0x5D]).map J.depth = some 3 := by decide +kernel
example : (consumeAny [] 1 20 0 [0x5B, 0x31, 0x5D] PState.fresh).1 = some [] ∧
    (consumeAny [] 1 20 0 [0x5B, 0x5B, 0x31, 0x5D, 0x5D] PState.fresh).1 = none := by decide +kernel

theorem fuelFor_ok (raw : Bytes) : 2 * raw.length + 1 ≤ fuelFor raw := by unfold fuelFor; omega

omit qs cap in
/-- what a report says about the run: the scan looked like a container, and either the run consumed the
    whole input, or the input was cut at the limit and the run inspected all of it -/
theorem reported_run (cap : Nat) (raw : Bytes) (lim : Nat) (qs : List Gen.Json.Query) (w : Nat)
    (h : jsonHelperCap cap raw lim qs w = true) :
    looksLikeObjectOrArray raw = true ∧
    ((consumeAny qs cap (fuelFor raw) 0 raw PState.fresh.reset).1 = some [] ∨
      ¬ (lim = 0 ∨ raw.length < lim) ∧ (consumeAny qs cap (fuelFor raw) 0 raw PState.fresh.reset).2.ib = raw.length) := by
  obtain ⟨hl, hrun⟩ := Mime.C09.helper_inv cap raw lim qs w h
  refine ⟨hl, ?_⟩
  have hpos : 0 < raw.length := by
    cases raw with
    | nil => cases hl
    | cons _ _ => exact Nat.succ_pos _
  simp only at hrun
  split at hrun
  · left
    generalize (consumeAny qs cap (fuelFor raw) 0 raw PState.fresh.reset).1 = o at hrun ⊢
    cases o with
    | none => exact absurd hrun (Nat.ne_of_lt hpos)
    | some rest => exact congrArg some (List.eq_nil_of_length_eq_zero (by simp only at hrun; omega))
  · rename_i hcond
    exact Or.inr ⟨by simpa using hcond, hrun⟩

omit qs cap in
theorem not_reported_of_fail (cap : Nat) {raw : Bytes} (lim : Nat) (qs : List Gen.Json.Query) (w : Nat)
    (h1 : (consumeAny qs cap (fuelFor raw) 0 raw PState.fresh.reset).1 = none)
    (h2 : (consumeAny qs cap (fuelFor raw) 0 raw PState.fresh.reset).2.ib < raw.length) :
    jsonHelperCap cap raw lim qs w = false := by
  cases hh : jsonHelperCap cap raw lim qs w with
  | false => rfl
  | true =>
    rcases (reported_run cap raw lim qs w hh).2 with e | ⟨_, e⟩
    · rw [h1] at e; cases e
    · omega

omit qs cap in
theorem doc_of_value (b : Bytes) (c : Nat) (hc1 : J.firstNonWs b = some c) (hc2 : (c != 0x7B && c != 0x5B) = false)
    (v : J.JVal) (r : Bytes) (hv : J.value false (fuelFor b) b = .ok v r) (hr : J.skipWs r = []) : J.doc false b = some v := by
  unfold J.doc
  simp only [hc1, hc2, Bool.false_eq_true, ↓reduceIte]
  rw [show J.fuelFor b = fuelFor b from rfl, hv]
  simp [hr]

omit qs cap in
/-- **C16**: a fully examined input that is reported as JSON (any of the four detectors, any query) is a
    relaxed document whose nesting depth is at most cap + 1 — so
    anything nested deeper is not reported -/
theorem reported_depth_le (cap : Nat) (hc : cap ≠ 0) (raw : Bytes) (lim : Nat) (qs : List Gen.Json.Query) (w : Nat)
    (h : jsonHelperCap cap raw lim qs w = true) (hw : lim = 0 ∨ raw.length < lim) :
    ∃ v, J.doc false raw = some v ∧ J.depth v ≤ cap + 1 := by
  obtain ⟨hl, h1 | ⟨hn, _⟩⟩ := reported_run cap raw lim qs w h
  · obtain ⟨v, r0, hv, hws, hd⟩ := accepted_depth qs cap hc (fuelFor raw) 0 raw PState.fresh.reset [] (fuelFor_ok raw) h1
    obtain ⟨c, hc1, hc2⟩ := Mime.C09.firstNonWs_of_looksLike raw hl
    exact ⟨v, doc_of_value raw c hc1 hc2 v r0 hv hws, by omega⟩
  · exact absurd hw hn

theorem maxRecursion_ne_zero : Gen.Json.maxRecursion ≠ 0 := by decide

/- tightness at the property level, cap 1: depth 2 reported, depth 3 not -/
example : jsonHelperCap 1 [0x5B, 0x5B, 0x5D, 0x5D] 0 Gen.Json.q_json (tokObject ||| tokArray) = true := by decide +kernel
example : jsonHelperCap 1 [0x5B, 0x5B, 0x5B, 0x5D, 0x5D, 0x5D] 0 Gen.Json.q_json (tokObject ||| tokArray) = false := by decide +kernel

/-! If the input is truncated (`lim ≤ raw.length`) the helper asks for `inspected = raw.length`.  A run that
  fails on a complete relaxed document never inspects every byte (backward simulation: a failure that
  inspected everything means the reference says `more`), and a run that succeeds obeys the depth bound. -/

theorem value_of_doc (raw : Bytes) (v : J.JVal) (h : J.doc false raw = some v) :
    ∃ r, J.value false (J.fuelFor raw) raw = .ok v r ∧ J.skipWs r = [] := by
  unfold J.doc at h
  split at h
  · split at h
    · cases h
    · split at h
      · split at h
        · rename_i v' r heq hemp
          simp only [Option.some.injEq] at h
          subst h
          exact ⟨r, heq, by simpa [List.isEmpty_iff] using hemp⟩
        · cases h
      · cases h
  · cases h

omit qs cap in
/-- **C16, full strength**: a relaxed document nested deeper than cap + 1 is not reported — for every limit
    (whether or not the input was truncated), query, wanted token and input length -/
theorem over_cap_never_reported (cap : Nat) (hc : cap ≠ 0) (raw : Bytes) (lim : Nat) (qs : List Gen.Json.Query) (w : Nat)
    (v : J.JVal) (hdoc : J.doc false raw = some v) (hdeep : cap + 1 < J.depth v) :
    jsonHelperCap cap raw lim qs w = false := by
  cases hh : jsonHelperCap cap raw lim qs w with
  | false => rfl
  | true =>
    exfalso
    obtain ⟨_, hrun⟩ := reported_run cap raw lim qs w hh
    obtain ⟨r, hv, hr⟩ := value_of_doc raw v hdoc
    change J.value false (fuelFor raw) raw = .ok v r at hv
    cases hr1 : (consumeAny qs cap (fuelFor raw) 0 raw PState.fresh.reset).1 with
    | some rest =>
      obtain ⟨v', r', hv', _, hd⟩ := accepted_depth qs cap hc (fuelFor raw) 0 raw PState.fresh.reset rest (fuelFor_ok raw) hr1
      rw [hv] at hv'
      injection hv' with e _
      rw [← e] at hd
      omega
    | none =>
      -- a failing run that inspected every byte: the reference says `more`, but `raw` is a document
      rcases hrun with e | ⟨_, e⟩
      · rw [hr1] at e; cases e
      · have hb := (back_all qs cap (fuelFor raw)).1 0 raw PState.fresh.reset (fuelFor_ok raw)
        generalize consumeAny qs cap (fuelFor raw) 0 raw PState.fresh.reset = run at hr1 e hb
        obtain ⟨o, s'⟩ := run
        cases hr1
        have := hb.2 (by rw [e]; exact (Nat.zero_add _).symm)
        rw [valueWs, hv] at this
        cases this

omit qs cap in
/-- the fully examined case, for the detectors as wired in text.go (cap = `maxRecursion` = 4096) -/
theorem over_cap_not_reported_real (raw : Bytes) (lim : Nat) (qs : List Gen.Json.Query) (w : Nat)
    (hw : lim = 0 ∨ raw.length < lim) (v : J.JVal) (hdoc : J.doc false raw = some v)
    (hdeep : Gen.Json.maxRecursion + 1 < J.depth v) : jsonHelper raw lim qs w = false :=
  over_cap_never_reported _ maxRecursion_ne_zero raw lim qs w v hdoc hdeep

/-- `[`ⁿ `]`ⁿ followed by `rest` -/
def tower : Nat → Bytes → Bytes
  | 0, rest => rest
  | n + 1, rest => 0x5B :: tower n (0x5D :: rest)

/-- the tree of `[`ⁿ⁺¹ `]`ⁿ⁺¹ -/
def towerVal : Nat → J.JVal
  | 0 => .arr []
  | n + 1 => .arr [towerVal n]

theorem tower_eq (n : Nat) : ∀ rest, tower n rest = List.replicate n 0x5B ++ List.replicate n 0x5D ++ rest := by
  induction n with
  | zero => intro rest; rfl
  | succ n ih =>
    intro rest
    rw [tower, ih, List.replicate_succ, List.replicate_succ' (n := n) (a := 0x5D)]
    simp

theorem tower_length (n : Nat) : ∀ rest, (tower n rest).length = 2 * n + rest.length := by
  induction n with
  | zero => intro rest; simp [tower]
  | succ n ih => intro rest; simp only [tower, List.length_cons, ih]; omega

theorem depth_towerVal (n : Nat) : J.depth (towerVal n) = n + 1 := by
  induction n with
  | zero => rfl
  | succ n ih => simp only [towerVal, J.depth, J.depthList, ih]; omega

theorem value_open (f : Nat) (xs : Bytes) : J.value false (f + 1) (0x5B :: xs) = J.items false f xs [] true := by
  simp only [J.value, SpecComplete.skipWs_nonws 0x5B xs rfl]; rfl

theorem items_rbracket (f : Nat) (xs : Bytes) (acc : List J.JVal) (first : Bool) :
    J.items false (f + 1) (0x5D :: xs) acc first = .ok (.arr acc.reverse) xs := by
  simp [J.items, SpecComplete.skipWs_nonws 0x5D xs rfl]

theorem items_one (f : Nat) (xs r : Bytes) (v : J.JVal) (acc : List J.JVal) (first : Bool)
    (h : J.value false f (0x5B :: xs) = .ok v (0x5D :: r)) :
    J.items false (f + 1) (0x5B :: xs) acc first = .ok (.arr (v :: acc).reverse) r := by
  simp [J.items, SpecComplete.skipWs_nonws 0x5B xs rfl, h, SpecComplete.skipWs_nonws 0x5D r rfl]

theorem value_tower (n : Nat) : ∀ (f : Nat) (rest : Bytes), 2 * (n + 1) ≤ f →
    J.value false f (tower (n + 1) rest) = .ok (towerVal n) rest := by
  induction n with
  | zero =>
    intro f rest hf
    obtain ⟨f', rfl⟩ : ∃ f', f = f' + 1 + 1 := ⟨f - 2, by omega⟩
    show J.value false (f' + 1 + 1) (0x5B :: 0x5D :: rest) = _
    rw [value_open, items_rbracket]
    rfl
  | succ n ih =>
    intro f rest hf
    obtain ⟨f', rfl⟩ : ∃ f', f = f' + 1 + 1 := ⟨f - 2, by omega⟩
    have h1 := ih f' (0x5D :: rest) (by omega)
    show J.value false (f' + 1 + 1) (0x5B :: 0x5B :: tower n (0x5D :: 0x5D :: rest)) = _
    rw [value_open, items_one f' (tower n (0x5D :: 0x5D :: rest)) rest (towerVal n) [] true h1]; rfl

theorem doc_tower (n : Nat) : ∃ v, J.doc false (tower (n + 1) []) = some v ∧ J.depth v = n + 1 :=
  ⟨towerVal n, doc_of_value _ 0x5B rfl rfl _ [] (value_tower n _ [] (by simp only [fuelFor, tower_length]; omega)) rfl,
    depth_towerVal n⟩

theorem doc_tower_replicate (n : Nat) (hn : 0 < n) :
    ∃ v, J.doc false (List.replicate n 0x5B ++ List.replicate n 0x5D) = some v ∧ J.depth v = n := by
  obtain ⟨m, rfl⟩ : ∃ m, n = m + 1 := ⟨n - 1, by omega⟩
  have := doc_tower m
  rw [tower_eq, List.append_nil] at this
  exact this

omit qs cap in
/-- **"millions of nested brackets"**: a tower of more than cap + 1 brackets is never reported as JSON, for
    every height, every limit (truncated or not), query and wanted token -/
theorem tower_not_reported {cap : Nat} (hc : cap ≠ 0) (n : Nat) (hn : cap + 1 < n) (lim : Nat)
    (qs : List Gen.Json.Query) (w : Nat) :
    jsonHelperCap cap (List.replicate n 0x5B ++ List.replicate n 0x5D) lim qs w = false := by
  obtain ⟨v, hdoc, hd⟩ := doc_tower_replicate n (by omega)
  exact over_cap_never_reported cap hc _ lim qs w v hdoc (by omega)

/- the bound is reached: at cap 2 the tower of height 3 = cap + 1 is reported, height 4 is not -/
example : jsonHelperCap 2 (List.replicate 3 0x5B ++ List.replicate 3 0x5D) 0 Gen.Json.q_json (tokObject ||| tokArray) = true := by
  decide +kernel
example : jsonHelperCap 2 (List.replicate 4 0x5B ++ List.replicate 4 0x5D) 0 Gen.Json.q_json (tokObject ||| tokArray) = false := by
  decide +kernel

/-- the five bytes `{"k":` -/
def okey : Bytes := [0x7B, 0x22, 0x6B, 0x22, 0x3A]

/-- (`{"k":`)ⁿ `{}` `}`ⁿ followed by `rest` -/
def otower : Nat → Bytes → Bytes
  | 0, rest => 0x7B :: 0x7D :: rest
  | n + 1, rest => 0x7B :: 0x22 :: 0x6B :: 0x22 :: 0x3A :: otower n (0x7D :: rest)

/-- the tree of (`{"k":`)ⁿ `{}` `}`ⁿ -/
def otowerVal : Nat → J.JVal
  | 0 => .obj []
  | n + 1 => .obj [([0x6B], otowerVal n)]

theorem otower_eq (n : Nat) : ∀ rest,
    otower n rest = (List.replicate n okey).flatten ++ [0x7B, 0x7D] ++ List.replicate n 0x7D ++ rest := by
  induction n with
  | zero => intro rest; rfl
  | succ n ih =>
    intro rest
    rw [otower, ih, List.replicate_succ, List.replicate_succ' (n := n) (a := 0x7D)]
    simp [okey]

theorem otower_length (n : Nat) : ∀ rest, (otower n rest).length = 6 * n + 2 + rest.length := by
  induction n with
  | zero => intro rest; simp only [otower, List.length_cons]; omega
  | succ n ih => intro rest; simp only [otower, List.length_cons, ih]; omega

theorem depth_otowerVal (n : Nat) : J.depth (otowerVal n) = n + 1 := by
  induction n with
  | zero => rfl
  | succ n ih => simp only [otowerVal, J.depth, J.depthMembers, ih]; omega

theorem value_oopen (f : Nat) (xs : Bytes) : J.value false (f + 1) (0x7B :: xs) = J.members false f xs [] true := by
  simp only [J.value, SpecComplete.skipWs_nonws 0x7B xs rfl]; rfl

theorem members_rbrace (f : Nat) (xs : Bytes) (acc : List (Bytes × J.JVal)) (first : Bool) :
    J.members false (f + 1) (0x7D :: xs) acc first = .ok (.obj acc.reverse) xs := by
  simp [J.members, SpecComplete.skipWs_nonws 0x7D xs rfl]

theorem str_k (xs : Bytes) : J.str false (0x6B :: 0x22 :: xs) [] = .ok [0x6B] xs := by
  rw [J.str.eq_def]
  simp only [beq_iff_eq, Nat.reduceEqDiff, ↓reduceIte, Bool.false_and, Bool.false_eq_true]
  rw [J.str.eq_def]
  simp

theorem members_one (f : Nat) {ds : Bytes} (r : Bytes) (v : J.JVal) (acc : List (Bytes × J.JVal)) (first : Bool)
    (h : J.value false f ds = .ok v (0x7D :: r)) :
    J.members false (f + 1) (0x22 :: 0x6B :: 0x22 :: 0x3A :: ds) acc first = .ok (.obj (([0x6B], v) :: acc).reverse) r := by
  simp [J.members, SpecComplete.skipWs_nonws 0x22 _ rfl, SpecComplete.skipWs_nonws 0x3A _ rfl,
    SpecComplete.skipWs_nonws 0x7D _ rfl, str_k, h]

theorem value_otower (n : Nat) : ∀ (f : Nat) (rest : Bytes), 2 * (n + 1) ≤ f →
    J.value false f (otower n rest) = .ok (otowerVal n) rest := by
  induction n with
  | zero =>
    intro f rest hf
    obtain ⟨f', rfl⟩ : ∃ f', f = f' + 1 + 1 := ⟨f - 2, by omega⟩
    show J.value false (f' + 1 + 1) (0x7B :: 0x7D :: rest) = _
    rw [value_oopen, members_rbrace]
    rfl
  | succ n ih =>
    intro f rest hf
    obtain ⟨f', rfl⟩ : ∃ f', f = f' + 1 + 1 := ⟨f - 2, by omega⟩
    have h1 := ih f' (0x7D :: rest) (by omega)
    show J.value false (f' + 1 + 1) (0x7B :: 0x22 :: 0x6B :: 0x22 :: 0x3A :: otower n (0x7D :: rest)) = _
    rw [value_oopen, members_one f' rest (otowerVal n) [] true h1]; rfl

theorem doc_otower (n : Nat) : ∃ v, J.doc false (otower n []) = some v ∧ J.depth v = n + 1 :=
  ⟨otowerVal n, doc_of_value _ 0x7B (by cases n <;> rfl) rfl _ [] (value_otower n _ [] (by simp only [fuelFor, otower_length]; omega)) rfl,
    depth_otowerVal n⟩

omit qs cap in
/-- an object tower with more than cap + 1 levels (n + 1 > cap + 1) is never reported -/
theorem otower_not_reported {cap : Nat} (hc : cap ≠ 0) (n : Nat) (hn : cap < n) (lim : Nat)
    (qs : List Gen.Json.Query) (w : Nat) :
    jsonHelperCap cap ((List.replicate n okey).flatten ++ [0x7B, 0x7D] ++ List.replicate n 0x7D) lim qs w = false := by
  obtain ⟨v, hdoc, hd⟩ := doc_otower n
  rw [otower_eq, List.append_nil] at hdoc
  exact over_cap_never_reported cap hc _ lim qs w v hdoc (by omega)

/- at cap 2: two levels of `{"k":` around `{}` (depth 3 = cap + 1) are reported, three are not -/
example : jsonHelperCap 2 ((List.replicate 2 okey).flatten ++ [0x7B, 0x7D] ++ List.replicate 2 0x7D) 0
    Gen.Json.q_json (tokObject ||| tokArray) = true := by decide +kernel
example : jsonHelperCap 2 ((List.replicate 3 okey).flatten ++ [0x7B, 0x7D] ++ List.replicate 3 0x7D) 0
    Gen.Json.q_json (tokObject ||| tokArray) = false := by decide +kernel

end Mime.JsonDepth
