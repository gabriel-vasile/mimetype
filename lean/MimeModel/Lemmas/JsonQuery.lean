import MimeModel.Lemmas.SpecComplete
import MimeModel.Lemmas.JsonForward
/-
  What a successful run of the scanner on an RFC 8259 value does to `currPath` and
  `querySatisfied`, in terms of the value's syntax tree: the path is restored, and the flag
  becomes true exactly if some member below has a key path matching a query (and, for queries
  with values, a string value that is one of them).  Keys and values are the raw bytes between
  the quotes (no escape processing: the scanner compares raw bytes).
-/
namespace Mime.JsonQuery
open Mime Mime.Json Mime.Spec Mime.JsonLeaf Mime.JsonForward

abbrev Query := Mime.Gen.Json.Query

def quote (s : Bytes) : Bytes := 0x22 :: s ++ [0x22]

/-- does value `v` satisfy query `q` (already matched by path) -/
def strVal (q : Query) (v : J.JVal) : Bool :=
  match v with
  | .str s => q.vals.any (fun x => decide (x = quote s))
  | _ => false

def matchVal (q : Query) (v : J.JVal) : Bool := q.vals.isEmpty || strVal q v

def matchHere (qs : List Query) (p : List Bytes) (v : J.JVal) : Bool :=
  match queryPathMatch qs p with
  | none => false
  | some q => matchVal q v

mutual
/-- parsing `v` at key path `p` satisfies a query -/
def qsatV (qs : List Query) : List Bytes → J.JVal → Bool
  | p, .obj ms => qsatM qs p ms
  | p, .arr xs => qsatL qs (p ++ [[0x5B]]) xs
  | _, _ => false
def qsatM (qs : List Query) : List Bytes → List (Bytes × J.JVal) → Bool
  | _, [] => false
  | p, (k, v) :: ms => (qsatV qs (p ++ [k]) v || matchHere qs (p ++ [k]) v) || qsatM qs p ms
def qsatL (qs : List Query) : List Bytes → List J.JVal → Bool
  | _, [] => false
  | p, x :: xs => qsatV qs p x || qsatL qs p xs
end

theorem matchHere_nil (p : List Bytes) (v : J.JVal) : matchHere [] p v = false := rfl

theorem matchHere_cons (q : Query) (qs : List Query) (p : List Bytes) (v : J.JVal) :
    matchHere (q :: qs) p v = if p = q.path then matchVal q v else matchHere qs p v := by
  unfold matchHere
  simp only [queryPathMatch, pathEq, decide_eq_true_eq]
  by_cases h : q.path = p
  · rw [if_pos h, if_pos h.symm]
  · rw [if_neg h, if_neg (fun e => h e.symm)]

@[simp] theorem qsatV_null (qs : List Query) (p : List Bytes) : qsatV qs p .null = false := by simp [qsatV]
@[simp] theorem qsatV_bool (qs : List Query) (p : List Bytes) (b : Bool) : qsatV qs p (.bool b) = false := by simp [qsatV]
@[simp] theorem qsatV_num (qs : List Query) (p : List Bytes) : qsatV qs p .num = false := by simp [qsatV]
@[simp] theorem qsatV_str (qs : List Query) (p : List Bytes) (s : Bytes) : qsatV qs p (.str s) = false := by simp [qsatV]

/-- every value a query compares against starts with a quote, so the text of a value that is no string
    (which starts with another byte) never matches one -/
def ValsQuoted (qs : List Query) : Prop := ∀ q ∈ qs, ∀ x ∈ q.vals, x.head? = some 0x22

/-- `s'` has the path and the flag of `s` (what the scanners of scalar values guarantee) -/
def SameFields (s s' : PState) : Prop := s'.currPath = s.currPath ∧ s'.querySatisfied = s.querySatisfied

theorem consumeString_fields (b : Bytes) : ∀ (m : SMode) (s : PState), SameFields s (consumeString m b s).2 := by
  induction b with
  | nil => intro m s; rw [cs_nil]; exact ⟨rfl, rfl⟩
  | cons c cs ih =>
    intro m s
    rw [consumeString.eq_def]
    cases m with
    | norm =>
      simp only
      split
      · exact ih _ s.bump
      · split
        · exact ⟨rfl, rfl⟩
        · exact ih _ s.bump
    | esc =>
      simp only
      split
      · exact ih _ s.bump
      · split
        · exact ih _ s.bump
        · exact ⟨rfl, rfl⟩
    | hex k =>
      simp only
      split
      · split
        · exact ih _ s.bump
        · exact ih _ s.bump
      · exact ⟨rfl, rfl⟩

theorem consumeConst_fields (w : Bytes) : ∀ (b : Bytes) (s : PState), SameFields s (consumeConst b w s).2 := by
  induction w with
  | nil => intro b s; cases b <;> exact ⟨rfl, rfl⟩
  | cons x xs ih =>
    intro b s
    cases b with
    | nil => exact ⟨rfl, rfl⟩
    | cons y ys =>
      rw [consumeConst]
      split
      · exact ih ys s.bump
      · exact ⟨rfl, rfl⟩

theorem consumeNumber_fields (b : Bytes) : ∀ (m : NMode) (s : PState), SameFields s (consumeNumber m b s).2 := by
  induction b with
  | nil => intro m s; rw [cn_nil]; exact ⟨rfl, rfl⟩
  | cons c cs ih =>
    intro m s
    rw [consumeNumber]
    split
    · exact ih _ s.bump
    · exact ⟨rfl, rfl⟩

theorem finishAny_snd (q : Bool) (lvl t : Nat) (res : Option Bytes × PState) :
    ∃ k, (finishAny q lvl t res).2 = ((res.2.setFirst lvl t).setQ q).bump k := by
  obtain ⟨o, s2⟩ := res
  cases o with
  | none => exact ⟨0, (bump_zero _).symm⟩
  | some r => exact ⟨r.length - (J.skipWs r).length, by simp only [finishAny, consumeSpace_spec]⟩

theorem setFirst_currPath (s : PState) (lvl t : Nat) : (s.setFirst lvl t).currPath = s.currPath := by
  unfold PState.setFirst; split <;> rfl
theorem setFirst_qs (s : PState) (lvl t : Nat) : (s.setFirst lvl t).querySatisfied = s.querySatisfied := by
  unfold PState.setFirst; split <;> rfl
theorem setQ_qs (s : PState) (q : Bool) : (s.setQ q).querySatisfied = (q || s.querySatisfied) := by
  cases q <;> rfl

theorem finishAny_currPath (lvl t : Nat) (res : Option Bytes × PState) :
    (finishAny false lvl t res).2.currPath = res.2.currPath := by
  obtain ⟨k, h⟩ := finishAny_snd false lvl t res
  rw [h]; exact setFirst_currPath _ _ _
theorem finishAny_qs (lvl t : Nat) (res : Option Bytes × PState) :
    (finishAny false lvl t res).2.querySatisfied = res.2.querySatisfied := by
  obtain ⟨k, h⟩ := finishAny_snd false lvl t res
  rw [h]; exact setFirst_qs _ _ _

/-- `value s (f + 1)` succeeded on input whose first non-space byte is `c`, the rest `cs` -/
inductive ValueOk (s : Bool) (f : Nat) (c : Nat) (cs : Bytes) : J.JVal → Bytes → Prop
  | str (body r : Bytes) : c = 0x22 → J.str s cs [] = .ok body r → ValueOk s f c cs (.str body) r
  | arr (xs : List J.JVal) (r : Bytes) : c = 0x5B → J.items s f cs [] true = .ok (.arr xs) r → ValueOk s f c cs (.arr xs) r
  | obj (ms : List (Bytes × J.JVal)) (r : Bytes) :
      c = 0x7B → J.members s f cs [] true = .ok (.obj ms) r → ValueOk s f c cs (.obj ms) r
  | litT (r : Bytes) : c = 0x74 → J.lit [0x74, 0x72, 0x75, 0x65] (c :: cs) = .ok () r → ValueOk s f c cs (.bool true) r
  | litF (r : Bytes) : c = 0x66 → J.lit [0x66, 0x61, 0x6C, 0x73, 0x65] (c :: cs) = .ok () r → ValueOk s f c cs (.bool false) r
  | litN (r : Bytes) : c = 0x6E → J.lit [0x6E, 0x75, 0x6C, 0x6C] (c :: cs) = .ok () r → ValueOk s f c cs .null r
  | num (r : Bytes) : c ≠ 0x22 → c ≠ 0x5B → c ≠ 0x7B → classify c = .num →
      (if s then J.numStrict (c :: cs) else J.numRelaxed (c :: cs)) = .ok () r → ValueOk s f c cs .num r

theorem value_case {s : Bool} {f : Nat} {b : Bytes} {v : J.JVal} {r : Bytes} (h : J.value s (f + 1) b = .ok v r) :
    ∃ c cs, J.skipWs b = c :: cs ∧ ValueOk s f c cs v r := by
  obtain ⟨c, cs, hb, h⟩ := SpecComplete.value_ok h
  refine ⟨c, cs, hb, ?_⟩
  rw [valueHead_classify] at h
  rcases classify_cases c with
    ⟨rfl, hk⟩ | ⟨rfl, hk⟩ | ⟨rfl, hk⟩ | ⟨rfl, hk⟩ | ⟨rfl, hk⟩ | ⟨rfl, hk⟩ | ⟨n1, n2, n3, n4, n5, n6, hk⟩
  all_goals rw [hk] at h
  · obtain ⟨body, hs, rfl⟩ := SpecComplete.wrap_ok_inv h
    exact .str body r rfl hs
  · obtain ⟨xs, rfl⟩ := items_arr s f cs [] true v r h
    exact .arr xs r rfl h
  · obtain ⟨ms, rfl⟩ := members_obj s f cs [] true v r h
    exact .obj ms r rfl h
  · obtain ⟨_, hl, rfl⟩ := SpecComplete.wrap_ok_inv h
    exact .litT r rfl hl
  · obtain ⟨_, hl, rfl⟩ := SpecComplete.wrap_ok_inv h
    exact .litF r rfl hl
  · obtain ⟨_, hl, rfl⟩ := SpecComplete.wrap_ok_inv h
    exact .litN r rfl hl
  · obtain ⟨_, hn, rfl⟩ := SpecComplete.wrap_ok_inv h
    exact .num r n1 n2 n3 hk hn

def isContainerV : J.JVal → Bool
  | .arr _ => true | .obj _ => true | _ => false

theorem value_containerV (strict : Bool) (f : Nat) (l : Bytes) (c : Nat) (cs : Bytes) (v : J.JVal) (r : Bytes)
    (hsk : J.skipWs l = c :: cs) (hv : J.value strict f l = .ok v r) :
    isContainerV v = (c == 0x5B || c == 0x7B) := by
  cases f with
  | zero => rw [J.value] at hv; cases hv
  | succ f =>
    obtain ⟨c', cs', hsk', hc⟩ := value_case hv
    rw [hsk] at hsk'
    injection hsk' with h1 h2
    subst h1 h2
    cases hc with
    | num r _ h2 h3 => rw [beq_eq_false_iff_ne.mpr h2, beq_eq_false_iff_ne.mpr h3]; rfl
    | _ => rename_i hc _; subst hc; rfl

theorem trim_quoted (body w : Bytes) (hw : ∀ c ∈ w, isSpace c = true) : trimSpaces (quote body ++ w) = quote body := by
  have hd : (quote body ++ w).dropWhile isSpace = (0x22 :: body ++ [0x22]) ++ w := by
    simp [quote, isSpace]
  unfold trimSpaces
  rw [hd, List.reverse_append, List.dropWhile_append_of_pos (fun c hc => hw c (List.mem_reverse.mp hc))]
  simp [quote, isSpace]

theorem trim_head (e : Nat) (t : Bytes) (he : isSpace e = false) : (trimSpaces (e :: t)).head? = some e := by
  unfold trimSpaces
  rw [show (e :: t).dropWhile isSpace = e :: t by simp [List.dropWhile, he], List.reverse_cons, List.dropWhile_append]
  split
  · simp [List.dropWhile, he]
  · simp

theorem skipWs_split (r : Bytes) : ∃ w, r = w ++ J.skipWs r ∧ ∀ c ∈ w, isSpace c = true := by
  induction r with
  | nil => exact ⟨[], rfl, by simp⟩
  | cons c cs ih =>
    simp only [J.skipWs]
    split
    · rename_i hc
      obtain ⟨w, h1, h2⟩ := ih
      refine ⟨c :: w, by rw [List.cons_append, ← h1], ?_⟩
      intro x hx
      cases hx with
      | head => rw [isSpace_eq_ws]; exact hc
      | tail _ h => exact h2 x h
    · exact ⟨[], rfl, by simp⟩

theorem hexd_ge {x : Nat} (h : J.hexd x = true) : 0x20 ≤ x := by
  simp only [J.hexd, J.digit, Bool.or_eq_true, Bool.and_eq_true, decide_eq_true_eq] at h
  omega

theorem str_ok (strict : Bool) (cs acc : Bytes) : ∀ (body r : Bytes), J.str strict cs acc = .ok body r →
    ∃ p, cs = p ++ 0x22 :: r ∧ body = acc.reverse ++ p ∧ (strict = true → ∀ x ∈ p, 0x20 ≤ x) := by
  fun_induction J.str strict cs acc with
  | case2 c cs acc hq =>
    intro body r h
    simp only [J.R.ok.injEq] at h
    obtain ⟨rfl, rfl⟩ := h
    exact ⟨[], by rw [show c = 0x22 by simpa using hq]; rfl, by simp, fun _ _ h => nomatch h⟩
  | case4 c acc hq hb e es he ih =>
    intro body r h
    obtain ⟨p, h1, h2, h3⟩ := ih body r h
    refine ⟨c :: e :: p, by rw [h1]; rfl, by rw [h2]; simp, fun hs x hx => ?_⟩
    have hc : c = 0x5C := by simpa using hb
    simp only [Bool.or_eq_true, beq_iff_eq] at he
    simp only [List.mem_cons] at hx
    rcases hx with rfl | rfl | hx
    · omega
    · omega
    · exact h3 hs x hx
  | case5 c acc hq hb e he hu a1 a2 a3 a4 r' hh ih =>
    intro body r h
    obtain ⟨p, h1, h2, h3⟩ := ih body r h
    refine ⟨c :: e :: a1 :: a2 :: a3 :: a4 :: p, by rw [h1]; rfl, by rw [h2]; simp, fun hs x hx => ?_⟩
    have hc : c = 0x5C := by simpa using hb
    have hue : e = 0x75 := by simpa using hu
    simp only [Bool.and_eq_true] at hh
    simp only [List.mem_cons] at hx
    rcases hx with rfl | rfl | rfl | rfl | rfl | rfl | hx
    · omega
    · omega
    · exact hexd_ge hh.1.1.1
    · exact hexd_ge hh.1.1.2
    · exact hexd_ge hh.1.2
    · exact hexd_ge hh.2
    · exact h3 hs x hx
  | case11 c cs acc hq hb hctl ih =>
    intro body r h
    obtain ⟨p, h1, h2, h3⟩ := ih body r h
    refine ⟨c :: p, by rw [h1]; rfl, by rw [h2]; simp, fun hs x hx => ?_⟩
    simp only [List.mem_cons] at hx
    rcases hx with rfl | hx
    · subst hs; simpa using hctl
    · exact h3 hs x hx
  | _ => intro body r h; cases h

theorem str_body (strict : Bool) (cs acc : Bytes) (body r : Bytes) (h : J.str strict cs acc = .ok body r) :
    acc.reverse ++ cs = body ++ 0x22 :: r := by
  obtain ⟨p, h1, h2, _⟩ := str_ok strict cs acc body r h
  rw [h1, h2, List.append_assoc]

@[simp] theorem applyQuery_none (vb : Bytes) (s : PState) : applyQuery none vb s = s := rfl

/-- what the scanner hands to `applyQuery` for a value `v`: the quoted text plus trailing
    white space for a string; something that does not start with a quote otherwise -/
def ValText (v : J.JVal) (valBytes : Bytes) : Prop :=
  (∃ body w, v = .str body ∧ valBytes = quote body ++ w ∧ ∀ c ∈ w, isSpace c = true) ∨
  (∃ e t, valBytes = e :: t ∧ isSpace e = false ∧ e ≠ 0x22 ∧ ∀ body, v ≠ .str body)

theorem applyQuery_some (q : Query) (hqv : ∀ x ∈ q.vals, x.head? = some 0x22) (valBytes : Bytes) (v : J.JVal)
    (s6 : PState) (ht : ValText v valBytes) :
    (applyQuery (some q) valBytes s6).currPath = s6.currPath ∧
    (applyQuery (some q) valBytes s6).querySatisfied = (s6.querySatisfied || matchVal q v) := by
  have hany : q.vals.any (fun x => decide (x = trimSpaces valBytes)) = strVal q v := by
    rcases ht with ⟨body, w, rfl, rfl, hw⟩ | ⟨e, t, rfl, he, hne, hns⟩
    · rw [trim_quoted body w hw]; rfl
    · have hfalse : q.vals.any (fun x => decide (x = trimSpaces (e :: t))) = false := by
        rw [List.any_eq_false]
        intro x hx
        simp only [decide_eq_true_eq]
        intro heq
        have h1 := hqv x hx
        rw [heq, trim_head e t he] at h1
        simp only [Option.some.injEq] at h1
        exact hne h1
      rw [hfalse]
      cases v with
      | str body => exact absurd rfl (hns body)
      | _ => rfl
  unfold applyQuery matchVal
  simp only [hany]
  generalize q.vals.isEmpty = A
  generalize strVal q v = B
  cases A <;> cases B <;> simp

theorem queryPathMatch_mem (qs : List Query) (p : List Bytes) (q : Query) (h : queryPathMatch qs p = some q) : q ∈ qs := by
  induction qs with
  | nil => simp [queryPathMatch] at h
  | cons x xs ih =>
    simp only [queryPathMatch] at h
    split at h
    · simp only [Option.some.injEq] at h; rw [← h]; exact List.mem_cons_self ..
    · exact List.mem_cons_of_mem _ (ih h)

/-- the member step of `objectLoop`: the query looked up before the value, applied after it -/
theorem member_effect (qs : List Query) (hq : ValsQuoted qs) (path : List Bytes) (flag0 : Bool) (valBytes : Bytes)
    (v : J.JVal) (s6 : PState) (ht : ValText v valBytes) (h6 : s6.currPath = path)
    (hmono : flag0 = true → s6.querySatisfied = true) :
    (applyQuery (if flag0 then none else queryPathMatch qs path) valBytes s6).currPath = path ∧
    (applyQuery (if flag0 then none else queryPathMatch qs path) valBytes s6).querySatisfied =
      (s6.querySatisfied || matchHere qs path v) := by
  cases hf : flag0 with
  | true =>
    simp only [↓reduceIte, applyQuery]
    exact ⟨h6, by rw [hmono hf]; rfl⟩
  | false =>
    simp only [Bool.false_eq_true, ↓reduceIte]
    unfold matchHere
    cases hm : queryPathMatch qs path with
    | none => simp only [applyQuery]; exact ⟨h6, by simp⟩
    | some q =>
      obtain ⟨a, b⟩ := applyQuery_some q (hq q (queryPathMatch_mem qs path q hm)) valBytes v s6 ht
      exact ⟨by rw [a, h6], b⟩

theorem consumed_append (a b : Bytes) : consumed (a ++ b) b = a := by
  unfold consumed
  rw [List.length_append, Nat.add_sub_cancel]
  exact List.take_left' rfl

theorem consumed_key (cs key r0 : Bytes) (h : cs = key ++ 0x22 :: r0) : (consumed cs r0).dropLast = key := by
  subst h
  rw [show key ++ 0x22 :: r0 = (key ++ [0x22]) ++ r0 by simp, consumed_append, List.dropLast_concat]

theorem valText_of_value (f : Nat) (e : Nat) (es : Bytes) (v : J.JVal) (r2 : Bytes)
    (hv : J.value true f (e :: es) = .ok v r2) (he : isSpace e = false) (hlen : r2.length < (e :: es).length) :
    ValText v (consumed (e :: es) (J.skipWs r2)) := by
  have hright : e ≠ 0x22 → (∀ body, v ≠ .str body) → ValText v (consumed (e :: es) (J.skipWs r2)) := by
    intro hne hns
    have hle := skipWs_length_le r2
    unfold consumed
    have : (e :: es).length - (J.skipWs r2).length = ((e :: es).length - (J.skipWs r2).length - 1) + 1 := by
      simp only [List.length_cons] at hlen ⊢; omega
    rw [this, List.take_succ_cons]
    exact .inr ⟨e, _, rfl, he, hne, hns⟩
  cases f with
  | zero => rw [J.value] at hv; cases hv
  | succ f =>
    obtain ⟨c, cs, hsk, hc⟩ := value_case hv
    rw [SpecComplete.skipWs_nonws e es (by rw [← isSpace_eq_ws]; exact he)] at hsk
    injection hsk with h1 h2
    subst h1 h2
    cases hc with
    | str body r hc hs =>
      obtain ⟨w, hw1, hw2⟩ := skipWs_split r2
      refine .inl ⟨body, w, rfl, ?_, hw2⟩
      have e1 : e :: es = (quote body ++ w) ++ J.skipWs r2 := by
        rw [hc, show es = body ++ 0x22 :: r2 by simpa using str_body true es [] body r2 hs, quote]
        simp only [List.cons_append, List.append_assoc, List.cons.injEq, true_and, List.nil_append]
        rw [← hw1]
      rw [e1, consumed_append]
    | num r h1 => exact hright h1 (fun _ h => nomatch h)
    | _ => rename_i hc _; exact hright (by rw [hc]; decide) (fun _ h => nomatch h)

@[simp] theorem bump_currPath (s : PState) (k : Nat) : (s.bump k).currPath = s.currPath := rfl
@[simp] theorem bump_qs (s : PState) (k : Nat) : (s.bump k).querySatisfied = s.querySatisfied := rfl
@[simp] theorem pop_currPath (s : PState) : s.pop.currPath = s.currPath.dropLast := rfl
@[simp] theorem pop_qs (s : PState) : s.pop.querySatisfied = s.querySatisfied := rfl
@[simp] theorem push_currPath (s : PState) (k : Bytes) : (s.push k).currPath = s.currPath ++ [k] := rfl
@[simp] theorem push_qs (s : PState) (k : Bytes) : (s.push k).querySatisfied = s.querySatisfied := rfl
@[simp] theorem enter_currPath (s : PState) (l : Nat) : (s.enter l).currPath = s.currPath := rfl
@[simp] theorem enter_qs (s : PState) (l : Nat) : (s.enter l).querySatisfied = s.querySatisfied := rfl

/-- `QV` / `QI` / `QM`: after the scanner has run on what the reference accepts (a value, the items of an array,
    the members of an object) at the same fuel, the path is what the construct leaves and the flag is the one
    before, or `qsatV` / `qsatL` / `qsatM` of the tree -/
def QV (qs : List Query) (cap f : Nat) : Prop :=
  ∀ (lvl : Nat) (b : Bytes) (v : J.JVal) (r : Bytes) (s : PState),
    J.value true f b = .ok v r → Delim r → CapOK cap lvl (J.depth v) →
    (consumeAny qs cap f lvl b s).2.currPath = s.currPath ∧
    (consumeAny qs cap f lvl b s).2.querySatisfied = (s.querySatisfied || qsatV qs s.currPath v)

def QI (qs : List Query) (cap f : Nat) : Prop :=
  ∀ (L : Nat) (b : Bytes) (acc : List J.JVal) (first : Bool) (xs : List J.JVal) (r : Bytes) (s : PState),
    J.items true f b acc first = .ok (.arr xs) r → (∀ x ∈ xs, CapOK cap L (J.depth x)) →
    ∃ ys, xs = acc.reverse ++ ys ∧
      (arrayLoop qs cap f L b s).2.currPath = s.currPath.dropLast ∧
      (arrayLoop qs cap f L b s).2.querySatisfied = (s.querySatisfied || qsatL qs s.currPath ys)

def QM (qs : List Query) (cap f : Nat) : Prop :=
  ∀ (L : Nat) (b : Bytes) (acc : List (Bytes × J.JVal)) (first : Bool) (ms : List (Bytes × J.JVal)) (r : Bytes) (s : PState),
    J.members true f b acc first = .ok (.obj ms) r → (∀ m ∈ ms, CapOK cap L (J.depth m.2)) →
    ∃ ns, ms = acc.reverse ++ ns ∧
      (objectLoop qs cap f L b s).2.currPath = s.currPath ∧
      (objectLoop qs cap f L b s).2.querySatisfied = (s.querySatisfied || qsatM qs s.currPath ns)


/-- `QV` without the hypothesis on what follows the value: the two fields do not depend on it
    (a number that runs on into the rest fails without touching them) -/
def QV' (qs : List Query) (cap f : Nat) : Prop :=
  ∀ (lvl : Nat) (b : Bytes) (v : J.JVal) (r : Bytes) (s : PState),
    J.value true f b = .ok v r → CapOK cap lvl (J.depth v) →
    (consumeAny qs cap f lvl b s).2.currPath = s.currPath ∧
    (consumeAny qs cap f lvl b s).2.querySatisfied = (s.querySatisfied || qsatV qs s.currPath v)

/-- the scanner's run on a complete value `v` at the head of `y`, from any state: what is left,
    the path restored, the flag -/
def ValueRun (qs : List Query) (cap F L : Nat) (y : Bytes) (v : J.JVal) (r : Bytes) : Prop :=
  r.length < y.length ∧ ∀ s : PState, ∃ s', consumeAny qs cap F L y s = (some (J.skipWs r), s') ∧
    s'.currPath = s.currPath ∧ s'.querySatisfied = (s.querySatisfied || qsatV qs s.currPath v)

theorem valueRun_of {qs : List Query} {cap f : Nat} (hFV : FValue qs cap f) (hV : QV' qs cap f) (L : Nat) (b : Bytes)
    (v : J.JVal) (r : Bytes) (hv : J.value true f b = .ok v r) (hd : Delim r) (hcap : CapOK cap L (J.depth v)) :
    ValueRun qs cap f L b v r :=
  ⟨(hFV L b v r PState.fresh hv hd hcap).2.2, fun s => ⟨_, Prod.ext (hFV L b v r s hv hd hcap).1 rfl, hV L b v r s hv hcap⟩⟩

theorem capOK_le {cap L d L' d' : Nat} (h : CapOK cap L d) (hle : L' + d' ≤ L + d) : CapOK cap L' d' := by
  rcases h with h | h
  · exact Or.inl h
  · exact Or.inr (by omega)

/-- the scanner refuses `[` at the very end of the input; the reference does not accept it either -/
theorem items_nonempty {f : Nat} {cs : Bytes} {acc : List J.JVal} {first : Bool} {v : J.JVal} {r : Bytes}
    (h : J.items true f cs acc first = .ok v r) : cs.isEmpty = false := by
  cases cs with
  | nil => cases f <;> simp [J.items, J.skipWs] at h
  | cons _ _ => rfl

section
open Mime.JsonPrefix Mime.SpecComplete

theorem kindScan_scalar (qs : List Query) (cap F L : Nat) (k : Kind) (hk : k ≠ .arr ∧ k ≠ .obj) (y : Bytes) (st : PState) :
    SameFields st (kindScan qs cap F L k y st).2 := by
  cases k with
  | arr => exact absurd rfl hk.1
  | obj => exact absurd rfl hk.2
  | str =>
    cases y with
    | nil => exact ⟨rfl, rfl⟩
    | cons _ cs => exact consumeString_fields cs .norm st.bump
  | litT => exact consumeConst_fields wTrue y st
  | litF => exact consumeConst_fields wFalse y st
  | litN => exact consumeConst_fields wNull y st
  | num => exact consumeNumber_fields y .start st

theorem qstep_value (qs : List Query) (hne : qs.isEmpty = false) (cap f : Nat)
    (hI : QI qs cap f) (hM : QM qs cap f) : QV' qs cap (f + 1) := by
  intro lvl b v r s hv hcap
  obtain ⟨c, cs, hsk, hc⟩ := value_case hv
  rw [consumeAny_eq]
  simp only [capOK_pass hcap, Bool.false_eq_true, ↓reduceIte]
  rw [spaceScan_val, hsk]
  simp only [anyHead, finishScan, hne, finishAny_currPath, finishAny_qs]
  generalize hst : (s.enter lvl).bump (b.length - (c :: cs).length) = st
  have hp : st.currPath = s.currPath := by rw [← hst]; rfl
  have hf : st.querySatisfied = s.querySatisfied := by rw [← hst]; rfl
  have scalar : ∀ {v : J.JVal}, classify c ≠ .arr ∧ classify c ≠ .obj → qsatV qs s.currPath v = false →
      (kindScan qs cap f lvl (classify c) (c :: cs) st).2.currPath = s.currPath ∧
      (kindScan qs cap f lvl (classify c) (c :: cs) st).2.querySatisfied = (s.querySatisfied || qsatV qs s.currPath v) := by
    intro v hk hv
    obtain ⟨a, b⟩ := kindScan_scalar qs cap f lvl _ hk (c :: cs) st
    exact ⟨a.trans hp, by rw [hv, Bool.or_false]; exact b.trans hf⟩
  cases hc with
  | str body r hc hs => subst hc; exact scalar (by decide) (qsatV_str ..)
  | arr xs r hc hi =>
    subst hc
    simp only [show classify 0x5B = Kind.arr from rfl, kindScan, items_nonempty hi, Bool.false_eq_true, ↓reduceIte]
    obtain ⟨ys, e1, e2, e3⟩ := hI (lvl + 1) cs [] true xs r (st.bump.push [0x5B]) hi (capOK_arr hcap)
    cases e1
    rw [e2, e3, qsatV]
    simp [hp, hf]
  | obj ms r hc hm =>
    subst hc
    simp only [show classify 0x7B = Kind.obj from rfl, kindScan]
    obtain ⟨ns, e1, e2, e3⟩ := hM (lvl + 1) cs [] true ms r st.bump hm (capOK_obj hcap)
    cases e1
    rw [e2, e3, qsatV]
    simp [hp, hf]
  | litT r hc hl => subst hc; exact scalar (by decide) (qsatV_bool ..)
  | litF r hc hl => subst hc; exact scalar (by decide) (qsatV_bool ..)
  | litN r hc hl => subst hc; exact scalar (by decide) (qsatV_null ..)
  | num r _ _ _ hk hn => exact scalar (by rw [hk]; decide) (qsatV_num ..)

theorem qstep_items (qs : List Query) (cap f : Nat) (hFV : FValue qs cap f)
    (hV : QV' qs cap f) (hI : QI qs cap f) : QI qs cap (f + 1) := by
  intro L b acc first xs r s hv hx
  obtain ⟨c, cs, hsk, hcase⟩ := items_ok hv
  rw [arrayLoop_succ, hsk]
  generalize hs1 : s.bump (b.length - (c :: cs).length) = s1
  have hp : s1.currPath = s.currPath := by rw [← hs1]; rfl
  have hf : s1.querySatisfied = s.querySatisfied := by rw [← hs1]; rfl
  rcases hcase with ⟨rfl, _, hxs, rfl⟩ | ⟨_, h⟩
  · cases hxs
    exact ⟨[], by simp, by simp [arrHead, hp], by simp [arrHead, hf, qsatL]⟩
  obtain ⟨x, r1, d, ds, hval, h1, hd⟩ := itemsAfter_ok h
  have hne : c ≠ 0x5D := fun e => by rw [e, value_rbracket] at hval; cases hval
  have hfacts := items_tail_facts h1 hd
  obtain ⟨_, hrun⟩ := valueRun_of hFV hV L (c :: cs) x r1 hval hfacts.1 (hx x hfacts.2)
  obtain ⟨s2, ea, a2, a3⟩ := hrun s1
  simp only [arrHead, beq_eq_false_iff_ne.mpr hne, Bool.false_eq_true, ↓reduceIte, ea, h1]
  rcases hd with ⟨rfl, hrest⟩ | ⟨rfl, hw, rfl⟩
  · simp only [arrAfter, beq_self_eq_true, ↓reduceIte]
    obtain ⟨ys, e1, e2, e3⟩ := hI L ds (x :: acc) false xs r s2.bump hrest hx
    simp only [bump_currPath, bump_qs] at e2 e3
    refine ⟨x :: ys, by rw [e1]; simp, by rw [e2, a2, hp], ?_⟩
    rw [e3, a3, a2, hp, hf]
    simp [qsatL, Bool.or_assoc]
  · cases hw
    simp only [arrAfter, show ((0x5D : Nat) == 0x2C) = false from rfl, Bool.false_eq_true, beq_self_eq_true, ↓reduceIte]
    refine ⟨[x], by simp, by simp [a2, hp], ?_⟩
    simp [a3, hp, hf, qsatL]

theorem obj_to_value (qs : List Query) (cap F L : Nat) (b cs key r ds : Bytes) (s : PState)
    (h1 : J.skipWs b = 0x22 :: cs) (h2 : J.str true cs [] = .ok key r) (h3 : J.skipWs r = 0x3A :: ds) :
    ∃ s5, objectLoop qs cap (F + 1) L b s =
        objValue qs cap F L (if s.querySatisfied then none else queryPathMatch qs (s.currPath ++ [key])) (J.skipWs ds) s5 ∧
      s5.currPath = s.currPath ++ [key] ∧ s5.querySatisfied = s.querySatisfied := by
  obtain ⟨k1, _⟩ := str_forward true cs [] key r (s.bump (b.length - (0x22 :: cs).length)).bump h2
  rw [objectLoop_succ, h1, objHead_seq]
  simp only [seqScan, k1]
  rw [objAfterKey_eq, consumed_key cs key r (by simpa using str_body true cs [] key r h2), h3, objColon_colon]
  exact ⟨_, rfl, by simp, by simp⟩

/-- `objectLoop` has read the complete first member `"key" : v` of `b` (`r2` follows the value): the query
    looked up before the value has been applied after it, and the loop goes on behind the value -/
def MemberDone (qs : List Query) (cap F L : Nat) (b : Bytes) (s : PState) (key : Bytes) (v : J.JVal) (r2 : Bytes) : Prop :=
  ∃ (qm : Option Query) (tag : Bytes) (s6 : PState),
    objectLoop qs cap (F + 1) L b s = objAfterVal qs cap F L qm tag (J.skipWs r2) s6 ∧
    (applyQuery qm tag s6).currPath = s.currPath ++ [key] ∧
    (applyQuery qm tag s6).querySatisfied =
      ((s.querySatisfied || qsatV qs (s.currPath ++ [key]) v) || matchHere qs (s.currPath ++ [key]) v)

theorem member_step (qs : List Query) (hq : ValsQuoted qs) (cap F L : Nat) (b cs key r ds : Bytes) (v : J.JVal)
    (r2 : Bytes) (s : PState) (f : Nat)
    (h1 : J.skipWs b = 0x22 :: cs) (h2 : J.str true cs [] = .ok key r) (h3 : J.skipWs r = 0x3A :: ds)
    (hv : J.value true f ds = .ok v r2) (hrun : ValueRun qs cap F L (J.skipWs ds) v r2) :
    MemberDone qs cap F L b s key v r2 := by
  unfold MemberDone
  obtain ⟨s5, e5, p5, q5⟩ := obj_to_value qs cap F L b cs key r ds s h1 h2 h3
  obtain ⟨hlen, hrun⟩ := hrun
  cases hs2 : J.skipWs ds with
  | nil => rw [hs2] at hlen; cases hlen
  | cons e es =>
    rw [hs2] at e5 hlen hrun
    have hv' : J.value true f (e :: es) = .ok v r2 := by rw [← hs2, ← value_skipWs]; exact hv
    have hesp : isSpace e = false := by rw [isSpace_eq_ws]; exact skipWs_head ds e es hs2
    obtain ⟨s6, e6, a2, a3⟩ := hrun s5
    have hvt := valText_of_value f e es v r2 hv' hesp hlen
    rw [e5]
    simp only [objValue, e6]
    have hmono : s.querySatisfied = true → s6.querySatisfied = true := by
      intro h; rw [a3, q5, h]; rfl
    obtain ⟨m1, m2⟩ := member_effect qs hq (s.currPath ++ [key]) s.querySatisfied _ v s6 hvt (by rw [a2, p5]) hmono
    refine ⟨_, _, s6, rfl, m1, ?_⟩
    rw [m2, a3, q5, p5]

theorem qstep_members (qs : List Query) (hq : ValsQuoted qs) (cap f : Nat) (hFV : FValue qs cap f)
    (hV : QV' qs cap f) (hM : QM qs cap f) : QM qs cap (f + 1) := by
  intro L b acc first ms r s hv hx
  obtain ⟨c, cs, hsk, hcase⟩ := members_ok hv
  rcases hcase with ⟨rfl, _, hms, rfl⟩ | ⟨_, rfl, h⟩
  · cases hms
    rw [objectLoop_succ, hsk]
    exact ⟨[], by simp, by simp [objHead], by simp [objHead, qsatM]⟩
  obtain ⟨key, r0, ds, hs, h0, h⟩ := membersAfterKey_ok h
  obtain ⟨x, r2, g, gs, hval, h2, hg⟩ := membersAfterVal_ok h
  have hfacts := members_tail_facts h2 hg
  have hrun := valueRun_of hFV hV L (J.skipWs ds) x r2 (by rw [← value_skipWs]; exact hval) hfacts.1 (hx _ hfacts.2)
  obtain ⟨qm, tag, s6, e, m1, m2⟩ := member_step qs hq cap f L b cs key r0 ds x r2 s f hsk hs h0 hval hrun
  rw [e, h2]
  rcases hg with ⟨rfl, hrest⟩ | ⟨rfl, hw, rfl⟩
  · simp only [objAfterVal, beq_self_eq_true, ↓reduceIte]
    obtain ⟨ns, e1, e2, e3⟩ := hM L gs ((key, x) :: acc) false ms r (applyQuery qm tag s6).pop.bump hrest hx
    simp only [bump_currPath, bump_qs, pop_currPath, pop_qs] at e2 e3
    rw [m1, List.dropLast_concat] at e2 e3
    refine ⟨(key, x) :: ns, by rw [e1]; simp, e2, ?_⟩
    rw [e3, m2]
    simp [qsatM, Bool.or_assoc]
  · cases hw
    simp only [objAfterVal, show ((0x7D : Nat) == 0x2C) = false from rfl, Bool.false_eq_true, beq_self_eq_true, ↓reduceIte]
    refine ⟨[(key, x)], by simp, by simp [m1], ?_⟩
    simp [m2, qsatM, Bool.or_assoc]

end

theorem query_all' (qs : List Query) (hne : qs.isEmpty = false) (hq : ValsQuoted qs) (cap : Nat) :
    ∀ f, QV' qs cap f ∧ QI qs cap f ∧ QM qs cap f := by
  intro f
  induction f with
  | zero =>
    refine ⟨?_, ?_, ?_⟩
    · intro lvl b v r s h; simp [J.value] at h
    · intro L b acc first xs r s h; simp [J.items] at h
    · intro L b acc first ms r s h; simp [J.members] at h
  | succ f ih =>
    obtain ⟨hV, hI, hM⟩ := ih
    have hF := (forward_all qs cap f).1
    exact ⟨qstep_value qs hne cap f hI hM, qstep_items qs cap f hF hV hI, qstep_members qs hq cap f hF hV hM⟩

/-- `query_all'` with the delimiter hypothesis that `QV` carries -/
theorem query_all (qs : List Query) (hne : qs.isEmpty = false) (hq : ValsQuoted qs) (cap : Nat) :
    ∀ f, QV qs cap f ∧ QI qs cap f ∧ QM qs cap f := fun f =>
  ⟨fun lvl b v r s hv _ hcap => (query_all' qs hne hq cap f).1 lvl b v r s hv hcap, (query_all' qs hne hq cap f).2⟩

end Mime.JsonQuery
