import MimeModel.Lemmas.JsonScanEq
/-
  Backward simulation, leaf level: what the scanner model accepts, the relaxed reference
  grammar (`Spec.J … false`) accepts with the same rest; and when the scanner gives up having
  inspected every byte, the reference says "input ended inside the construct" (`more`).
-/
namespace Mime.JsonBack
open Mime Mime.Json Mime.Spec Mime.JsonLeaf

/-- the scanner's result `res` on input `b` from state `s` agrees with the reference outcome -/
def Back {α : Type} (res : Option Bytes × PState) (s : PState) (b : Bytes) (spec : J.R α) : Prop :=
  match res with
  | (some r, s') => (∃ v, spec = .ok v r) ∧ s'.ib + r.length = s.ib + b.length ∧ r.length ≤ b.length
  | (none, s') => s'.ib ≤ s.ib + b.length ∧ (s'.ib = s.ib + b.length → spec = .more)

/-- the agreement seen from another state, whose counter differs by the bytes skipped -/
theorem Back.rebase {α : Type} (res : Option Bytes × PState) (s s0 : PState) (b b' : Bytes) (spec : J.R α)
    (h : Back res s0 b' spec) (hib : s0.ib + b'.length = s.ib + b.length) (hle : b'.length ≤ b.length) : Back res s b spec := by
  obtain ⟨o, s'⟩ := res
  cases o with
  | none => exact ⟨hib ▸ h.1, fun e => h.2 (e.trans hib.symm)⟩
  | some r => exact ⟨h.1, h.2.1.trans hib, Nat.le_trans h.2.2 hle⟩

theorem Back.shift {α : Type} {res : Option Bytes × PState} (s : PState) (k : Nat) {b : Bytes} (b' : Bytes) {spec : J.R α}
    (h : Back res (s.bump k) b' spec) (hb : b.length = b'.length + k) : Back res s b spec :=
  Back.rebase res s (s.bump k) b b' spec h (by rw [bump_ib, hb, Nat.add_assoc, Nat.add_comm k]) (hb ▸ Nat.le_add_right ..)

/-- a failure that did not inspect everything needs no justification -/
theorem Back.fail_early {α : Type} (s s' : PState) (b : Bytes) (spec : J.R α) (h : s'.ib < s.ib + b.length) :
    Back (none, s') s b spec := ⟨by omega, fun e => by omega⟩

theorem Back.fail_all {α : Type} (s s' : PState) (b : Bytes) (spec : J.R α) (h : s'.ib = s.ib + b.length)
    (hs : spec = .more) : Back (none, s') s b spec := ⟨by omega, fun _ => hs⟩

theorem Back.wrap {α : Type} {res : Option Bytes × PState} {s : PState} {b : Bytes} {x : J.R α} (g : α → J.JVal)
    (h : Back res s b x) : Back res s b (SpecComplete.wrap g x) := by
  obtain ⟨o, s'⟩ := res
  cases o with
  | none => exact ⟨h.1, fun e => by rw [h.2 e]; rfl⟩
  | some r =>
    obtain ⟨⟨v, hv⟩, h2⟩ := h
    exact ⟨⟨g v, by rw [hv]; rfl⟩, h2⟩

/-- `G` agrees with `x`; when `x` is `more` so is `y`, and when `G` succeeds the continuation
    `H` agrees with `y` on the rest: then `G ; H` agrees with `y` -/
theorem Back.seq {α β : Type} {G : JsonPrefix.Scan} {H : Bytes → JsonPrefix.Scan} {s : PState} {b : Bytes} {x : J.R α} {y : J.R β}
    (hG : Back (G b s) s b x) (hmore : x = .more → y = .more)
    (hH : ∀ v r s1, x = .ok v r → r.length ≤ b.length → Back (H (consumed b r) r s1) s1 r y) :
    Back (JsonPrefix.seqScan G H b s) s b y := by
  unfold JsonPrefix.seqScan
  generalize G b s = res at hG
  obtain ⟨o, s1⟩ := res
  cases o with
  | none => exact ⟨hG.1, fun e => hmore (hG.2 e)⟩
  | some r =>
    obtain ⟨⟨v, hv⟩, h2, h3⟩ := hG
    exact Back.rebase _ s s1 b r y (hH v r s1 hv h3) h2 h3

theorem hex_short : ∀ (l : Bytes) (k : Nat) (s : PState), l.length < k → l.all J.hexd = true →
    consumeString (.hex k) l s = (none, s.bump l.length) := by
  intro l
  induction l with
  | nil => intro k s _ _; rw [cs_nil]; simp
  | cons c cs ih =>
    intro k s hk hall
    simp only [List.all_cons, Bool.and_eq_true] at hall
    rw [cs_hex_ok k c cs s hall.1]
    simp only [List.length_cons] at hk
    rw [if_neg (by omega), ih (k - 1) s.bump (by omega) hall.2]
    simp [Nat.add_comm]

theorem hex_fail : ∀ (l : Bytes) (k : Nat) (s : PState), (l.take k).all J.hexd = false →
    ∃ s', consumeString (.hex k) l s = (none, s') ∧ s'.ib < s.ib + l.length := by
  intro l
  induction l with
  | nil => intro k s h; simp at h
  | cons c cs ih =>
    intro k s h
    cases k with
    | zero => simp at h
    | succ k =>
      simp only [List.take_succ_cons, List.all_cons] at h
      by_cases hc : J.hexd c = true
      · simp only [hc, Bool.true_and] at h
        rw [cs_hex_ok (k + 1) c cs s hc]
        by_cases hk : k + 1 ≤ 1
        · have : k = 0 := by omega
          subst this
          simp at h
        · rw [if_neg hk]
          obtain ⟨s', e1, e2⟩ := ih k s.bump h
          exact ⟨s', by simpa using e1, by simp only [bump_ib, List.length_cons] at e2 ⊢; omega⟩
      · have hc' : isXDigit c = false := by rw [isXDigit_eq_hexd]; simpa using hc
        rw [cs_hex_bad (k + 1) c cs s hc']
        exact ⟨s, rfl, by simp⟩

theorem short_of_not_four (l : Bytes) (h : ∀ (h1 h2 h3 h4 : Nat) (r : List Nat), l = h1 :: h2 :: h3 :: h4 :: r → False) :
    l.length < 4 := by
  match l with
  | [] => simp
  | [_] => simp
  | [_, _] => simp
  | [_, _, _] => simp
  | a :: b :: c :: d :: r => exact (h a b c d r rfl).elim

theorem str_back (cs acc : Bytes) : ∀ (s : PState),
    Back (consumeString .norm cs s) s cs (J.str false cs acc) := by
  fun_induction J.str false cs acc with
  | case1 => intro s; rw [cs_nil]; exact Back.fail_all _ _ _ _ rfl rfl
  | case2 c cs acc hq =>
    intro s
    rw [beq_iff_eq.mp hq, cs_norm_quote]
    exact ⟨⟨_, rfl⟩, by rw [bump_ib, List.length_cons, Nat.add_assoc, Nat.add_comm 1], Nat.le_succ _⟩
  | case3 c acc hq hb =>
    intro s
    rw [beq_iff_eq.mp hb, cs_norm_bs, cs_nil]
    exact Back.fail_all _ _ _ _ rfl rfl
  | case4 c acc hq hb e es he ih =>
    intro s
    cases beq_iff_eq.mp hb
    rw [cs_norm_bs, cs_esc_simple e es _ he, bump_bump]
    exact Back.shift s (1 + 1) es (ih _) rfl
  | case5 c acc hq hb e he hu h1 h2 h3 h4 r' hh ih =>
    intro s
    cases beq_iff_eq.mp hb
    cases beq_iff_eq.mp hu
    rw [cs_norm_bs, cs_esc_u, consumeString_hex4 h1 h2 h3 h4 r' _ hh, bump_bump, bump_bump]
    exact Back.shift s (1 + (1 + 4)) r' (ih _) rfl
  | case6 c acc hq hb e he hu h1 h2 h3 h4 r' hh =>
    intro s
    rw [beq_iff_eq.mp hb, beq_iff_eq.mp hu, cs_norm_bs, cs_esc_u]
    obtain ⟨s', e1, e2⟩ := hex_fail (h1 :: h2 :: h3 :: h4 :: r') 4 s.bump.bump (by simpa using hh)
    rw [e1]
    exact Back.fail_early _ _ _ _ (by simp only [bump_ib, List.length_cons] at e2 ⊢; omega)
  | case7 c acc hq hb e he hu l hl hall =>
    intro s
    rw [beq_iff_eq.mp hb, beq_iff_eq.mp hu, cs_norm_bs, cs_esc_u, hex_short l 4 _ (short_of_not_four l hl) hall]
    exact Back.fail_all _ _ _ _ (by simp only [bump_ib, List.length_cons]; omega) rfl
  | case8 c acc hq hb e he hu l hl hall =>
    intro s
    rw [beq_iff_eq.mp hb, beq_iff_eq.mp hu, cs_norm_bs, cs_esc_u]
    have hlen := short_of_not_four l hl
    obtain ⟨s', e1, e2⟩ := hex_fail l 4 s.bump.bump (by rw [List.take_of_length_le (by omega)]; simpa using hall)
    rw [e1]
    exact Back.fail_early _ _ _ _ (by simp only [bump_ib, List.length_cons] at e2 ⊢; omega)
  | case9 c acc hq hb e es he hu =>
    intro s
    rw [beq_iff_eq.mp hb, cs_norm_bs, cs_esc_bad e es _ (by simpa [isSimpleEsc] using he) (Bool.eq_false_iff.mpr hu)]
    exact Back.fail_early _ _ _ _ (by simp only [bump_ib, List.length_cons]; omega)
  | case10 c cs acc hq hb hctl => simp at hctl
  | case11 c cs acc hq hb hctl ih =>
    intro s
    rw [cs_norm_other c cs s (Bool.eq_false_iff.mpr hb) (Bool.eq_false_iff.mpr hq)]
    exact Back.shift s 1 cs (ih s.bump) rfl

theorem lit_cons_same (x : Nat) (xs ys : Bytes) : J.lit (x :: xs) (x :: ys) = J.lit xs ys := by
  simp [J.lit, List.isPrefixOf]

theorem lit_back (w : Bytes) : ∀ (b : Bytes) (s : PState), Back (consumeConst b w s) s b (J.lit w b) := by
  induction w with
  | nil =>
    intro b s
    have : consumeConst b [] s = (some b, s) := by cases b <;> simp [consumeConst]
    rw [this]
    exact ⟨⟨(), by simp [J.lit]⟩, rfl, Nat.le_refl _⟩
  | cons x xs ih =>
    intro b s
    cases b with
    | nil =>
      simp only [consumeConst]
      exact Back.fail_all _ _ _ _ (by simp) (by simp [J.lit, List.isPrefixOf])
    | cons y ys =>
      rw [consumeConst]
      split
      · rename_i hy
        have : y = x := by simpa using hy
        subst this
        rw [lit_cons_same]
        exact Back.shift s 1 ys (ih ys s.bump) rfl
      · exact Back.fail_early _ _ _ _ (by simp)

theorem digit_not (c : Nat) (h : J.digit c = false) : isDigit c = false := by rw [isDigit_eq_digit]; exact h

theorem exp_tail (t : Bytes) (s : PState) : Back (consumeNumber (.exp false) t s) s t (J.digits1 t) := by
  obtain ⟨ds, e1, e2, e3, e4⟩ := digits_spec t
  unfold J.digits1
  generalize J.digits t = p at e1 e2 e4
  obtain ⟨n, r⟩ := p
  simp only at e1 e2 e4 ⊢
  subst e1
  rw [exp_run ds e3 false r s]
  cases ds with
  | nil =>
    simp only [List.length_nil] at e2
    subst e2
    simp only [List.isEmpty_nil, Bool.not_true, Bool.or_self, List.length_nil, bump_zero, List.nil_append, beq_self_eq_true,
      ↓reduceIte]
    cases r with
    | nil => rw [cn_nil]; exact Back.fail_all _ _ _ _ (by simp) (by simp)
    | cons c cs =>
      have hc := e4 c (by simp)
      rw [cn_stop (.exp false) c cs s (by simp [numStep, digit_not c hc])]
      exact Back.fail_early _ _ _ _ (by simp)
  | cons d ds =>
    simp only [List.length_cons] at e2
    have hn : (n == 0) = false := by simp; omega
    simp only [hn, Bool.false_eq_true, ↓reduceIte, List.isEmpty_cons, Bool.not_false, Bool.or_true]
    rw [stop_at (.exp true) rfl r _ (fun c hc => by simp [numStep, digit_not c (e4 c hc)])]
    exact ⟨⟨(), rfl⟩, by simp; omega, by simp; omega⟩

theorem exp_back (m : NMode) (hm : m = .int true ∨ m = .frac true) (r3 : Bytes) (s : PState)
    (hnd : ∀ c ∈ r3.head?, J.digit c = false) (hdot : m = .int true → ∀ c ∈ r3.head?, (c == 0x2E) = false) :
    Back (consumeNumber m r3 s) s r3 (J.expPart r3) := by
  have hgot : m.got = true := by rcases hm with rfl | rfl <;> rfl
  cases r3 with
  | nil => rw [cn_nil, if_pos hgot]; exact ⟨⟨(), rfl⟩, rfl, Nat.le_refl _⟩
  | cons e t =>
    have hdd := digit_not e (hnd e rfl)
    rw [SpecComplete.expPart_cons]
    by_cases he : J.isExpChar e = true
    · have hstep : numStep m e = some .expSign := by
        rcases hm with rfl | rfl
        · simp [numStep, hdd, hdot rfl e rfl, show isE e = true from he]
        · simp [numStep, hdd, show isE e = true from he]
      have hl := dropSign_length_le t
      rw [cn_step m .expSign e t s hstep, if_pos he, expSign_dropSign]
      exact Back.rebase _ _ _ _ _ _ (exp_tail (J.dropSign t) _) (by simp only [bump_ib, List.length_cons]; omega)
        (Nat.le_succ_of_le hl)
    · have hstep : numStep m e = none := by
        rcases hm with rfl | rfl
        · simp [numStep, hdd, hdot rfl e rfl, show isE e = false from Bool.eq_false_iff.mpr he]
        · simp [numStep, hdd, show isE e = false from Bool.eq_false_iff.mpr he]
      rw [cn_stop m e t s hstep, if_pos hgot, if_neg he]
      exact ⟨⟨(), rfl⟩, rfl, Nat.le_refl _⟩

theorem no_digit_back (m : NMode) (hm : m = .int false ∨ m = .frac false) (r3 : Bytes) (s : PState)
    (hnd : ∀ c ∈ r3.head?, J.digit c = false) (hdot : m = .int false → ∀ c ∈ r3.head?, (c == 0x2E) = false) :
    Back (consumeNumber m r3 s) s r3 (if r3.isEmpty then (.more : J.R Unit) else .bad) := by
  have hgot : ¬ m.got = true := by rcases hm with rfl | rfl <;> exact Bool.false_ne_true
  cases r3 with
  | nil => rw [cn_nil, if_neg hgot]; exact Back.fail_all _ _ _ _ rfl rfl
  | cons c cs =>
    have hdd := digit_not c (hnd c rfl)
    have hstep : numStep m c = none := by
      rcases hm with rfl | rfl
      · simp [numStep, hdd, hdot rfl c rfl]
      · simp [numStep, hdd]
    rw [cn_stop m c cs s hstep, if_neg hgot]
    exact Back.fail_early _ _ _ _ (Nat.lt_add_of_pos_right (Nat.succ_pos _))

/-- after the mantissa, of which `n` digits were seen: the exponent part, or failure when there was none -/
theorem mant_back {m : NMode} (n : Nat) (hm : m = .int (n != 0) ∨ m = .frac (n != 0)) (r3 : Bytes) (s : PState)
    (hnd : ∀ c ∈ r3.head?, J.digit c = false) (hdot : m = .int (n != 0) → ∀ c ∈ r3.head?, (c == 0x2E) = false) :
    Back (consumeNumber m r3 s) s r3
      (if n == 0 then (if r3.isEmpty then (.more : J.R Unit) else .bad) else J.expPart r3) := by
  cases hn : n == 0 with
  | true =>
    have e : (n != 0) = false := by rw [bne, hn]; rfl
    rw [e] at hm hdot
    rw [if_pos rfl]; exact no_digit_back m hm r3 s hnd hdot
  | false =>
    have e : (n != 0) = true := by rw [bne, hn]; rfl
    rw [e] at hm hdot
    rw [if_neg Bool.false_ne_true]; exact exp_back m hm r3 s hnd hdot

theorem got_length (ds : Bytes) : (!ds.isEmpty) = (ds.length != 0) := by cases ds <;> rfl

theorem got_add (ds1 ds2 : Bytes) : (!ds1.isEmpty || !ds2.isEmpty) = (ds1.length + ds2.length != 0) := by
  cases ds1 with
  | nil => rw [List.length_nil, Nat.zero_add]; exact got_length ds2
  | cons _ _ => rw [List.length_cons, Nat.add_right_comm]; rfl

theorem num_back (b : Bytes) (s : PState) : Back (consumeNumber .start b s) s b (J.numRelaxed b) := by
  have hmin := dropMinus_length_le b
  rw [SpecComplete.numRelaxed_eq, SpecComplete.numStage, start_dropMinus]
  refine Back.rebase _ s (s.bump (b.length - (J.dropMinus b).length)) b (J.dropMinus b) _ ?_ (by rw [bump_ib]; omega) hmin
  generalize s.bump (b.length - (J.dropMinus b).length) = s0
  generalize J.dropMinus b = b1
  obtain ⟨ds1, e1, e2, e3, e4⟩ := digits_spec b1
  generalize J.digits b1 = p at e1 e2 e4 ⊢
  obtain ⟨n1, r1⟩ := p
  dsimp only at e1 e2 e4 ⊢
  subst e1 e2
  rw [int_run ds1 e3 false r1 s0, Bool.false_or, got_length]
  refine Back.shift s0 ds1.length r1 ?_ (by rw [List.length_append, Nat.add_comm])
  generalize s0.bump ds1.length = s1
  by_cases hdot : ∃ r2, r1 = 0x2E :: r2
  · obtain ⟨r2, rfl⟩ := hdot
    rw [SpecComplete.fracPart_dot, cn_step (.int _) (.frac (ds1.length != 0)) 0x2E r2 s1 (by simp [numStep, isDigit])]
    obtain ⟨ds2, f1, f2, f3, f4⟩ := digits_spec r2
    generalize J.digits r2 = q at f1 f2 f4 ⊢
    obtain ⟨n2, r3⟩ := q
    dsimp only at f1 f2 f4 ⊢
    subst f1 f2
    rw [frac_run ds2 f3 _ r3, ← got_length, got_add]
    exact Back.rebase _ _ _ _ _ _ (mant_back _ (Or.inr rfl) r3 _ f4 (fun h => nomatch h))
      (by simp only [bump_ib, List.length_cons, List.length_append]; omega)
      (by simp only [List.length_cons, List.length_append]; omega)
  · have hnd : ∀ c ∈ r1.head?, (c == 0x2E) = false := by
      intro c hc
      cases r1 with
      | nil => cases hc
      | cons x xs =>
        cases hc
        exact Bool.eq_false_iff.mpr fun hx => hdot ⟨xs, by rw [beq_iff_eq.mp hx]⟩
    have hfp : SpecComplete.fracPart r1 = (0, r1) := by
      cases r1 with
      | nil => rfl
      | cons x xs => exact SpecComplete.fracPart_non x xs (hnd x rfl)
    rw [hfp]
    exact mant_back (ds1.length + 0) (Or.inl rfl) r1 s1 e4 (fun _ => hnd)

end Mime.JsonBack
