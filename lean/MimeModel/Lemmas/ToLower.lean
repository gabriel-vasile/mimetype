import MimeModel.Model.ToLower
import MimeModel.Lemmas.ToLowerIndex
import MimeModel.Lemmas.MediaTypeU
import MimeModel.Lemmas.OfString
/-
  The full model of Go's `strings.ToLower` (`Mime.Lower.goToLower`, Model/ToLower.lean): it is `strings.Map` of
  `unicode.ToLower` on every byte string, idempotent, and `Charset.lowerASCII` on ASCII.

  A structural list step costs the kernel ~0.1 ms, so facts that look up every table value in the table
  (idempotence: 1433 x 1433) and the examples are decided through a CERTIFIED index: Lemmas/ToLowerIndex.lean
  holds the same entries as a balanced search tree (generated); `lowerTree_toList` and `LTree.find_eq` are proved
  here, so nothing about the index is trusted.  The model itself (`toLowerRune`) only uses the flat list.
-/
namespace Mime.Lower
open Mime Mime.MTU Mime.Charset

theorem lookupTab_mem : ∀ (t : List (Nat × Nat)) (r l : Nat), lookupTab t r = some l → (r, l) ∈ t := by
  intro t
  induction t with
  | nil => intro r l h; simp [lookupTab] at h
  | cons p rest ih =>
    intro r l h
    obtain ⟨k, v⟩ := p
    simp only [lookupTab] at h
    split at h
    · rename_i hk
      simp only [beq_iff_eq] at hk
      simp only [Option.some.injEq] at h
      subst hk; subst h
      exact List.mem_cons_self ..
    · exact List.mem_cons_of_mem _ (ih r l h)

theorem lookupTab_none : ∀ (t : List (Nat × Nat)) (r : Nat), (∀ p ∈ t, p.1 ≠ r) → lookupTab t r = none := by
  intro t
  induction t with
  | nil => intro r _; rfl
  | cons p rest ih =>
    intro r h
    obtain ⟨k, v⟩ := p
    have hk : (r == k) = false := by
      rw [beq_eq_false_iff_ne]; exact fun e => h (k, v) (List.mem_cons_self ..) e.symm
    simp only [lookupTab, hk, Bool.false_eq_true, if_false]
    exact ih r (fun q hq => h q (List.mem_cons_of_mem _ hq))

theorem lookupTab_append : ∀ (a b : List (Nat × Nat)) (r : Nat),
    lookupTab (a ++ b) r = match lookupTab a r with | some v => some v | none => lookupTab b r := by
  intro a
  induction a with
  | nil => intro b r; rfl
  | cons p rest ih =>
    intro b r
    obtain ⟨k, v⟩ := p
    simp only [List.cons_append, lookupTab]
    split
    · rfl
    · exact ih b r

/-- in-order entries -/
def LTree.toList : LTree → List (Nat × Nat)
  | .leaf => []
  | .node l k v r => l.toList ++ (k, v) :: r.toList

/-- reads the in-order entries of the tree off the front of a list, `none` at the first difference
    (one pass over both, nothing built: this is what `decide` runs) -/
def LTree.strip : LTree → Option (List (Nat × Nat)) → Option (List (Nat × Nat))
  | .leaf, s => s
  | .node l k v r, s =>
    match l.strip s with
    | some ((k', v') :: rest) => bif Nat.beq k k' && Nat.beq v v' then r.strip (some rest) else none
    | _ => none

/-- binary search; `Nat.blt` / `Nat.beq` because the kernel runs them at half the cost of `if x < k` -/
def LTree.find : LTree → Nat → Option Nat
  | .leaf, _ => none
  | .node l k v r, x => bif Nat.blt x k then l.find x else bif Nat.beq x k then some v else r.find x

theorem LTree.strip_eq : ∀ (t : LTree) (s s' : List (Nat × Nat)), t.strip (some s) = some s' → s = t.toList ++ s' := by
  intro t
  induction t with
  | leaf => intro s s' h; exact Option.some.inj h
  | node l k v r ihl ihr =>
    intro s s' h
    simp only [LTree.strip] at h
    split at h
    · rename_i k' v' rest hl
      cases hc : (Nat.beq k k' && Nat.beq v v') with
      | false => rw [hc] at h; cases h
      | true =>
        rw [hc] at h
        simp only [Bool.and_eq_true] at hc
        rw [ihl s _ hl, ihr rest s' h, Nat.eq_of_beq_eq_true hc.1, Nat.eq_of_beq_eq_true hc.2, LTree.toList,
          List.append_assoc, List.cons_append]
    · cases h

theorem pairwise_of_adjacent : ∀ (l : List (Nat × Nat)),
    (l.zip l.tail).all (fun p => p.1.1 < p.2.1) = true → l.Pairwise (fun p q => p.1 < q.1)
  | [], _ => .nil
  | [_], _ => List.pairwise_singleton _ _
  | a :: b :: t, h => by
    simp only [List.tail_cons, List.zip_cons_cons, List.all_cons, Bool.and_eq_true, decide_eq_true_eq] at h
    have ih := pairwise_of_adjacent (b :: t) h.2
    refine List.pairwise_cons.mpr ⟨fun c hc => ?_, ih⟩
    rcases List.mem_cons.mp hc with rfl | hc
    · exact h.1
    · exact Nat.lt_trans h.1 ((List.pairwise_cons.mp ih).1 c hc)

/-- a tree whose in-order entries have increasing keys is a search tree: the logarithmic search finds what
    the linear search of the in-order list finds -/
theorem LTree.find_eq : ∀ (t : LTree), t.toList.Pairwise (fun p q => p.1 < q.1) →
    ∀ x, t.find x = lookupTab t.toList x := by
  intro t
  induction t with
  | leaf => intro _ x; rfl
  | node l k v r ihl ihr =>
    intro h x
    obtain ⟨hl, hkr, hlk⟩ := List.pairwise_append.mp h
    obtain ⟨hk, hr⟩ := List.pairwise_cons.mp hkr
    have e : (LTree.node l k v r).find x =
        bif Nat.blt x k then l.find x else bif Nat.beq x k then some v else r.find x := rfl
    rw [e, ihl hl, ihr hr, LTree.toList, lookupTab_append, lookupTab]
    cases hx : Nat.blt x k with
    | true =>
      have hx' : x < k := Nat.blt_eq.mp hx
      have e : (x == k) = false := beq_eq_false_iff_ne.mpr (Nat.ne_of_lt hx')
      have hr : lookupTab r.toList x = none :=
        lookupTab_none _ _ (fun p hp => Nat.ne_of_gt (Nat.lt_trans hx' (hk p hp)))
      simp only [cond_true, e, Bool.false_eq_true, if_false, hr]
      cases lookupTab l.toList x <;> rfl
    | false =>
      have hx' : ¬ x < k := fun h => by rw [Nat.blt_eq.mpr h] at hx; cases hx
      have hl : lookupTab l.toList x = none :=
        lookupTab_none _ _ (fun p hp => Nat.ne_of_lt (Nat.lt_of_lt_of_le (hlk p hp (k, v) (List.mem_cons_self ..)) (Nat.le_of_not_lt hx')))
      rw [hl]
      cases hb : Nat.beq x k with
      | true => rw [Nat.eq_of_beq_eq_true hb, beq_self_eq_true]; rfl
      | false => rw [beq_eq_false_iff_ne.mpr (Nat.ne_of_beq_eq_false hb)]; rfl

theorem lowerTab_length : lowerTab.length = lowerTabSize := by decide +kernel

/-- keys strictly increasing: every rune has at most one entry, whatever the search order -/
theorem lowerTab_sorted : (lowerTab.zip lowerTab.tail).all (fun p => p.1.1 < p.2.1) = true := by decide +kernel

theorem lowerTree_toList : lowerTree.toList = lowerTab := by
  have h : lowerTree.strip (some lowerTab) = some [] := by decide +kernel
  rw [LTree.strip_eq _ _ _ h, List.append_nil]

/-- `unicode.ToLower` by the logarithmic search -/
def fastLower (r : Nat) : Nat := (lowerTree.find r).getD r

theorem find_lowerTab (r : Nat) : lowerTree.find r = lookupTab lowerTab r := by
  have h := LTree.find_eq lowerTree (by rw [lowerTree_toList]; exact pairwise_of_adjacent _ lowerTab_sorted) r
  rwa [lowerTree_toList] at h

theorem fastLower_eq (r : Nat) : fastLower r = toLowerRune r := by
  unfold fastLower toLowerRune; rw [find_lowerTab]
  cases lookupTab lowerTab r <;> rfl

/-- an entry changes its rune, and both sides are Unicode scalar values -/
theorem lowerTab_entries :
    lowerTab.all (fun p => p.1 != p.2 &&
      (p.1 < 0xD800 || (0xE000 ≤ p.1 && p.1 < 0x110000)) &&
      (p.2 < 0xD800 || (0xE000 ≤ p.2 && p.2 < 0x110000))) = true := by decide +kernel

/-- no lower-case value is itself a key (checked through the logarithmic search) -/
theorem lowerTab_closed : lowerTab.all (fun p => (lookupTab lowerTab p.2).isNone) = true := by
  have h : lowerTab.all (fun p => (lowerTree.find p.2).isNone) = true := by decide +kernel
  simpa only [find_lowerTab] using h

theorem toLowerRune_ascii (c : Nat) (h : c < 0x80) :
    toLowerRune c = (if 0x41 ≤ c && c ≤ 0x5A then c + 0x20 else c) := by
  have hall : ∀ c, c < 0x80 → fastLower c = (if 0x41 ≤ c && c ≤ 0x5A then c + 0x20 else c) := by decide +kernel
  rw [← fastLower_eq]; exact hall c h

theorem toLowerRune_valid (r : Nat) (h : ValidRune r) : ValidRune (toLowerRune r) := by
  unfold toLowerRune
  cases hl : lookupTab lowerTab r with
  | none => exact h
  | some l =>
    have hm := lookupTab_mem _ _ _ hl
    have := List.all_eq_true.mp lowerTab_entries _ hm
    simp only [Bool.and_eq_true, Bool.or_eq_true, decide_eq_true_eq] at this
    exact this.2

theorem toLowerRune_idem (r : Nat) : toLowerRune (toLowerRune r) = toLowerRune r := by
  cases hl : lookupTab lowerTab r with
  | none =>
    have e : toLowerRune r = r := by simp only [toLowerRune, hl]
    rw [e, e]
  | some l =>
    have e : toLowerRune r = l := by simp only [toLowerRune, hl]
    have hm := lookupTab_mem _ _ _ hl
    have := List.all_eq_true.mp lowerTab_closed _ hm
    simp only [Option.isNone_iff_eq_none] at this
    rw [e]
    simp only [toLowerRune, this]

/-- a rune without an entry is fixed (caseless or lower case; surrogates; anything > U+10FFFF) -/
theorem toLowerRune_fixed (r : Nat) (h : lookupTab lowerTab r = none) : toLowerRune r = r := by
  simp only [toLowerRune, h]

theorem asc_of_all {s : Bytes} (h : s.all (fun b => b < 0x80) = true) : Asc s := by
  intro b hb
  have := List.all_eq_true.mp h b hb
  simpa using this

theorem all_of_asc {s : Bytes} (h : ∀ b ∈ s, b < 0x80) : s.all (fun b => b < 0x80) = true := by
  apply List.all_eq_true.mpr
  intro b hb
  simpa using h b hb

/-- on ASCII strings `strings.ToLower` is the byte-wise `A`–`Z` mapping -/
theorem goToLower_ascii (s : Bytes) (h : ∀ b ∈ s, b < 0x80) : goToLower s = Charset.lowerASCII s := by
  unfold goToLower
  rw [all_of_asc h]
  rfl

theorem goToLower_length_ascii (s : Bytes) (h : ∀ b ∈ s, b < 0x80) : (goToLower s).length = s.length := by
  rw [goToLower_ascii s h]
  unfold Charset.lowerASCII
  exact List.length_map _

theorem mapLower_ascii (s : Bytes) (h : ∀ b ∈ s, b < 0x80) : mapLower s = Charset.lowerASCII s := by
  unfold mapLower Charset.lowerASCII
  rw [runes_ascii s h]
  induction s with
  | nil => rfl
  | cons c cs ih =>
    have hc : c < 0x80 := h c (List.mem_cons_self ..)
    have hcs : ∀ b ∈ cs, b < 0x80 := fun b hb => h b (List.mem_cons_of_mem _ hb)
    simp only [List.flatMap_cons, List.map_cons]
    rw [ih hcs, toLowerRune_ascii c hc]
    generalize hX : (if (0x41 ≤ c && c ≤ 0x5A) then c + 0x20 else c) = X
    have hlt : X < 0x80 := by
      subst hX
      split
      · rename_i hh; simp at hh; omega
      · exact hc
    simp [encodeRune, hlt]

/-- `strings.ToLower(s) = strings.Map(unicode.ToLower, s)` for every `s`: the ASCII fast path of
    `ToLower` is an optimisation, not a different function -/
theorem goToLower_eq_map (s : Bytes) : goToLower s = mapLower s := by
  unfold goToLower
  split
  · rename_i h
    exact (mapLower_ascii s (asc_of_all h)).symm
  · rfl

/-- the same with the logarithmic search: the form in which the kernel evaluates `strings.ToLower` -/
theorem goToLower_eq_fast (s : Bytes) : goToLower s = (runes s).flatMap (fun r => encodeRune (fastLower r)) := by
  simp only [goToLower_eq_map, mapLower, fastLower_eq]

/-- the rune sequence of the result is the rune-wise image of the rune sequence of the argument
    (an invalid byte counts as U+FFFD, as in `for _, c := range s`) -/
theorem runes_goToLower (s : Bytes) : runes (goToLower s) = (runes s).map toLowerRune := by
  rw [goToLower_eq_map]
  unfold mapLower
  have hv : ∀ r ∈ (runes s).map toLowerRune, ValidRune r := by
    intro r hr
    obtain ⟨x, hx, rfl⟩ := List.mem_map.mp hr
    exact toLowerRune_valid x (runes_valid s x hx)
  have := runes_encode _ hv []
  rw [List.append_nil, runes_nil, List.append_nil, List.flatMap_map] at this
  exact this

/-- idempotence, for every byte string (valid UTF-8 or not) -/
theorem goToLower_idem (s : Bytes) : goToLower (goToLower s) = goToLower s := by
  rw [goToLower_eq_map (goToLower s)]
  unfold mapLower
  rw [runes_goToLower, goToLower_eq_map s]
  unfold mapLower
  rw [List.flatMap_map]
  simp only [toLowerRune_idem]

/-- `strings.ToLower(s) == ""` only for `s == ""` (no rune is dropped) -/
theorem goToLower_eq_nil (s : Bytes) : goToLower s = [] ↔ s = [] := by
  constructor
  · intro h
    cases s with
    | nil => rfl
    | cons b0 t =>
      rw [goToLower_eq_map] at h
      unfold mapLower at h
      rw [runes_cons, List.flatMap_cons] at h
      have := List.append_eq_nil_iff.mp h
      exact absurd this.1 (encodeRune_spec _ (toLowerRune_valid _ (decode1_valid b0 t))).ne_nil
  · intro h; subst h; rfl

-- É (C3 89) -> é (C3 A9)
example : goToLower [0xC3, 0x89] = [0xC3, 0xA9] := by rw [goToLower_eq_fast]; decide +kernel
-- İ U+0130 (C4 B0) -> i, WITHOUT the combining dot U+0307: the simple mapping, not SpecialCasing
example : goToLower [0xC4, 0xB0] = [0x69] := by rw [goToLower_eq_fast]; decide +kernel
-- K U+212A KELVIN SIGN (E2 84 AA) -> k: three bytes become one
example : goToLower [0xE2, 0x84, 0xAA] = [0x6B] := by rw [goToLower_eq_fast]; decide +kernel
-- ẞ U+1E9E (E1 BA 9E) -> ß U+00DF (C3 9F)
example : goToLower [0xE1, 0xBA, 0x9E] = [0xC3, 0x9F] := by rw [goToLower_eq_fast]; decide +kernel
-- Σ U+03A3 (CE A3) -> σ U+03C3 (CF 83), also at the end of a word: "ΑΣ" -> "ασ", never ς (CF 82)
example : goToLower [0xCE, 0xA3] = [0xCF, 0x83] := by rw [goToLower_eq_fast]; decide +kernel
example : goToLower [0xCE, 0x91, 0xCE, 0xA3] = [0xCE, 0xB1, 0xCF, 0x83] := by rw [goToLower_eq_fast]; decide +kernel
-- Ⱥ U+023A (C8 BA) -> ⱥ U+2C65 (E2 B1 A5): the output is LONGER than the input
example : goToLower [0xC8, 0xBA] = [0xE2, 0xB1, 0xA5] := by rw [goToLower_eq_fast]; decide +kernel
-- ǅ U+01C5 (title case, C7 85) -> ǆ U+01C6
example : goToLower [0xC7, 0x85] = [0xC7, 0x86] := by rw [goToLower_eq_fast]; decide +kernel
-- 𐐀 U+10400 DESERET CAPITAL LONG I (F0 90 90 80) -> U+10428 (F0 90 90 A8)
example : goToLower [0xF0, 0x90, 0x90, 0x80] = [0xF0, 0x90, 0x90, 0xA8] := by rw [goToLower_eq_fast]; decide +kernel
-- a lone 0xFF -> U+FFFD (EF BF BD); every byte of an invalid sequence separately
example : goToLower [0xFF] = [0xEF, 0xBF, 0xBD] := by rw [goToLower_eq_fast]; decide +kernel
example : goToLower [0xED, 0xA0, 0x80] = [0xEF, 0xBF, 0xBD, 0xEF, 0xBF, 0xBD, 0xEF, 0xBF, 0xBD] := by rw [goToLower_eq_fast]; decide +kernel
-- … also when the rest is ASCII: "A\xffB" -> "a�b"
example : goToLower [0x41, 0xFF, 0x42] = [0x61, 0xEF, 0xBF, 0xBD, 0x62] := by rw [goToLower_eq_fast]; decide +kernel
-- a truncated É keeps nothing of É: "\xc3" -> U+FFFD
example : goToLower [0xC3] = [0xEF, 0xBF, 0xBD] := by rw [goToLower_eq_fast]; decide +kernel
-- "ISO-8859-1" -> "iso-8859-1" (fast path)
example : goToLower (ofString "ISO-8859-1") = ofString "iso-8859-1" := by
  repeat rw [ofString_ofList]
  decide +kernel
example : goToLower (ofString "ISO-8859-1") = Charset.lowerASCII (ofString "ISO-8859-1") := by
  repeat rw [ofString_ofList]
  decide +kernel
example : goToLower [] = [] := by decide +kernel

end Mime.Lower
