import MimeModel.Model.Lines
/-
  Facts about the line helpers of `Model/Lines.lean` (`cutNL`, `dropCR`, `scanLine`, `lastIdx`)
  shared by the proofs about NDJSON, CSV/TSV, SRT and the index-level scanners.
-/
namespace Mime.C13Base

def NoLF (l : Bytes) : Prop := ∀ c ∈ l, c ≠ 0x0A

end Mime.C13Base

namespace Mime.LinesLemmas
open Mime Mime.Cust Mime.C13Base

theorem cutNL_append_not_mem (p s : Bytes) (h : NoLF p) :
    cutNL (p ++ s) = (p ++ (cutNL s).1, (cutNL s).2) := by
  induction p with
  | nil => simp
  | cons a as ih =>
    have ha : (a == 0x0A) = false := by rw [beq_eq_false_iff_ne]; exact h a (by simp)
    have := ih (fun x hx => h x (by simp [hx]))
    simp [cutNL, ha, this]

theorem cutNL_noLF (l : Bytes) (h : NoLF l) : cutNL l = (l, []) := by
  simpa [cutNL] using cutNL_append_not_mem l [] h

theorem cutNL_line (l r : Bytes) (h : NoLF l) : cutNL (l ++ 0x0A :: r) = (l, r) := by
  simpa [cutNL] using cutNL_append_not_mem l (0x0A :: r) h

theorem cutNL_append_mem (p s : Bytes) (h : 0x0A ∈ p) :
    cutNL (p ++ s) = ((cutNL p).1, (cutNL p).2 ++ s) := by
  induction p with
  | nil => simp at h
  | cons a as ih =>
    by_cases ha : a = 0x0A
    · subst ha; simp [cutNL]
    · have hb : (a == 0x0A) = false := by rw [beq_eq_false_iff_ne]; exact ha
      have hm : 0x0A ∈ as := by
        rcases List.mem_cons.1 h with h | h
        · exact absurd h.symm ha
        · exact h
      simp [cutNL, hb, ih hm]

theorem dropCR_single (c : Nat) : dropCR [c] = if c == 0x0D then [] else [c] := by
  by_cases h : c = 0x0D <;> simp [dropCR, h]

theorem dropCR_cons_cons (c d : Nat) (l : Bytes) : dropCR (c :: d :: l) = c :: dropCR (d :: l) := by
  unfold dropCR
  rw [List.getLast?_cons_cons]
  split <;> simp

theorem dropCR_cons_ne (c : Nat) (l : Bytes) (hc : (c == 0x0D) = false) : dropCR (c :: l) = c :: dropCR l := by
  cases l with
  | nil => simp [dropCR_single, hc, dropCR]
  | cons d l => exact dropCR_cons_cons c d l

theorem dropCR_of_last (l : Bytes) (h : l.getLast? ≠ some 0x0D) : dropCR l = l := by
  unfold dropCR; simp [h]

theorem dropCR_noCR {l : Bytes} (h : 0x0D ∉ l) : dropCR l = l :=
  dropCR_of_last l fun hl => h (List.mem_of_getLast? hl)

theorem dropCR_concat (l : Bytes) : dropCR (l ++ [0x0D]) = l := by
  simp [dropCR]

theorem dropCR_eq_nil_iff (l : Bytes) : dropCR l = [] ↔ l = [] ∨ l = [0x0D] := by
  match l with
  | [] => simp [dropCR]
  | [a] => by_cases h : a = 0x0D <;> simp [dropCR, h]
  | a :: b :: t =>
    unfold dropCR; split <;> simp [List.dropLast]

theorem dropCR_append_ne_nil {p : Bytes} (x : Bytes) (h : dropCR p ≠ []) : dropCR (p ++ x) ≠ [] := by
  intro hc
  apply h
  rw [dropCR_eq_nil_iff] at hc ⊢
  rcases hc with hc | hc
  · left; exact (List.append_eq_nil_iff.1 hc).1
  · match p, hc with
    | [], _ => left; rfl
    | [a], hc => right; simp at hc; simp [hc.1]
    | a :: b :: t, hc => simp at hc

theorem lastIdx_noLF (p : Bytes) (h : NoLF p) : lastIdx 0x0A p = none := by
  induction p with
  | nil => rfl
  | cons c cs ih =>
    have hc : (c == 0x0A) = false := by simpa using h c (List.mem_cons_self ..)
    simp [lastIdx, ih (fun x hx => h x (List.mem_cons_of_mem _ hx)), hc]

theorem lastIdx_last (a p : Bytes) (h : NoLF p) : lastIdx 0x0A (a ++ 0x0A :: p) = some a.length := by
  induction a with
  | nil => simp [lastIdx, lastIdx_noLF p h]
  | cons c cs ih => simp [lastIdx, ih]

theorem lastIdx_concat (c x : Nat) : ∀ (l : Bytes),
    lastIdx c (l ++ [x]) = if x == c then some l.length else lastIdx c l := by
  intro l
  induction l with
  | nil => simp [lastIdx]
  | cons a as ih =>
    simp only [List.cons_append, lastIdx, ih]
    by_cases hx : (x == c) = true
    · simp [hx]
    · simp only [hx, Bool.false_eq_true, if_false]

theorem lastIdx_lt (c : Nat) : ∀ (t : Bytes) (j : Nat), lastIdx c t = some j → j < t.length := by
  intro t
  induction t with
  | nil => intro j h; cases h
  | cons a as ih =>
    intro j h
    simp only [lastIdx] at h
    cases hi : lastIdx c as with
    | some k =>
      simp only [hi, Option.some.injEq] at h
      have := ih k hi
      simp; omega
    | none =>
      simp only [hi] at h
      split at h
      · cases h; simp
      · cases h

theorem cutNL_snd_length : ∀ (cs : Bytes) (c : Nat), (cutNL (c :: cs)).2.length ≤ cs.length := by
  intro cs
  induction cs with
  | nil => intro c; simp only [cutNL]; split <;> simp
  | cons d ds ih =>
    intro c
    have := ih d
    rw [cutNL]
    split
    · simp
    · simp only [List.length_cons]; omega

theorem scanLine_fst_append_ne_nil {r : Bytes} (s : Bytes) (h : (scanLine r).1 ≠ []) :
    (scanLine (r ++ s)).1 ≠ [] := by
  by_cases hm : 0x0A ∈ r
  · simpa [scanLine, cutNL_append_mem r s hm] using h
  · have hn : ∀ x ∈ r, x ≠ 0x0A := fun x hx hc => hm (hc ▸ hx)
    simp only [scanLine, cutNL_append_not_mem r s hn, cutNL_noLF r hn] at h ⊢
    exact dropCR_append_ne_nil _ h

theorem scanLine_append_mem (p s : Bytes) (h : 0x0A ∈ p) :
    scanLine (p ++ s) = ((scanLine p).1, (scanLine p).2 ++ s) := by
  simp [scanLine, cutNL_append_mem p s h]

theorem scanLine_not_mem (p : Bytes) (h : 0x0A ∉ p) : (scanLine p).2 = [] := by
  have hn : ∀ x ∈ p, x ≠ 0x0A := fun x hx hc => h (hc ▸ hx)
  simp [scanLine, cutNL_noLF p hn]

theorem count_lf_cutNL (p : Bytes) (h : 0x0A ∈ p) :
    p.count 0x0A = (cutNL p).2.count 0x0A + 1 := by
  induction p with
  | nil => simp at h
  | cons a as ih =>
    by_cases ha : a = 0x0A
    · subst ha; simp [cutNL]
    · have hb : (a == 0x0A) = false := by rw [beq_eq_false_iff_ne]; exact ha
      have hm : 0x0A ∈ as := by
        rcases List.mem_cons.1 h with h | h
        · exact absurd h.symm ha
        · exact h
      simp [cutNL, hb, List.count_cons, ih hm]

end Mime.LinesLemmas
