import MimeModel.Model.Srt
import MimeModel.Lemmas.Bytes
import MimeModel.Lemmas.Lines
/-
  Theorems about the model of `Srt` (internal/magic/text.go) and of
  `time.Parse("15:04:05,000", ·)` (MimeModel/Model/Srt.lean).

  `parseClock` is cut into its stages (`parseClock_stages`): the hour, two `:`-prefixed two-digit
  fields (`zeroFieldK`), the fraction and the end of the value (`fracEnd`); each stage has its closed
  form on input of the right length and a bound on the length it accepts.  From these: which strings
  are accepted, an iff for `srt` (`srt_spec`), and that appending data keeps a detection.
-/
namespace Mime.SrtLemmas
open Mime Mime.Cust Mime.Srt
open Mime.LinesLemmas

theorem isDigit_le {a : Nat} (h : isDigit a = true) : 48 ≤ a ∧ a ≤ 57 := by
  simp [isDigit] at h; omega

theorem dv_le {a : Nat} (h : isDigit a = true) : dv a ≤ 9 := by
  have := isDigit_le h; simp [dv]; omega

/-- `1000000` is what the callers need (at most three digits); any bound with `10 * x + 9 ≤ 2^63`
    keeps both overflow tests of `leadingInt` quiet -/
theorem leadingIntAll_digit {x c : Nat} (cs : Bytes) (hx : x ≤ 1000000) (hc : isDigit c = true) :
    leadingIntAll x (c :: cs) = leadingIntAll (x * 10 + dv c) cs := by
  have := dv_le hc
  simp only [leadingIntAll, hc, ↓reduceIte]
  rw [if_neg (by omega), if_neg (by omega)]

theorem leadingIntAll_nondigit {x c : Nat} (cs : Bytes) (hc : isDigit c = false) :
    leadingIntAll x (c :: cs) = none := by
  simp [leadingIntAll, hc]

/-- the sign test and scaling `parseNanoseconds(value, 4)` applies to the result of `atoi` -/
def nsOf : Option Int → Option Nat
  | none => none
  | some ns => if ns < 0 then none else some (ns.toNat * 10 ^ 6)

theorem parseNanoseconds_atoi (p f1 f2 f3 : Nat) (rest : Bytes) :
    parseNanoseconds (p :: f1 :: f2 :: f3 :: rest) 4 =
      if commaOrPeriod p then nsOf (atoi [f1, f2, f3]) else none := rfl

theorem nsOf_ofNat (o : Option Nat) : nsOf (o.map Int.ofNat) = o.map (· * 10 ^ 6) := by
  cases o with
  | none => rfl
  | some n => exact if_neg (t := none) (Int.not_lt.mpr (Int.natCast_nonneg n))

theorem nsOf_neg (o : Option Nat) :
    nsOf (o.map fun x => - Int.ofNat x) = o.bind fun n => if n = 0 then some 0 else none := by
  cases o with
  | none => rfl
  | some n =>
    cases n with
    | zero => rfl
    | succ k => exact if_pos (e := some _) (show -((k + 1 : Nat) : Int) < 0 by omega)

theorem leadingIntAll_2 (a b : Nat) :
    leadingIntAll 0 [a, b] = if isDigit a && isDigit b then some (dv a * 10 + dv b) else none := by
  cases ha : isDigit a with
  | false => simp [leadingIntAll_nondigit _ ha]
  | true =>
    have := dv_le ha
    rw [leadingIntAll_digit _ (by omega) ha]
    cases hb : isDigit b with
    | false => simp [leadingIntAll_nondigit _ hb]
    | true =>
      rw [leadingIntAll_digit _ (by omega) hb]
      simp [leadingIntAll]

theorem leadingIntAll_3 (a b c : Nat) :
    leadingIntAll 0 [a, b, c] =
      if isDigit a && isDigit b && isDigit c then some (dv a * 100 + dv b * 10 + dv c) else none := by
  cases ha : isDigit a with
  | false => simp [leadingIntAll_nondigit _ ha]
  | true =>
    have := dv_le ha
    rw [leadingIntAll_digit _ (by omega) ha]
    cases hb : isDigit b with
    | false => simp [leadingIntAll_nondigit _ hb]
    | true =>
      have := dv_le hb
      rw [leadingIntAll_digit _ (by omega) hb]
      cases hc : isDigit c with
      | false => simp [leadingIntAll_nondigit _ hc]
      | true =>
        rw [leadingIntAll_digit _ (by omega) hc]
        simp [leadingIntAll]; omega

theorem two_zero {a b : Nat} (ha : isDigit a = true) (hb : isDigit b = true) :
    dv a * 10 + dv b = 0 ↔ a = 0x30 ∧ b = 0x30 := by
  have := isDigit_le ha
  have := isDigit_le hb
  unfold dv
  omega

/-- the three bytes after the separator, as `parseNanoseconds` reads them: `ddd`, `+dd`, or `-00`;
    the value is in milliseconds -/
def frac3 (f1 f2 f3 : Nat) : Option Nat :=
  if isDigit f1 && isDigit f2 && isDigit f3 then some (dv f1 * 100 + dv f2 * 10 + dv f3)
  else if f1 == 0x2B && isDigit f2 && isDigit f3 then some (dv f2 * 10 + dv f3)
  else if f1 == 0x2D && f2 == 0x30 && f3 == 0x30 then some 0
  else none

theorem atoi_cons (c : Nat) (cs : Bytes) : atoi (c :: cs) =
    if c == 0x2D then (leadingIntAll 0 cs).map (fun x => - (Int.ofNat x))
    else if c == 0x2B then (leadingIntAll 0 cs).map Int.ofNat
    else (leadingIntAll 0 (c :: cs)).map Int.ofNat := rfl

theorem atoi_frac3 (f1 f2 f3 : Nat) : nsOf (atoi [f1, f2, f3]) = (frac3 f1 f2 f3).map (· * 10 ^ 6) := by
  rw [frac3, atoi_cons]
  by_cases m : (f1 == 0x2D) = true
  · rw [if_pos m, nsOf_neg, leadingIntAll_2]
    obtain rfl := eq_of_beq m
    by_cases hd : (isDigit f2 && isDigit f3) = true
    · rw [if_pos hd]
      have hd' := hd
      rw [Bool.and_eq_true] at hd'
      have hz := two_zero hd'.1 hd'.2
      by_cases z : dv f2 * 10 + dv f3 = 0
      · obtain ⟨rfl, rfl⟩ := hz.1 z
        rfl
      · have : ¬ (f2 = 0x30 ∧ f3 = 0x30) := fun h => z (hz.2 h)
        rw [Option.bind_some, if_neg z]
        simp [isDigit, this]
    · rw [if_neg hd]
      have : ¬ (f2 = 0x30 ∧ f3 = 0x30) := by rintro ⟨rfl, rfl⟩; exact hd rfl
      simp [isDigit, this]
  · rw [if_neg m]
    by_cases q : (f1 == 0x2B) = true
    · rw [if_pos q, nsOf_ofNat, leadingIntAll_2]
      obtain rfl := eq_of_beq q
      by_cases hd : (isDigit f2 && isDigit f3) = true
      · simp [hd, isDigit]
      · simp [hd, isDigit]
    · rw [if_neg q, nsOf_ofNat, leadingIntAll_3]
      by_cases hd : (isDigit f1 && isDigit f2 && isDigit f3) = true
      · simp [hd]
      · simp [hd, m, q]

theorem getnum_fixed (a b : Nat) (r : Bytes) :
    getnum true (a :: b :: r) = if isDigit a && isDigit b then some (dv a * 10 + dv b, r) else none := by
  cases ha : isDigit a <;> cases hb : isDigit b <;> simp [getnum, ha, hb]

theorem getnum_free (a b : Nat) (r : Bytes) :
    getnum false (a :: b :: r) =
      if isDigit a then (if isDigit b then some (dv a * 10 + dv b, r) else some (dv a, b :: r))
      else none := by
  cases ha : isDigit a <;> cases hb : isDigit b <;> simp [getnum, ha, hb]

theorem skipByte_cons (c a : Nat) (r : Bytes) :
    skipByte c (a :: r) = if a == c then some r else none := rfl

/-- prefix `:`, a two-digit field below 60 (`stdZeroMinute`, `stdZeroSecond`), then `k` on the
    field and what follows it -/
def zeroFieldK (k : Nat → Bytes → Option Nat) (v : Bytes) : Option Nat :=
  match skipByte 0x3A v with
  | none => none
  | some v' =>
    match getnum true v' with
    | none => none
    | some (n, r) => if 60 ≤ n then none else k n r

/-- `stdFracSecond0` with three digits, then the end of the value; `secs` are the whole seconds -/
def fracEnd (secs : Nat) (v : Bytes) : Option Nat :=
  if v.length < 4 then none else
  match parseNanoseconds v 4 with
  | none => none
  | some nsec => if (v.drop 4).isEmpty then some (secs * 10 ^ 9 + nsec) else none

def clockTail (hour : Nat) : Bytes → Option Nat :=
  zeroFieldK fun min => zeroFieldK fun sec => fracEnd ((hour * 60 + min) * 60 + sec)

theorem parseClock_stages (v : Bytes) : parseClock v =
    match getnum false v with
    | none => none
    | some (hour, v1) => if 24 ≤ hour then none else clockTail hour v1 := rfl

theorem zeroFieldK_cons (k : Nat → Bytes → Option Nat) (c a b : Nat) (r : Bytes) :
    zeroFieldK k (c :: a :: b :: r) =
      if c == 0x3A && isDigit a && isDigit b && decide (dv a * 10 + dv b < 60)
      then k (dv a * 10 + dv b) r else none := by
  rw [zeroFieldK, skipByte_cons]
  cases c == 0x3A
  · rfl
  simp only [↓reduceIte, getnum_fixed, Bool.true_and]
  cases isDigit a && isDigit b
  · rfl
  simp only [↓reduceIte, Bool.true_and]
  by_cases h : dv a * 10 + dv b < 60
  · rw [if_neg (Nat.not_le.mpr h), if_pos (decide_eq_true h)]
  · rw [if_pos (Nat.le_of_not_lt h), if_neg (by rw [decide_eq_false h]; exact Bool.false_ne_true)]

theorem zeroFieldK_short (k : Nat → Bytes → Option Nat) {v : Bytes} (h : v.length < 3) :
    zeroFieldK k v = none := by
  match v, h with
  | [], _ => rfl
  | [c], _ => rw [zeroFieldK, skipByte_cons]; cases c == 0x3A <;> rfl
  | [c, a], _ =>
    rw [zeroFieldK, skipByte_cons]
    cases c == 0x3A
    · rfl
    · cases h : isDigit a <;> simp [getnum, h]

theorem zeroFieldK_some {k : Nat → Bytes → Option Nat} {v : Bytes} {t : Nat} (h : zeroFieldK k v = some t) :
    ∃ n r, v.length = r.length + 3 ∧ k n r = some t := by
  match v with
  | c :: a :: b :: r =>
    rw [zeroFieldK_cons] at h
    split at h
    · exact ⟨_, r, rfl, h⟩
    · cases h
  | [] | [_] | [_, _] => rw [zeroFieldK_short k (Nat.le_of_ble_eq_true rfl)] at h; cases h

theorem fracEnd_4 (secs p f1 f2 f3 : Nat) :
    fracEnd secs [p, f1, f2, f3] =
      if p == 0x2E || p == 0x2C then (frac3 f1 f2 f3).map fun ms => secs * 10 ^ 9 + ms * 10 ^ 6 else none := by
  rw [fracEnd, if_neg (show ¬ [p, f1, f2, f3].length < 4 from Nat.lt_irrefl 4), parseNanoseconds_atoi, atoi_frac3]
  unfold commaOrPeriod
  cases (p == 0x2E || p == 0x2C)
  · rfl
  · cases frac3 f1 f2 f3 <;> rfl

theorem fracEnd_length {secs : Nat} {v : Bytes} {t : Nat} (h : fracEnd secs v = some t) : v.length = 4 := by
  unfold fracEnd at h
  split at h
  · cases h
  · split at h
    · cases h
    · split at h
      · rename_i he
        rw [List.isEmpty_iff, List.drop_eq_nil_iff] at he
        omega
      · cases h

theorem clockTail_length {hour : Nat} {v : Bytes} {t : Nat} (h : clockTail hour v = some t) : v.length = 10 := by
  obtain ⟨_, v3, l1, h⟩ := zeroFieldK_some h
  obtain ⟨_, v5, l3, h⟩ := zeroFieldK_some h
  have := fracEnd_length h
  omega

theorem clockTail_none (hour : Nat) {v : Bytes} (h : v.length ≠ 10) : clockTail hour v = none :=
  Option.eq_none_iff_forall_ne_some.mpr fun _ ht => h (clockTail_length ht)

theorem clockTail_10 (hour c1 m1 m2 c2 s1 s2 p f1 f2 f3 : Nat) :
    clockTail hour [c1, m1, m2, c2, s1, s2, p, f1, f2, f3] =
      if (c1 == 0x3A && isDigit m1 && isDigit m2 && decide (dv m1 * 10 + dv m2 < 60)) &&
         (c2 == 0x3A && isDigit s1 && isDigit s2 && decide (dv s1 * 10 + dv s2 < 60)) &&
         (p == 0x2E || p == 0x2C)
      then (frac3 f1 f2 f3).map fun ms =>
        ((hour * 60 + (dv m1 * 10 + dv m2)) * 60 + (dv s1 * 10 + dv s2)) * 10 ^ 9 + ms * 10 ^ 6
      else none := by
  simp only [clockTail, zeroFieldK_cons, fracEnd_4]
  generalize (c1 == 0x3A && isDigit m1 && isDigit m2 && decide (dv m1 * 10 + dv m2 < 60)) = g1
  generalize (c2 == 0x3A && isDigit s1 && isDigit s2 && decide (dv s1 * 10 + dv s2 < 60)) = g2
  cases g1 <;> cases g2 <;> rfl

theorem getnum_free_length {v r : Bytes} {n : Nat} (h : getnum false v = some (n, r)) :
    v.length = r.length + 2 ∨ v.length = r.length + 1 := by
  match v with
  | [] => cases h
  | [a] =>
    simp only [getnum] at h
    split at h <;> cases h
    exact Or.inr rfl
  | a :: b :: t =>
    rw [getnum_free] at h
    split at h
    · split at h <;> cases h
      · exact Or.inl rfl
      · exact Or.inr rfl
    · cases h

/-- a string accepted by `time.Parse("15:04:05,000", ·)` has 11 or 12 bytes
    (one- or two-digit hour; nothing may follow the three fraction bytes) -/
theorem parseClock_length {v : Bytes} {n : Nat} (h : parseClock v = some n) :
    v.length = 11 ∨ v.length = 12 := by
  rw [parseClock_stages] at h
  cases g : getnum false v with
  | none => rw [g] at h; cases h
  | some p =>
    obtain ⟨hour, v1⟩ := p
    rw [g] at h
    dsimp only at h
    split at h
    · cases h
    · have := clockTail_length h
      have := getnum_free_length g
      omega

/-- regrouping of the conditions of the closed forms: field by field as `parseClock` tests them,
    or the syntax first and the ranges last -/
theorem and_regroup (e1 a1 b1 r1 e2 a2 b2 r2 p : Bool) :
    ((e1 && a1 && b1 && r1) && (e2 && a2 && b2 && r2) && p) =
      (e1 && a1 && b1 && e2 && a2 && b2 && p && r1 && r2) := by
  cases r1 <;> cases r2 <;> simp [Bool.and_assoc]

/-- closed form of `time.Parse("15:04:05,000", ·)` on 12 bytes -/
def clock12 (h1 h2 c1 m1 m2 c2 s1 s2 p f1 f2 f3 : Nat) : Option Nat :=
  if isDigit h1 && isDigit h2 && c1 == 0x3A && isDigit m1 && isDigit m2 && c2 == 0x3A &&
     isDigit s1 && isDigit s2 && (p == 0x2E || p == 0x2C) &&
     decide (dv h1 * 10 + dv h2 < 24) && decide (dv m1 * 10 + dv m2 < 60) &&
     decide (dv s1 * 10 + dv s2 < 60)
  then (frac3 f1 f2 f3).map fun ms =>
    (((dv h1 * 10 + dv h2) * 60 + (dv m1 * 10 + dv m2)) * 60 + (dv s1 * 10 + dv s2)) * 10 ^ 9
      + ms * 10 ^ 6
  else none

theorem parseClock_12 (h1 h2 c1 m1 m2 c2 s1 s2 p f1 f2 f3 : Nat) :
    parseClock [h1, h2, c1, m1, m2, c2, s1, s2, p, f1, f2, f3]
      = clock12 h1 h2 c1 m1 m2 c2 s1 s2 p f1 f2 f3 := by
  rw [parseClock_stages, getnum_free, clock12]
  cases isDigit h1
  · rfl
  cases isDigit h2
  · -- one-digit hour: eleven bytes are left where ten are needed
    have : clockTail (dv h1) [h2, c1, m1, m2, c2, s1, s2, p, f1, f2, f3] = none :=
      clockTail_none _ (Nat.succ_ne_self 10)
    simp only [↓reduceIte, Bool.false_eq_true, Bool.and_false, Bool.false_and, this, ite_self]
  simp only [↓reduceIte, Bool.true_and, clockTail_10, and_regroup]
  by_cases r1 : dv h1 * 10 + dv h2 < 24
  · simp only [if_neg (Nat.not_le.mpr r1), decide_eq_true r1, Bool.and_true]
  · simp only [if_pos (Nat.le_of_not_lt r1), decide_eq_false r1, Bool.and_false, Bool.false_and,
      Bool.false_eq_true, ↓reduceIte]

/-- closed form of `time.Parse("15:04:05,000", ·)` on 11 bytes (one-digit hour) -/
def clock11 (h1 c1 m1 m2 c2 s1 s2 p f1 f2 f3 : Nat) : Option Nat :=
  if isDigit h1 && c1 == 0x3A && isDigit m1 && isDigit m2 && c2 == 0x3A &&
     isDigit s1 && isDigit s2 && (p == 0x2E || p == 0x2C) &&
     decide (dv m1 * 10 + dv m2 < 60) && decide (dv s1 * 10 + dv s2 < 60)
  then (frac3 f1 f2 f3).map fun ms =>
    ((dv h1 * 60 + (dv m1 * 10 + dv m2)) * 60 + (dv s1 * 10 + dv s2)) * 10 ^ 9 + ms * 10 ^ 6
  else none

theorem parseClock_11 (h1 c1 m1 m2 c2 s1 s2 p f1 f2 f3 : Nat) :
    parseClock [h1, c1, m1, m2, c2, s1, s2, p, f1, f2, f3]
      = clock11 h1 c1 m1 m2 c2 s1 s2 p f1 f2 f3 := by
  rw [parseClock_stages, getnum_free, clock11]
  cases d1 : isDigit h1
  · rfl
  cases d2 : isDigit c1
  · have := dv_le d1
    simp only [↓reduceIte, Bool.false_eq_true, Bool.true_and, clockTail_10, and_regroup,
      if_neg (show ¬ 24 ≤ dv h1 by omega)]
  · -- two-digit hour: nine bytes are left where ten are needed
    have : clockTail (dv h1 * 10 + dv c1) [m1, m2, c2, s1, s2, p, f1, f2, f3] = none :=
      clockTail_none _ (Nat.ne_of_lt (Nat.lt_succ_self 9))
    have hc : (c1 == 0x3A) = false := by
      have := isDigit_le d2
      rw [beq_eq_false_iff_ne]; omega
    simp only [↓reduceIte, hc, Bool.false_eq_true, Bool.and_false, Bool.false_and, this, ite_self]

theorem isDigit_dig {d : Nat} (h : d < 10) : isDigit (48 + d) = true := by
  simp [isDigit]; omega

theorem dv_dig (d : Nat) : dv (48 + d) = d := by simp [dv]

theorem frac3_some (f1 f2 f3 ms : Nat) : frac3 f1 f2 f3 = some ms ↔
    (isDigit f1 = true ∧ isDigit f2 = true ∧ isDigit f3 = true ∧
        ms = dv f1 * 100 + dv f2 * 10 + dv f3) ∨
    (f1 = 0x2B ∧ isDigit f2 = true ∧ isDigit f3 = true ∧ ms = dv f2 * 10 + dv f3) ∨
    (f1 = 0x2D ∧ f2 = 0x30 ∧ f3 = 0x30 ∧ ms = 0) := by
  unfold frac3
  by_cases a : f1 = 0x2B
  · subst a
    have : isDigit 0x2B = false := by decide
    simp [this, eq_comm (a := ms), and_assoc]
  · by_cases b : f1 = 0x2D
    · subst b
      have : isDigit 0x2D = false := by decide
      simp [this, eq_comm (a := ms), and_assoc]
    · by_cases d : (isDigit f1 && isDigit f2 && isDigit f3) = true
      · have d' := d
        simp only [Bool.and_eq_true] at d'
        simp [d, d'.1.1, d'.1.2, d'.2, a, b, eq_comm (a := ms)]
      · have a' : (f1 == 0x2B) = false := beq_eq_false_iff_ne.mpr a
        have b' : (f1 == 0x2D) = false := beq_eq_false_iff_ne.mpr b
        simp only [d, a', b', a, b, Bool.false_and, Bool.false_eq_true, if_false, false_and, or_false,
          reduceCtorEq, false_iff]
        intro h
        exact d (by simp [h.1, h.2.1, h.2.2.1])

theorem ite_map_eq_some {α β : Type} {c : Bool} {o : Option α} {g : α → β} {t : β} :
    (if c = true then o.map g else none) = some t ↔ c = true ∧ ∃ a, o = some a ∧ t = g a := by
  cases c
  · simp
  · cases o <;> simp [eq_comm]

/-- exactly which 12-byte strings `time.Parse("15:04:05,000", ·)` accepts, and with which result -/
theorem parseClock_12_some (h1 h2 c1 m1 m2 c2 s1 s2 p f1 f2 f3 t : Nat) :
    parseClock [h1, h2, c1, m1, m2, c2, s1, s2, p, f1, f2, f3] = some t ↔
    isDigit h1 = true ∧ isDigit h2 = true ∧ c1 = 0x3A ∧ isDigit m1 = true ∧ isDigit m2 = true ∧
    c2 = 0x3A ∧ isDigit s1 = true ∧ isDigit s2 = true ∧ (p = 0x2E ∨ p = 0x2C) ∧
    dv h1 * 10 + dv h2 < 24 ∧ dv m1 * 10 + dv m2 < 60 ∧ dv s1 * 10 + dv s2 < 60 ∧
    ∃ ms, frac3 f1 f2 f3 = some ms ∧
      t = (((dv h1 * 10 + dv h2) * 60 + (dv m1 * 10 + dv m2)) * 60 + (dv s1 * 10 + dv s2)) * 10 ^ 9
          + ms * 10 ^ 6 := by
  rw [parseClock_12, clock12, ite_map_eq_some]
  simp only [Bool.and_eq_true, Bool.or_eq_true, beq_iff_eq, decide_eq_true_eq, and_assoc]

def IsEol (e : Bytes) : Prop := e = [0x0A] ∨ e = [0x0D, 0x0A]

theorem scanLine_eol (l e r : Bytes) (he : IsEol e) (h : ∀ x ∈ l, x ≠ 0x0A ∧ x ≠ 0x0D) :
    scanLine (l ++ (e ++ r)) = (l, r) := by
  have hlast : l.getLast? ≠ some 0x0D := by
    intro hc
    exact (h _ (List.mem_of_getLast? hc)).2 rfl
  rcases he with rfl | rfl
  · simp only [scanLine, List.cons_append, List.nil_append,
      cutNL_line l r (fun x hx => (h x hx).1), dropCR_of_last l hlast]
  · have : l ++ ([0x0D, 0x0A] ++ r) = (l ++ [0x0D]) ++ 0x0A :: r := by simp
    rw [this]
    simp only [scanLine]
    rw [cutNL_line (l ++ [0x0D]) r (by
      intro x hx
      rcases List.mem_append.1 hx with hx | hx
      · exact (h x hx).1
      · simp at hx; omega)]
    simp [dropCR_concat]

theorem indexByte_none_of {c : Nat} {l : Bytes} (h : ∀ x ∈ l, x ≠ c) : indexByte c l = none := by
  induction l with
  | nil => rfl
  | cons a as ih =>
    have ha : (a == c) = false := by rw [beq_eq_false_iff_ne]; exact h a (by simp)
    simp [indexByte, ha, ih (fun x hx => h x (by simp [hx]))]

theorem not_mem_of_indexByte_none {c : Nat} {l : Bytes} (h : indexByte c l = none) : ∀ x ∈ l, x ≠ c := by
  induction l with
  | nil => simp
  | cons a as ih =>
    simp only [indexByte] at h
    by_cases ha : a = c
    · simp [ha] at h
    · have hb : (a == c) = false := by rw [beq_eq_false_iff_ne]; exact ha
      simp [hb] at h
      intro x hx
      rcases List.mem_cons.1 hx with rfl | hx
      · exact ha
      · exact ih h x hx

theorem indexOf_sep_append (l r : Bytes) (h : ∀ x ∈ l, x ≠ 0x20) :
    indexOf sep (l ++ sep ++ r) = some l.length := by
  induction l with
  | nil => simp [sep, indexOf, List.isPrefixOf]
  | cons a as ih =>
    have ha : (0x20 == a) = false := by
      rw [beq_eq_false_iff_ne]; exact fun hc => h a (by simp) hc.symm
    have := ih (fun x hx => h x (by simp [hx]))
    simp only [List.cons_append, indexOf, this]
    simp [sep, List.isPrefixOf, ha]

/-- nine decimal digits `h1 h2 : m1 m2 : s1 s2 , f1 f2 f3` -/
structure Clock where
  h1 : Nat
  h2 : Nat
  m1 : Nat
  m2 : Nat
  s1 : Nat
  s2 : Nat
  f1 : Nat
  f2 : Nat
  f3 : Nat

namespace Clock
def hour (c : Clock) : Nat := c.h1 * 10 + c.h2
def minute (c : Clock) : Nat := c.m1 * 10 + c.m2
def second (c : Clock) : Nat := c.s1 * 10 + c.s2
def milli (c : Clock) : Nat := c.f1 * 100 + c.f2 * 10 + c.f3

def Valid (c : Clock) : Prop :=
  c.h1 < 10 ∧ c.h2 < 10 ∧ c.m1 < 10 ∧ c.m2 < 10 ∧ c.s1 < 10 ∧ c.s2 < 10 ∧
  c.f1 < 10 ∧ c.f2 < 10 ∧ c.f3 < 10 ∧ c.hour < 24 ∧ c.minute < 60 ∧ c.second < 60

instance (c : Clock) : Decidable c.Valid := by unfold Valid; infer_instance

/-- the twelve bytes `h1h2:m1m2:s1s2,f1f2f3` -/
def bytes (c : Clock) : Bytes :=
  [48 + c.h1, 48 + c.h2, 0x3A, 48 + c.m1, 48 + c.m2, 0x3A, 48 + c.s1, 48 + c.s2, 0x2C,
   48 + c.f1, 48 + c.f2, 48 + c.f3]

/-- nanoseconds since midnight -/
def ns (c : Clock) : Nat :=
  ((c.hour * 60 + c.minute) * 60 + c.second) * 10 ^ 9 + c.milli * 10 ^ 6
end Clock

theorem parseClock_bytes (c : Clock) (h : c.Valid) : parseClock c.bytes = some c.ns := by
  obtain ⟨a1, a2, a3, a4, a5, a6, a7, a8, a9, a10, a11, a12⟩ := h
  simp only [Clock.hour, Clock.minute, Clock.second] at a10 a11 a12
  simp only [Clock.bytes, Clock.ns, Clock.hour, Clock.minute, Clock.second, Clock.milli, parseClock_12, clock12,
    frac3, isDigit_dig, dv_dig, a1, a2, a3, a4, a5, a6, a7, a8, a9, a10, a11, a12, decide_true, Bool.and_self,
    beq_self_eq_true, Bool.or_true, ↓reduceIte, Option.map_some]

theorem Clock.bytes_length (c : Clock) : c.bytes.length = 12 := rfl

theorem Clock.mem_bytes {c : Clock} (h : c.Valid) {x : Nat} (hx : x ∈ c.bytes) :
    (48 ≤ x ∧ x ≤ 58) ∨ x = 44 := by
  obtain ⟨a1, a2, a3, a4, a5, a6, a7, a8, a9, -, -, -⟩ := h
  have D : ∀ {d : Nat}, d < 10 → (48 ≤ 48 + d ∧ 48 + d ≤ 58) ∨ 48 + d = 44 :=
    fun hd => Or.inl ⟨Nat.le_add_right 48 _, by omega⟩
  revert x
  simp only [Clock.bytes, List.forall_mem_cons, List.not_mem_nil, false_imp_iff, forall_const]
  exact ⟨D a1, D a2, by decide, D a3, D a4, by decide, D a5, D a6, by decide, D a7, D a8, D a9, trivial⟩

theorem not_dot_line2 {a b : Clock} (ha : a.Valid) (hb : b.Valid) {x : Nat}
    (hx : x ∈ a.bytes ++ sep ++ b.bytes) : x ≠ 0x2E := by
  rcases List.mem_append.1 hx with hx | hx
  · rcases List.mem_append.1 hx with hx | hx
    · have := Clock.mem_bytes ha hx; omega
    · simp only [sep, List.mem_cons, List.not_mem_nil, or_false] at hx; omega
  · have := Clock.mem_bytes hb hx; omega

def line1 (raw : Bytes) : Bytes := (scanLine raw).1
def line2 (raw : Bytes) : Bytes := (scanLine (scanLine raw).2).1
def line3 (raw : Bytes) : Bytes := (scanLine (scanLine (scanLine raw).2).2).1

theorem srt_iff (raw : Bytes) :
    srt raw = true ↔ line1 raw = [0x31] ∧ line2ok (line2 raw) = true ∧ line3 raw ≠ [] := by
  unfold srt line1 line2 line3
  by_cases h1 : (scanLine raw).1 = [0x31]
  · cases line2ok (scanLine (scanLine raw).2).1 <;> simp [h1]
  · simp [h1]

theorem line2ok_sound {l : Bytes} (h : line2ok l = true) :
    l.length = 29 ∧ (∀ x ∈ l, x ≠ 0x2E) ∧
    ∃ a b t0 t1, l = a ++ sep ++ b ∧ a.length = 12 ∧ b.length = 12 ∧
      parseClock a = some t0 ∧ parseClock b = some t1 ∧ t0 ≤ t1 := by
  unfold line2ok at h
  split at h; · simp at h
  rename_i hlen
  split at h; · simp at h
  rename_i hdot
  have hlen : l.length = 29 := by simpa using hlen
  have hdot : indexByte 0x2E l = none := by simpa using hdot
  cases hi : indexOf sep l with
  | none => simp [hi] at h
  | some i =>
    simp only [hi] at h
    cases p0 : parseClock (l.take i) with
    | none => simp [p0] at h
    | some t0 =>
      simp only [p0] at h
      cases p1 : parseClock (l.drop (i + 5)) with
      | none => simp [p1] at h
      | some t1 =>
        simp only [p1] at h
        split at h; · simp at h
        rename_i hle
        have hdec := indexOf_split sep l i hi
        have hl0 := parseClock_length p0
        have hl1 := parseClock_length p1
        have hsl : sep.length = 5 := rfl
        rw [hsl] at hdec
        have hlen' := congrArg List.length hdec
        simp only [List.length_append, hsl] at hlen'
        refine ⟨hlen, not_mem_of_indexByte_none hdot, l.take i, l.drop (i + 5), t0, t1,
          hdec, ?_, ?_, p0, p1, by omega⟩ <;> omega

/-- `Srt` accepts only files whose first line (LF / CRLF stripped as `scanLine` does) is exactly
    `1`, whose second line has exactly 29 bytes, no `.`, and the form `a --> b` where `a` and `b`
    are 12-byte strings accepted by `time.Parse("15:04:05,000", ·)` with `t0 ≤ t1`, and whose
    third line is not empty. -/
theorem srt_sound (raw : Bytes) (h : srt raw = true) :
    line1 raw = [0x31] ∧ (line2 raw).length = 29 ∧ (∀ x ∈ line2 raw, x ≠ 0x2E) ∧
    (∃ a b t0 t1, line2 raw = a ++ sep ++ b ∧ a.length = 12 ∧ b.length = 12 ∧
      parseClock a = some t0 ∧ parseClock b = some t1 ∧ t0 ≤ t1) ∧
    line3 raw ≠ [] := by
  obtain ⟨h1, h2, h3⟩ := (srt_iff raw).1 h
  obtain ⟨a, b, c⟩ := line2ok_sound h2
  exact ⟨h1, a, b, c, h3⟩

/-- a detected file has both of its first two lines terminated inside the input -/
theorem srt_lf (p : Bytes) (h : srt p = true) : 0x0A ∈ p ∧ 0x0A ∈ (scanLine p).2 := by
  obtain ⟨_, h2, h3⟩ := (srt_iff p).1 h
  unfold line2 at h2
  unfold line3 at h3
  constructor
  · by_cases hn : 0x0A ∈ p
    · exact hn
    · rw [scanLine_not_mem p hn] at h2
      exact absurd h2 (by decide)
  · by_cases hn : 0x0A ∈ (scanLine p).2
    · exact hn
    · rw [scanLine_not_mem _ hn] at h3
      exact absurd rfl h3

/-- Appending data never turns a detected SRT file into an undetected one: no side condition is
    needed, because `srt p = true` already forces the first two lines to be complete
    (`srt_lf` / `srt_two_lf`) and the third line to be non-empty. -/
theorem srt_monotone (p s : Bytes) (h : srt p = true) : srt (p ++ s) = true := by
  obtain ⟨m1, m2⟩ := srt_lf p h
  obtain ⟨h1, h2, h3⟩ := (srt_iff p).1 h
  rw [srt_iff]
  unfold line1 line2 line3 at *
  rw [scanLine_append_mem p s m1]; dsimp only
  rw [scanLine_append_mem _ s m2]; dsimp only
  exact ⟨h1, h2, scanLine_fst_append_ne_nil s h3⟩

theorem srt_two_lf (p : Bytes) (h : srt p = true) : 2 ≤ p.count 0x0A := by
  obtain ⟨m1, m2⟩ := srt_lf p h
  have c1 := count_lf_cutNL p m1
  have c2 := count_lf_cutNL (scanLine p).2 m2
  have : (scanLine p).2 = (cutNL p).2 := rfl
  rw [this] at c2
  omega

theorem len_succ {v : Bytes} {n : Nat} (h : v.length = n + 1) :
    ∃ a t, v = a :: t ∧ t.length = n := by
  cases v with
  | nil => simp at h
  | cons a t => exact ⟨a, t, rfl, by simpa using h⟩

theorem length12 {v : Bytes} (h : v.length = 12) :
    ∃ a1 a2 a3 a4 a5 a6 a7 a8 a9 a10 a11 a12, v = [a1, a2, a3, a4, a5, a6, a7, a8, a9, a10, a11, a12] := by
  obtain ⟨a1, v1, rfl, h1⟩ := len_succ h
  obtain ⟨a2, v2, rfl, h2⟩ := len_succ h1
  obtain ⟨a3, v3, rfl, h3⟩ := len_succ h2
  obtain ⟨a4, v4, rfl, h4⟩ := len_succ h3
  obtain ⟨a5, v5, rfl, h5⟩ := len_succ h4
  obtain ⟨a6, v6, rfl, h6⟩ := len_succ h5
  obtain ⟨a7, v7, rfl, h7⟩ := len_succ h6
  obtain ⟨a8, v8, rfl, h8⟩ := len_succ h7
  obtain ⟨a9, v9, rfl, h9⟩ := len_succ h8
  obtain ⟨a10, v10, rfl, h10⟩ := len_succ h9
  obtain ⟨a11, v11, rfl, h11⟩ := len_succ h10
  obtain ⟨a12, v12, rfl, h12⟩ := len_succ h11
  cases v12 with
  | nil => exact ⟨a1, a2, a3, a4, a5, a6, a7, a8, a9, a10, a11, a12, rfl⟩
  | cons _ _ => simp at h12

/-- the bytes of an accepted 12-byte string are digits or one of `: , . + -` -/
theorem parseClock_12_mem {v : Bytes} {t : Nat} (hl : v.length = 12) (h : parseClock v = some t)
    {x : Nat} (hx : x ∈ v) : (48 ≤ x ∧ x ≤ 58) ∨ (43 ≤ x ∧ x ≤ 46) := by
  obtain ⟨a1, a2, a3, a4, a5, a6, a7, a8, a9, a10, a11, a12, rfl⟩ := length12 hl
  obtain ⟨d1, d2, e1, d3, d4, e2, d5, d6, e3, -, -, -, ms, hf, -⟩ := (parseClock_12_some ..).1 h
  have D : ∀ {y : Nat}, isDigit y = true → (48 ≤ y ∧ y ≤ 58) ∨ (43 ≤ y ∧ y ≤ 46) :=
    fun hy => Or.inl ⟨(isDigit_le hy).1, Nat.le_succ_of_le (isDigit_le hy).2⟩
  have hfr : ((48 ≤ a10 ∧ a10 ≤ 58) ∨ (43 ≤ a10 ∧ a10 ≤ 46)) ∧ isDigit a11 = true ∧ isDigit a12 = true := by
    rcases (frac3_some ..).1 hf with ⟨b1, b2, b3, -⟩ | ⟨rfl, b2, b3, -⟩ | ⟨rfl, rfl, rfl, -⟩
    · exact ⟨D b1, b2, b3⟩
    · exact ⟨by decide, b2, b3⟩
    · exact ⟨by decide, by decide, by decide⟩
  revert x
  simp only [List.forall_mem_cons, List.not_mem_nil, false_imp_iff, forall_const]
  subst e1 e2
  exact ⟨D d1, D d2, by decide, D d3, D d4, by decide, D d5, D d6, by omega, hfr.1, D hfr.2.1,
    D hfr.2.2, trivial⟩

/-- the property of the second line that `Srt` tests -/
def Line2Spec (l : Bytes) : Prop :=
  ∃ a b t0 t1, l = a ++ sep ++ b ∧ a.length = 12 ∧ b.length = 12 ∧ (∀ x ∈ l, x ≠ 0x2E) ∧
    parseClock a = some t0 ∧ parseClock b = some t1 ∧ t0 ≤ t1

theorem mem_line2_general {a b : Bytes} {t0 t1 : Nat} (hla : a.length = 12) (hlb : b.length = 12)
    (ha : parseClock a = some t0) (hb : parseClock b = some t1) {x : Nat}
    (hx : x ∈ a ++ sep ++ b) : x ≠ 0x0A ∧ x ≠ 0x0D := by
  rcases List.mem_append.1 hx with hx | hx
  · rcases List.mem_append.1 hx with hx | hx
    · have := parseClock_12_mem hla ha hx; omega
    · simp only [sep, List.mem_cons, List.not_mem_nil, or_false] at hx; omega
  · have := parseClock_12_mem hlb hb hx; omega

theorem line2ok_iff (l : Bytes) : line2ok l = true ↔ Line2Spec l := by
  constructor
  · intro h
    obtain ⟨_, hdot, a, b, t0, t1, e, la, lb, pa, pb, hle⟩ := line2ok_sound h
    exact ⟨a, b, t0, t1, e, la, lb, hdot, pa, pb, hle⟩
  · rintro ⟨a, b, t0, t1, rfl, hla, hlb, hdot, ha, hb, hle⟩
    have hlen : (a ++ sep ++ b).length = 29 := by simp [hla, hlb, sep]
    have hd : indexByte 0x2E (a ++ sep ++ b) = none := indexByte_none_of hdot
    have hidx : indexOf sep (a ++ sep ++ b) = some 12 := by
      rw [indexOf_sep_append a b (fun x hx => by have := parseClock_12_mem hla ha hx; omega), hla]
    have ht : (a ++ sep ++ b).take 12 = a := by
      rw [List.append_assoc]; exact List.take_left' hla
    have hdr : (a ++ sep ++ b).drop (12 + 5) = b := by
      exact List.drop_left' (by simp [hla, sep])
    unfold line2ok
    simp only [hlen, hd, hidx, ht, hdr, ha, hb]
    simp; omega

/-- `Srt`, exactly: first line `1`; second line `a --> b` without `.`, `a` and `b` 12-byte strings
    accepted by `time.Parse("15:04:05,000", ·)` (see `parseClock_12_some` for which these are)
    with `t0 ≤ t1`; third line not empty. -/
theorem srt_spec (raw : Bytes) :
    srt raw = true ↔ line1 raw = [0x31] ∧ Line2Spec (line2 raw) ∧ line3 raw ≠ [] := by
  rw [srt_iff, line2ok_iff]

/-- forward direction for arbitrary accepted spellings (not only canonical ones) -/
theorem srt_forward_general (a b : Bytes) (t0 t1 : Nat) (hla : a.length = 12) (hlb : b.length = 12)
    (hdot : ∀ x ∈ a ++ sep ++ b, x ≠ 0x2E)
    (ha : parseClock a = some t0) (hb : parseClock b = some t1) (hle : t0 ≤ t1)
    (e1 e2 rest : Bytes) (he1 : IsEol e1) (he2 : IsEol e2) (h3 : (scanLine rest).1 ≠ []) :
    srt ([0x31] ++ e1 ++ (a ++ sep ++ b) ++ e2 ++ rest) = true := by
  have e : [0x31] ++ e1 ++ (a ++ sep ++ b) ++ e2 ++ rest
      = [0x31] ++ (e1 ++ ((a ++ sep ++ b) ++ (e2 ++ rest))) := by
    simp only [List.append_assoc]
  rw [e, srt_spec]
  have s1 := scanLine_eol [0x31] e1 ((a ++ sep ++ b) ++ (e2 ++ rest)) he1 (by simp)
  have s2 := scanLine_eol (a ++ sep ++ b) e2 rest he2
    (fun x hx => mem_line2_general hla hlb ha hb hx)
  unfold line1 line2 line3
  rw [s1]; dsimp only
  rw [s2]; dsimp only
  exact ⟨rfl, ⟨a, b, t0, t1, rfl, hla, hlb, hdot, ha, hb, hle⟩, h3⟩

/-- A file whose first line is `1`, whose second line is `T0 --> T1` with canonical clocks
    `T0 ≤ T1`, both lines ended by LF or CRLF, and whose third line is not empty, is an SRT file.
    (The third line IS needed, see `srt_needs_third_line`.) -/
theorem srt_forward (a b : Clock) (ha : a.Valid) (hb : b.Valid) (hle : a.ns ≤ b.ns)
    (e1 e2 rest : Bytes) (he1 : IsEol e1) (he2 : IsEol e2) (h3 : (scanLine rest).1 ≠ []) :
    srt ([0x31] ++ e1 ++ (a.bytes ++ sep ++ b.bytes) ++ e2 ++ rest) = true :=
  srt_forward_general a.bytes b.bytes a.ns b.ns rfl rfl (fun _ hx => not_dot_line2 ha hb hx)
    (parseClock_bytes a ha) (parseClock_bytes b hb) hle e1 e2 rest he1 he2 h3

theorem srt_forward_text (a b : Clock) (ha : a.Valid) (hb : b.Valid) (hle : a.ns ≤ b.ns)
    (e1 e2 : Bytes) (he1 : IsEol e1) (he2 : IsEol e2) (c : Nat) (rest : Bytes)
    (hc : c ≠ 0x0A ∧ c ≠ 0x0D) :
    srt ([0x31] ++ e1 ++ (a.bytes ++ sep ++ b.bytes) ++ e2 ++ c :: rest) = true := by
  apply srt_forward a b ha hb hle e1 e2 (c :: rest) he1 he2
  have hb : (c == 0x0A) = false := by rw [beq_eq_false_iff_ne]; exact hc.1
  intro hn
  simp only [scanLine, cutNL, hb] at hn
  rw [dropCR_eq_nil_iff] at hn
  rcases hn with hn | hn
  · simp at hn
  · simp at hn; exact hc.2 hn.1

/-- `"1\n00:02:16,612 --> 00:02:19,376\n"`: two perfect lines and nothing after them are NOT
    detected, so "followed by anything" is false; `srt_forward` needs `(scanLine rest).1 ≠ []`. -/
theorem srt_needs_third_line :
    srt ([0x31] ++ [0x0A] ++ ((Clock.mk 0 0 0 2 1 6 6 1 2).bytes ++ sep ++ (Clock.mk 0 0 0 2 1 9 3 7 6).bytes)
      ++ [0x0A] ++ []) = false := by decide +kernel

/-- detection is not stable under truncation: a prefix of a detected file that still contains
    both complete lines may be undetected (the third line got cut off) -/
theorem srt_truncation_counterexample :
    ∃ p s, srt (p ++ s) = true ∧ 2 ≤ p.count 0x0A ∧ srt p = false :=
  ⟨[0x31] ++ [0x0A] ++ ((Clock.mk 0 0 0 2 1 6 6 1 2).bytes ++ sep ++ (Clock.mk 0 0 0 2 1 9 3 7 6).bytes) ++ [0x0A],
   [0x78], by decide +kernel⟩

/-- `'00:02:16,612'` -/
example : parseClock [48, 48, 58, 48, 50, 58, 49, 54, 44, 54, 49, 50] = some 136612000000 := by decide +kernel

/-- `'23:59:59,999'` -/
example : parseClock [50, 51, 58, 53, 57, 58, 53, 57, 44, 57, 57, 57] = some 86399999000000 := by decide +kernel

/-- `'1:02:03,004'` one-digit hour -/
example : parseClock [49, 58, 48, 50, 58, 48, 51, 44, 48, 48, 52] = some 3723004000000 := by decide +kernel

/-- `'00:00:00.500'` a period is accepted by time.Parse although the layout says comma -/
example : parseClock [48, 48, 58, 48, 48, 58, 48, 48, 46, 53, 48, 48] = some 500000000 := by decide +kernel

/-- `'00:00:00,+12'` `atoi` takes a sign: +12 ms -/
example : parseClock [48, 48, 58, 48, 48, 58, 48, 48, 44, 43, 49, 50] = some 12000000 := by decide +kernel

/-- `'00:00:00,-00'` minus zero is not negative -/
example : parseClock [48, 48, 58, 48, 48, 58, 48, 48, 44, 45, 48, 48] = some 0 := by decide +kernel

/-- `'00:00:00,-01'` fractional second out of range -/
example : parseClock [48, 48, 58, 48, 48, 58, 48, 48, 44, 45, 48, 49] = none := by decide +kernel

/-- `'24:00:00,000'` -/
example : parseClock [50, 52, 58, 48, 48, 58, 48, 48, 44, 48, 48, 48] = none := by decide +kernel

/-- `'00:60:00,000'` -/
example : parseClock [48, 48, 58, 54, 48, 58, 48, 48, 44, 48, 48, 48] = none := by decide +kernel

/-- `'00:00:60,000'` -/
example : parseClock [48, 48, 58, 48, 48, 58, 54, 48, 44, 48, 48, 48] = none := by decide +kernel

/-- `'00:00:00,0000'` extra text -/
example : parseClock [48, 48, 58, 48, 48, 58, 48, 48, 44, 48, 48, 48, 48] = none := by decide +kernel

/-- `'00:00:00,00'` -/
example : parseClock [48, 48, 58, 48, 48, 58, 48, 48, 44, 48, 48] = none := by decide +kernel

/-- `'00:0:00,000'` minutes need two digits -/
example : parseClock [48, 48, 58, 48, 58, 48, 48, 44, 48, 48, 48] = none := by decide +kernel

/-- `' 00:00:00,000'` -/
example : parseClock [32, 48, 48, 58, 48, 48, 58, 48, 48, 44, 48, 48, 48] = none := by decide +kernel

/-- `'001:00:00,000'` -/
example : parseClock [48, 48, 49, 58, 48, 48, 58, 48, 48, 44, 48, 48, 48] = none := by decide +kernel

/-- `''` -/
example : parseClock [] = none := by decide +kernel

/-- `'1\n00:02:16,612 --> 00:02:19,376\nHello'` -/
example : srt [49, 10, 48, 48, 58, 48, 50, 58, 49, 54, 44, 54, 49, 50, 32, 45, 45, 62, 32, 48, 48, 58, 48, 50, 58, 49, 57, 44, 51, 55, 54, 10, 72, 101, 108, 108, 111] = true := by decide +kernel

/-- `'1\r\n00:02:16,612 --> 00:02:19,376\r\nHello\r\n'` -/
example : srt [49, 13, 10, 48, 48, 58, 48, 50, 58, 49, 54, 44, 54, 49, 50, 32, 45, 45, 62, 32, 48, 48, 58, 48, 50, 58, 49, 57, 44, 51, 55, 54, 13, 10, 72, 101, 108, 108, 111, 13, 10] = true := by decide +kernel

/-- `'1\n00:00:00,000 --> 00:00:00,000\nx'` t0 = t1 -/
example : srt [49, 10, 48, 48, 58, 48, 48, 58, 48, 48, 44, 48, 48, 48, 32, 45, 45, 62, 32, 48, 48, 58, 48, 48, 58, 48, 48, 44, 48, 48, 48, 10, 120] = true := by decide +kernel

/-- `'1\n00:00:00,-00 --> 00:00:00,+12\nx'` signed fraction spellings are detected as SRT -/
example : srt [49, 10, 48, 48, 58, 48, 48, 58, 48, 48, 44, 45, 48, 48, 32, 45, 45, 62, 32, 48, 48, 58, 48, 48, 58, 48, 48, 44, 43, 49, 50, 10, 120] = true := by decide +kernel

/-- `'1\n00:02:16,612 --> 00:02:19,376\n'` no third line: `srt_forward` needs its hypothesis on the rest -/
example : srt [49, 10, 48, 48, 58, 48, 50, 58, 49, 54, 44, 54, 49, 50, 32, 45, 45, 62, 32, 48, 48, 58, 48, 50, 58, 49, 57, 44, 51, 55, 54, 10] = false := by decide +kernel

/-- `'1\n00:02:16,612 --> 00:02:19,376'` -/
example : srt [49, 10, 48, 48, 58, 48, 50, 58, 49, 54, 44, 54, 49, 50, 32, 45, 45, 62, 32, 48, 48, 58, 48, 50, 58, 49, 57, 44, 51, 55, 54] = false := by decide +kernel

/-- `'1\n00:02:16,612 --> 00:02:19,376\n\nHello'` empty third line -/
example : srt [49, 10, 48, 48, 58, 48, 50, 58, 49, 54, 44, 54, 49, 50, 32, 45, 45, 62, 32, 48, 48, 58, 48, 50, 58, 49, 57, 44, 51, 55, 54, 10, 10, 72, 101, 108, 108, 111] = false := by decide +kernel

/-- `'1\n00:02:16,612 --> 00:02:19,376\n\r\nHello'` third line is only CR -/
example : srt [49, 10, 48, 48, 58, 48, 50, 58, 49, 54, 44, 54, 49, 50, 32, 45, 45, 62, 32, 48, 48, 58, 48, 50, 58, 49, 57, 44, 51, 55, 54, 10, 13, 10, 72, 101, 108, 108, 111] = false := by decide +kernel

/-- `'1\n00:02:19,376 --> 00:02:16,612\nx'` t0 > t1 -/
example : srt [49, 10, 48, 48, 58, 48, 50, 58, 49, 57, 44, 51, 55, 54, 32, 45, 45, 62, 32, 48, 48, 58, 48, 50, 58, 49, 54, 44, 54, 49, 50, 10, 120] = false := by decide +kernel

/-- `'1\n00:02:16.612 --> 00:02:19,376\nx'` period -/
example : srt [49, 10, 48, 48, 58, 48, 50, 58, 49, 54, 46, 54, 49, 50, 32, 45, 45, 62, 32, 48, 48, 58, 48, 50, 58, 49, 57, 44, 51, 55, 54, 10, 120] = false := by decide +kernel

/-- `'1\n0:02:16,612 -->  00:02:19,376\nx'` 29 bytes with a one-digit hour -/
example : srt [49, 10, 48, 58, 48, 50, 58, 49, 54, 44, 54, 49, 50, 32, 45, 45, 62, 32, 32, 48, 48, 58, 48, 50, 58, 49, 57, 44, 51, 55, 54, 10, 120] = false := by decide +kernel

/-- `'2\n00:02:16,612 --> 00:02:19,376\nx'` -/
example : srt [50, 10, 48, 48, 58, 48, 50, 58, 49, 54, 44, 54, 49, 50, 32, 45, 45, 62, 32, 48, 48, 58, 48, 50, 58, 49, 57, 44, 51, 55, 54, 10, 120] = false := by decide +kernel

/-- `' 1\n00:02:16,612 --> 00:02:19,376\nx'` -/
example : srt [32, 49, 10, 48, 48, 58, 48, 50, 58, 49, 54, 44, 54, 49, 50, 32, 45, 45, 62, 32, 48, 48, 58, 48, 50, 58, 49, 57, 44, 51, 55, 54, 10, 120] = false := by decide +kernel

/-- `'1\r\r\n00:02:16,612 --> 00:02:19,376\nx'` only one CR is dropped -/
example : srt [49, 13, 13, 10, 48, 48, 58, 48, 50, 58, 49, 54, 44, 54, 49, 50, 32, 45, 45, 62, 32, 48, 48, 58, 48, 50, 58, 49, 57, 44, 51, 55, 54, 10, 120] = false := by decide +kernel

/-- `'1\n00:02:16,612 --> 00:02:19,376 \nx'` 30 bytes -/
example : srt [49, 10, 48, 48, 58, 48, 50, 58, 49, 54, 44, 54, 49, 50, 32, 45, 45, 62, 32, 48, 48, 58, 48, 50, 58, 49, 57, 44, 51, 55, 54, 32, 10, 120] = false := by decide +kernel

/-- the bytes `EF BB BF` and then `'1\n00:02:16,612 --> 00:02:19,376\nx'`: a UTF-8 BOM defeats the detector -/
example : srt [239, 187, 191, 49, 10, 48, 48, 58, 48, 50, 58, 49, 54, 44, 54, 49, 50, 32, 45, 45, 62, 32, 48, 48, 58, 48, 50, 58, 49, 57, 44, 51, 55, 54, 10, 120] = false := by decide +kernel

end Mime.SrtLemmas
