import MimeModel.Model.XmlFull
import MimeModel.Lemmas.ToLower
import MimeModel.Props.C12_Xml
/-
  `charset.FromXML` with the label lower-cased by the full model of `strings.ToLower` (Model/XmlFull.lean):
  what it computes, and that it agrees with the ASCII model (`XmlTok.fromXMLBytes`) on ASCII labels.
-/
namespace Mime.XmlFull
open Mime Mime.MTU Mime.Charset Mime.XmlTok Mime.Lower

theorem fromXMLDeclFull_eq (content : Bytes) :
    fromXMLDeclFull content = goToLower (((firstProcInst (trimLWS content)).map xmlEncoding).getD []) := by
  unfold fromXMLDeclFull
  cases firstProcInst (trimLWS content) <;> rfl

/-- `FromXML` = the declared label if there is one, else `FromPlain` of the (untrimmed) content -/
theorem fromXMLBytesFull_eq (content : Bytes) :
    fromXMLBytesFull content =
      if fromXMLDeclFull content != [] then fromXMLDeclFull content else fromPlain content := by
  unfold fromXMLBytesFull fromXMLFull fromXMLDeclFull
  cases firstProcInst (trimLWS content) <;> rfl

/-- the Full model extends the ASCII one: with the decoder's answer as a parameter, whenever the
    extracted label (`xmlEncoding` of the instruction) is ASCII -/
theorem fromXMLFull_of_ascii_label (content : Bytes) (inst : Option Bytes)
    (h : ∀ i, inst = some i → ∀ b ∈ xmlEncoding i, b < 0x80) :
    fromXMLFull content inst = Charset.fromXML content inst := by
  unfold fromXMLFull Charset.fromXML
  cases inst with
  | none => rfl
  | some i => simp only [goToLower_ascii _ (h i rfl)]

theorem fromXMLDeclFull_of_ascii_label (content : Bytes)
    (h : ∀ i, firstProcInst (trimLWS content) = some i → ∀ b ∈ xmlEncoding i, b < 0x80) :
    fromXMLDeclFull content = fromXMLDecl content := by
  unfold fromXMLDeclFull fromXMLDecl
  cases hi : firstProcInst (trimLWS content) with
  | none => rfl
  | some i => simp only [goToLower_ascii _ (h i hi)]

theorem fromXMLBytesFull_of_ascii_label (content : Bytes)
    (h : ∀ i, firstProcInst (trimLWS content) = some i → ∀ b ∈ xmlEncoding i, b < 0x80) :
    fromXMLBytesFull content = fromXMLBytes content :=
  fromXMLFull_of_ascii_label content _ h

theorem lowerASCII_asc_iff (s : Bytes) : (∀ b ∈ lowerASCII s, b < 0x80) ↔ (∀ b ∈ s, b < 0x80) := by
  unfold lowerASCII
  constructor
  · intro h b hb
    have := h _ (List.mem_map.mpr ⟨b, hb, rfl⟩)
    split at this <;> omega
  · intro h b hb
    obtain ⟨c, hc, rfl⟩ := List.mem_map.mp hb
    have := h c hc
    split
    · rename_i hh; simp at hh; omega
    · exact this

theorem asciiLabel_of_decl (content : Bytes) (h : ∀ b ∈ fromXMLDecl content, b < 0x80) :
    ∀ i, firstProcInst (trimLWS content) = some i → ∀ b ∈ xmlEncoding i, b < 0x80 := by
  intro i hi
  unfold fromXMLDecl at h
  rw [hi] at h
  exact (lowerASCII_asc_iff _).mp h

theorem fromXMLDeclFull_of_ascii {content : Bytes} (h : ∀ b ∈ fromXMLDecl content, b < 0x80) :
    fromXMLDeclFull content = fromXMLDecl content :=
  fromXMLDeclFull_of_ascii_label content (asciiLabel_of_decl content h)

theorem fromXMLBytesFull_of_ascii {content : Bytes} (h : ∀ b ∈ fromXMLDecl content, b < 0x80) :
    fromXMLBytesFull content = fromXMLBytes content :=
  fromXMLBytesFull_of_ascii_label content (asciiLabel_of_decl content h)

/-- C12 (XML 1.0 declaration, byte level) for the Full model: on every document covered by
    `C12.xml_declared_bytes` the Full versions report the label in (ASCII) lower case too -/
theorem xml_declared_bytes_full (lead S L tail rest : Bytes) (q : Nat)
    (hlead : ∀ c ∈ lead, isWS c = true) (hq : q = 0x22 ∨ q = 0x27)
    (hS : ∀ c ∈ S, isXmlSpace c = true)
    (hL : ∀ c ∈ L, MT.isTokenChar c = true ∧ c ≠ 0x27) (hne : L ≠ [])
    (ht : XmlTokLemmas.TailForm tail) :
    fromXMLBytesFull (lead ++ XmlTokLemmas.prologStart ++ [0x20] ++ kwVersionEq ++ [q] ++ v10 ++ [q] ++ S ++
        kwEncodingEq ++ [q] ++ L ++ [q] ++ tail ++ piEnd ++ rest) = lowerASCII L ∧
    fromXMLDeclFull (lead ++ XmlTokLemmas.prologStart ++ [0x20] ++ kwVersionEq ++ [q] ++ v10 ++ [q] ++ S ++
        kwEncodingEq ++ [q] ++ L ++ [q] ++ tail ++ piEnd ++ rest) = lowerASCII L := by
  obtain ⟨h1, h2⟩ := C12.xml_declared_bytes lead S L tail rest q hlead hq hS hL hne ht
  have hasc : ∀ b ∈ lowerASCII L, b < 0x80 :=
    (lowerASCII_asc_iff L).mpr (fun c hc => Nat.lt_trans (isTokenChar_lt c (hL c hc).1) (by decide))
  constructor
  · rw [fromXMLBytesFull_of_ascii (by rw [h2]; exact hasc), h1]
  · rw [fromXMLDeclFull_of_ascii (by rw [h2]; exact hasc), h2]

/-- a label with a byte ≥ 0x80 is reported as `strings.ToLower` leaves it: the answer of the Full model in
    terms of the decoder's instruction (no ASCII restriction) -/
theorem fromXMLBytesFull_declared (content i : Bytes) (hi : firstProcInst (trimLWS content) = some i)
    (hne : xmlEncoding i ≠ []) :
    fromXMLBytesFull content = goToLower (xmlEncoding i) ∧ fromXMLDeclFull content = goToLower (xmlEncoding i) := by
  have hn : goToLower (xmlEncoding i) ≠ [] := fun h => hne ((goToLower_eq_nil _).mp h)
  constructor
  · unfold fromXMLBytesFull fromXMLFull
    rw [hi]
    simp [hn]
  · unfold fromXMLDeclFull
    rw [hi]

end Mime.XmlFull

namespace Mime.XmlFull
open Mime Mime.Lower

-- <?xml version="1.0" encoding="É"?><r/> : the label is reported as é; `XmlTok.fromXMLBytes` (ASCII lower-casing) leaves É
example : fromXMLBytesFull (ofString "<?xml version=\"1.0\" encoding=\"" ++ [0xC3, 0x89] ++ ofString "\"?><r/>") = [0xC3, 0xA9] := by
  rw [fromXMLBytesFull_eq, fromXMLDeclFull_eq, goToLower_eq_fast]
  repeat rw [ofString_ofList]
  decide +kernel
example : XmlTok.fromXMLBytes (ofString "<?xml version=\"1.0\" encoding=\"" ++ [0xC3, 0x89] ++ ofString "\"?><r/>") = [0xC3, 0x89] := by
  repeat rw [ofString_ofList]
  decide +kernel
-- encoding="\xff": three bytes EF BF BD are reported for a one-byte label
example : fromXMLBytesFull (ofString "<?xml version=\"1.0\" encoding=\"" ++ [0xFF] ++ ofString "\"?><r/>") = [0xEF, 0xBF, 0xBD] := by
  rw [fromXMLBytesFull_eq, fromXMLDeclFull_eq, goToLower_eq_fast]
  repeat rw [ofString_ofList]
  decide +kernel
-- encoding="Shift_JIS": an ASCII label
example : fromXMLBytesFull (ofString "<?xml version=\"1.0\" encoding=\"Shift_JIS\"?><a/>") = ofString "shift_jis" := by
  repeat rw [ofString_ofList]
  decide +kernel

end Mime.XmlFull
