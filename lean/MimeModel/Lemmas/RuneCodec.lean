import MimeModel.Model.MediaTypeU
/-
  The UTF-8 codec of the model (`Mime.MTU.decode1`, `runes`, `encodeRune`): what `decode1` can return,
  decoding and encoding as inverses on scalar values, and decoding across an append.
-/
namespace Mime.MTU
open Mime Mime.MT

theorem band {p q : Prop} [Decidable p] [Decidable q] (hp : p) (hq : q) : (decide p && decide q) = true := by simp [hp, hq]
theorem bandf {p q : Prop} [Decidable p] [Decidable q] (h : ¬ (p ∧ q)) : (decide p && decide q) = false := by
  rw [Bool.eq_false_iff]; simpa using h

theorem isCont_iff {b : Nat} : isCont b = true ↔ 0x80 ≤ b ∧ b ≤ 0xBF := by
  simp only [isCont, Bool.and_eq_true, decide_eq_true_eq]

theorem lo3_spec (b0 : Nat) : (b0 = 0xE0 ∧ lo3 b0 = 0xA0) ∨ (b0 ≠ 0xE0 ∧ lo3 b0 = 0x80) := by
  by_cases h : b0 = 0xE0 <;> simp [lo3, h]
theorem hi3_spec (b0 : Nat) : (b0 = 0xED ∧ hi3 b0 = 0x9F) ∨ (b0 ≠ 0xED ∧ hi3 b0 = 0xBF) := by
  by_cases h : b0 = 0xED <;> simp [hi3, h]
theorem lo4_spec (b0 : Nat) : (b0 = 0xF0 ∧ lo4 b0 = 0x90) ∨ (b0 ≠ 0xF0 ∧ lo4 b0 = 0x80) := by
  by_cases h : b0 = 0xF0 <;> simp [lo4, h]
theorem hi4_spec (b0 : Nat) : (b0 = 0xF4 ∧ hi4 b0 = 0x8F) ∨ (b0 ≠ 0xF4 ∧ hi4 b0 = 0xBF) := by
  by_cases h : b0 = 0xF4 <;> simp [hi4, h]

theorem decode1_ascii (b0 : Nat) (t : Bytes) (h : b0 < 0x80) : decode1 b0 t = (b0, t) := by
  simp [decode1, h]

/-! Base-64 digits: a lead byte carries the top digit `x` of the scalar value, each continuation
   byte one further digit. -/

theorem div64 (q z : Nat) (hz : z < 64) : (q * 64 + z) / 64 = q := by
  rw [Nat.add_comm, Nat.add_mul_div_right _ _ (by decide), Nat.div_eq_of_lt hz, Nat.zero_add]

theorem mod64 (q z : Nat) (hz : z < 64) : (q * 64 + z) % 64 = z := by
  rw [Nat.add_comm, Nat.add_mul_mod_self_right, Nat.mod_eq_of_lt hz]

theorem div4096 (r : Nat) : r / 4096 = r / 64 / 64 := (Nat.div_div_eq_div_mul r 64 64).symm
theorem div262144 (r : Nat) : r / 262144 = r / 64 / 64 / 64 := by
  rw [Nat.div_div_eq_div_mul, Nat.div_div_eq_div_mul]

/-- Unicode scalar value (`utf8.ValidRune`) -/
def ValidRune (r : Nat) : Prop := r < 0xD800 ∨ (0xE000 ≤ r ∧ r < 0x110000)

/-- a scalar value and its shortest-form encoding (utf8.go's table), digit by digit -/
inductive Encoded : Nat → Bytes → Prop
  | one {r : Nat} : r < 0x80 → Encoded r [r]
  | two {x y : Nat} : 2 ≤ x → x < 32 → y < 64 → Encoded (x * 64 + y) [0xC0 + x, 0x80 + y]
  | three {x y z : Nat} : x < 16 → y < 64 → z < 64 → (x = 0 → 32 ≤ y) → (x = 13 → y < 32) →
      Encoded ((x * 64 + y) * 64 + z) [0xE0 + x, 0x80 + y, 0x80 + z]
  | four {x y z w : Nat} : x ≤ 4 → y < 64 → z < 64 → w < 64 → (x = 0 → 16 ≤ y) → (x = 4 → y < 16) →
      Encoded (((x * 64 + y) * 64 + z) * 64 + w) [0xF0 + x, 0x80 + y, 0x80 + z, 0x80 + w]

theorem Encoded.valid {r : Nat} {e : Bytes} (h : Encoded r e) : ValidRune r := by
  unfold ValidRune
  cases h <;> omega

theorem Encoded.ascii {r : Nat} {e : Bytes} (h : Encoded r e) (hr : r < 0x80) : e = [r] := by
  cases h <;> first | rfl | omega

theorem Encoded.ne_nil {r : Nat} {e : Bytes} (h : Encoded r e) : e ≠ [] := by
  cases h <;> exact List.cons_ne_nil _ _

theorem Encoded.eq {r : Nat} {e : Bytes} (h : Encoded r e) : encodeRune r = e := by
  cases h with
  | one h1 => simp only [encodeRune, h1, ↓reduceIte]
  | @two x y hx hx' hy =>
    have c1 : ¬ x * 64 + y < 0x80 := by omega
    have c2 : x * 64 + y < 0x800 := by omega
    simp only [encodeRune, c1, c2, ↓reduceIte, div64 x y hy, mod64 x y hy]
  | @three x y z hx hy hz h0 h13 =>
    have c1 : ¬ (x * 64 + y) * 64 + z < 0x80 := by omega
    have c2 : ¬ (x * 64 + y) * 64 + z < 0x800 := by omega
    have c3 : (decide (0xD800 ≤ (x * 64 + y) * 64 + z) && decide ((x * 64 + y) * 64 + z ≤ 0xDFFF)) = false := bandf (by omega)
    have c4 : ¬ (x * 64 + y) * 64 + z > 0x10FFFF := by omega
    have c5 : (x * 64 + y) * 64 + z < 0x10000 := by omega
    simp only [encodeRune, c1, c2, c3, c4, c5, decide_false, Bool.or_self, Bool.false_eq_true, ↓reduceIte,
      div4096, div64 _ z hz, mod64 _ z hz, div64 x y hy, mod64 x y hy]
  | @four x y z w hx hy hz hw h0 h4 =>
    have c1 : ¬ ((x * 64 + y) * 64 + z) * 64 + w < 0x80 := by omega
    have c2 : ¬ ((x * 64 + y) * 64 + z) * 64 + w < 0x800 := by omega
    have c3 : (decide (0xD800 ≤ ((x * 64 + y) * 64 + z) * 64 + w) && decide (((x * 64 + y) * 64 + z) * 64 + w ≤ 0xDFFF)) = false :=
      bandf (by omega)
    have c4 : ¬ ((x * 64 + y) * 64 + z) * 64 + w > 0x10FFFF := by omega
    have c5 : ¬ ((x * 64 + y) * 64 + z) * 64 + w < 0x10000 := by omega
    simp only [encodeRune, c1, c2, c3, c4, c5, decide_false, Bool.or_self, Bool.false_eq_true, ↓reduceIte,
      div262144, div4096, div64 _ w hw, mod64 _ w hw, div64 _ z hz, mod64 _ z hz, div64 x y hy, mod64 x y hy]

theorem Encoded.decode {r : Nat} {e : Bytes} (h : Encoded r e) {b0 : Nat} {t s : Bytes} (he : e ++ s = b0 :: t) :
    decode1 b0 t = (r, s) := by
  have ct : ∀ {y : Nat}, y < 64 → isCont (0x80 + y) = true := fun hy => isCont_iff.mpr (by omega)
  cases h with
  | one h1 => cases he; exact decode1_ascii _ _ h1
  | @two x y hx hx' hy =>
    cases he
    have c1 : ¬ 0xC0 + x < 0x80 := by omega
    have c2 : (decide (0xC2 ≤ 0xC0 + x) && decide (0xC0 + x ≤ 0xDF)) = true := band (by omega) (by omega)
    simp only [List.append_eq, List.cons_append, List.nil_append, decode1, c1, c2, ct hy, ↓reduceIte, Nat.add_sub_cancel_left]
  | @three x y z hx hy hz h0 h13 =>
    cases he
    have c1 : ¬ 0xE0 + x < 0x80 := by omega
    have c2 : (decide (0xC2 ≤ 0xE0 + x) && decide (0xE0 + x ≤ 0xDF)) = false := bandf (by omega)
    have c3 : (decide (0xE0 ≤ 0xE0 + x) && decide (0xE0 + x ≤ 0xEF)) = true := band (by omega) (by omega)
    have c4 : (decide (lo3 (0xE0 + x) ≤ 0x80 + y) && decide (0x80 + y ≤ hi3 (0xE0 + x))) = true := by
      have := lo3_spec (0xE0 + x)
      have := hi3_spec (0xE0 + x)
      exact band (by omega) (by omega)
    simp only [List.append_eq, List.cons_append, List.nil_append, decode1, c1, c2, c3, c4, ct hz, Bool.and_self,
      Bool.false_eq_true, ↓reduceIte, Nat.add_sub_cancel_left]
  | @four x y z w hx hy hz hw h0 h4 =>
    cases he
    have c1 : ¬ 0xF0 + x < 0x80 := by omega
    have c2 : (decide (0xC2 ≤ 0xF0 + x) && decide (0xF0 + x ≤ 0xDF)) = false := bandf (by omega)
    have c3 : (decide (0xE0 ≤ 0xF0 + x) && decide (0xF0 + x ≤ 0xEF)) = false := bandf (by omega)
    have c3' : (decide (0xF0 ≤ 0xF0 + x) && decide (0xF0 + x ≤ 0xF4)) = true := band (by omega) (by omega)
    have c4 : (decide (lo4 (0xF0 + x) ≤ 0x80 + y) && decide (0x80 + y ≤ hi4 (0xF0 + x))) = true := by
      have := lo4_spec (0xF0 + x)
      have := hi4_spec (0xF0 + x)
      exact band (by omega) (by omega)
    simp only [List.append_eq, List.cons_append, List.nil_append, decode1, c1, c2, c3, c3', c4, ct hz, ct hw, Bool.and_self,
      Bool.false_eq_true, ↓reduceIte, Nat.add_sub_cancel_left]

theorem exists_add_of_isCont {b : Nat} (h : isCont b = true) : ∃ y, y < 64 ∧ b = 0x80 + y :=
  ⟨b - 0x80, by have := isCont_iff.mp h; omega, by have := isCont_iff.mp h; omega⟩

theorem decode1_spec (b0 : Nat) (t : Bytes) :
    (∃ e, Encoded (decode1 b0 t).1 e ∧ b0 :: t = e ++ (decode1 b0 t).2) ∨ (0x80 ≤ b0 ∧ decode1 b0 t = (0xFFFD, t)) := by
  fun_cases decode1 b0 t
  case case1 h => exact .inl ⟨_, .one h, rfl⟩
  case case2 _ h b1 t1 hc =>
    rw [Bool.and_eq_true, decide_eq_true_eq, decide_eq_true_eq] at h
    obtain ⟨x, rfl⟩ : ∃ x, b0 = 0xC0 + x := ⟨b0 - 0xC0, by omega⟩
    obtain ⟨y, hy, rfl⟩ := exists_add_of_isCont hc
    rw [Nat.add_sub_cancel_left, Nat.add_sub_cancel_left]
    exact .inl ⟨_, .two (by omega) (by omega) hy, rfl⟩
  case case5 _ _ h b1 b2 t2 hc =>
    simp only [Bool.and_eq_true, decide_eq_true_eq] at h hc
    obtain ⟨x, rfl⟩ : ∃ x, b0 = 0xE0 + x := ⟨b0 - 0xE0, by omega⟩
    have := lo3_spec (0xE0 + x)
    have := hi3_spec (0xE0 + x)
    obtain ⟨y, hy, rfl⟩ := exists_add_of_isCont (b := b1) (isCont_iff.mpr (by omega))
    obtain ⟨z, hz, rfl⟩ := exists_add_of_isCont hc.2
    simp only [Nat.add_sub_cancel_left]
    exact .inl ⟨_, .three (by omega) hy hz (by omega) (by omega), rfl⟩
  case case8 _ _ _ h b1 b2 b3 t3 hc =>
    simp only [Bool.and_eq_true, decide_eq_true_eq] at h hc
    obtain ⟨x, rfl⟩ : ∃ x, b0 = 0xF0 + x := ⟨b0 - 0xF0, by omega⟩
    have := lo4_spec (0xF0 + x)
    have := hi4_spec (0xF0 + x)
    obtain ⟨y, hy, rfl⟩ := exists_add_of_isCont (b := b1) (isCont_iff.mpr (by omega))
    obtain ⟨z, hz, rfl⟩ := exists_add_of_isCont hc.1.2
    obtain ⟨w, hw, rfl⟩ := exists_add_of_isCont hc.2
    simp only [Nat.add_sub_cancel_left]
    exact .inl ⟨_, .four (by omega) hy hz hw (by omega) (by omega), rfl⟩
  -- every other way out of `decode1` is RuneError, width 1
  all_goals exact .inr ⟨Nat.le_of_not_lt ‹_›, rfl⟩

theorem decode1_suffix (b0 : Nat) (t : Bytes) : (decode1 b0 t).2 <:+ t := by
  rcases decode1_spec b0 t with ⟨e, he, heq⟩ | ⟨_, h⟩
  · cases e with
    | nil => exact absurd rfl he.ne_nil
    | cons c e' => exact ⟨e', (List.cons.inj heq).2.symm⟩
  · rw [h]; exact List.suffix_refl _

theorem decode1_len (b0 : Nat) (t : Bytes) : (decode1 b0 t).2.length ≤ t.length :=
  (decode1_suffix b0 t).length_le

theorem decode1_encode (b0 : Nat) (t : Bytes) (r : Nat) (rest : Bytes) (hd : decode1 b0 t = (r, rest)) (h : r ≠ 0xFFFD) :
    b0 :: t = encodeRune r ++ rest := by
  rcases decode1_spec b0 t with ⟨e, he, heq⟩ | ⟨_, h'⟩
  · rw [hd] at he heq
    rw [he.eq]
    exact heq
  · rw [hd] at h'
    exact absurd (congrArg Prod.fst h') h

theorem decode1_valid (b0 : Nat) (t : Bytes) : ValidRune (decode1 b0 t).1 := by
  rcases decode1_spec b0 t with ⟨e, he, _⟩ | ⟨_, h⟩
  · exact he.valid
  · rw [h]; exact (Or.inr ⟨by decide, by decide⟩ : ValidRune 0xFFFD)

theorem encodeRune_spec (r : Nat) (hv : ValidRune r) : Encoded r (encodeRune r) := by
  have key : ∀ e, Encoded r e → Encoded r (encodeRune r) := fun e h => h.eq ▸ h
  unfold ValidRune at hv
  by_cases h1 : r < 0x80
  · exact key _ (.one h1)
  · by_cases h2 : r < 0x800
    · obtain ⟨x, y, hy, rfl⟩ : ∃ x y, y < 64 ∧ r = x * 64 + y :=
        ⟨r / 64, r % 64, Nat.mod_lt _ (by decide), (Nat.div_add_mod' r 64).symm⟩
      exact key _ (.two (by omega) (by omega) hy)
    · by_cases h3 : r < 0x10000
      · obtain ⟨x, y, z, hy, hz, rfl⟩ : ∃ x y z, y < 64 ∧ z < 64 ∧ r = (x * 64 + y) * 64 + z :=
          ⟨r / 64 / 64, r / 64 % 64, r % 64, Nat.mod_lt _ (by decide), Nat.mod_lt _ (by decide),
            by rw [Nat.div_add_mod', Nat.div_add_mod']⟩
        exact key _ (.three (by omega) hy hz (by omega) (by omega))
      · obtain ⟨x, y, z, w, hy, hz, hw, rfl⟩ : ∃ x y z w, y < 64 ∧ z < 64 ∧ w < 64 ∧ r = ((x * 64 + y) * 64 + z) * 64 + w :=
          ⟨r / 64 / 64 / 64, r / 64 / 64 % 64, r / 64 % 64, r % 64, Nat.mod_lt _ (by decide), Nat.mod_lt _ (by decide),
            Nat.mod_lt _ (by decide), by rw [Nat.div_add_mod', Nat.div_add_mod', Nat.div_add_mod']⟩
        exact key _ (.four (by omega) hy hz hw (by omega) (by omega))

/-- decoding undoes encoding (`utf8.DecodeRune(utf8.AppendRune(nil, r)) = r` for scalar values) -/
theorem decode1_of_encode (r : Nat) (hv : ValidRune r) (s : Bytes) :
    ∃ b0 t, encodeRune r ++ s = b0 :: t ∧ decode1 b0 t = (r, s) := by
  have h := encodeRune_spec r hv
  cases he : encodeRune r with
  | nil => exact absurd he h.ne_nil
  | cons b0 e' => exact ⟨b0, e' ++ s, rfl, h.decode (he ▸ rfl)⟩

/-- induction along `range`: from what follows the first rune to the whole string -/
theorem rune_induction {motive : Bytes → Prop} (nil : motive [])
    (cons : ∀ b0 t, motive (decode1 b0 t).2 → motive (b0 :: t)) (s : Bytes) : motive s := by
  generalize hn : s.length = n
  induction n using Nat.strongRecOn generalizing s with
  | _ n ih =>
    cases s with
    | nil => exact nil
    | cons b0 t =>
      subst hn
      exact cons b0 t (ih _ (Nat.lt_succ_of_le (decode1_len b0 t)) _ rfl)

theorem runesF_fuel (s : Bytes) : ∀ f, s.length ≤ f → runesF f s = runesF s.length s := by
  induction s using rune_induction with
  | nil => intro f _; cases f <;> rfl
  | cons b0 t ih =>
    intro f hf
    obtain ⟨f, rfl⟩ : ∃ f', f = f' + 1 := ⟨f - 1, by rw [List.length_cons] at hf; omega⟩
    have hl := decode1_len b0 t
    simp only [List.length_cons, runesF]
    rw [ih f (by rw [List.length_cons] at hf; omega), ih t.length hl]

theorem runes_nil : runes [] = [] := rfl

theorem runes_cons (b0 : Nat) (t : Bytes) : runes (b0 :: t) = (decode1 b0 t).1 :: runes (decode1 b0 t).2 := by
  unfold runes
  simp only [List.length_cons, runesF]
  rw [runesF_fuel _ _ (decode1_len b0 t)]

theorem runes_valid (s : Bytes) : ∀ r ∈ runes s, ValidRune r := by
  induction s using rune_induction with
  | nil => intro r hr; cases hr
  | cons b0 t ih =>
    intro r hr
    rw [runes_cons] at hr
    rcases List.mem_cons.mp hr with rfl | hr
    · exact decode1_valid b0 t
    · exact ih r hr

theorem runes_encodeRune (r : Nat) (hv : ValidRune r) (s : Bytes) : runes (encodeRune r ++ s) = r :: runes s := by
  obtain ⟨b0, t, e, hd⟩ := decode1_of_encode r hv s
  rw [e, runes_cons, hd]

theorem runes_encode : ∀ (rs : List Nat), (∀ r ∈ rs, ValidRune r) → ∀ s, runes (rs.flatMap encodeRune ++ s) = rs ++ runes s := by
  intro rs
  induction rs with
  | nil => intro _ s; rfl
  | cons r rs ih =>
    intro hv s
    rw [List.flatMap_cons, List.append_assoc, runes_encodeRune r (hv r (List.mem_cons_self ..)),
      ih (fun x hx => hv x (List.mem_cons_of_mem _ hx)) s]
    rfl

theorem decode1_nil (b0 : Nat) (h : 0x80 ≤ b0) : decode1 b0 [] = (0xFFFD, []) := by
  have h' : ¬ b0 < 0x80 := by omega
  unfold decode1
  simp only [h', ↓reduceIte]
  repeat' split
  all_goals rfl

theorem decode1_lt (b0 : Nat) (t : Bytes) (h : (decode1 b0 t).1 < 0x80) : b0 < 0x80 := by
  rcases decode1_spec b0 t with ⟨e, he, heq⟩ | ⟨_, h'⟩
  · rw [he.ascii h] at heq
    exact (List.cons.inj heq).1 ▸ h
  · rw [h'] at h
    exact absurd (show 0xFFFD < 0x80 from h) (by decide)

theorem decode1_snd_nil_ascii (b0 : Nat) (t : Bytes) (h : b0 < 0x80) (h2 : (decode1 b0 t).2 = []) : t = [] := by
  rw [decode1_ascii b0 t h] at h2
  exact h2

theorem runes_eq_nil (p : Bytes) (h : runes p = []) : p = [] := by
  cases p with
  | nil => rfl
  | cons b0 t => rw [runes_cons] at h; cases h

theorem decode1_encode_all (b0 : Nat) (t : Bytes) (h2 : (decode1 b0 t).2 = []) (hne : (decode1 b0 t).1 ≠ 0xFFFD) :
    b0 :: t = encodeRune (decode1 b0 t).1 := by
  cases hd : decode1 b0 t with
  | mk r rest =>
    rw [hd] at h2 hne
    simp only at h2 hne
    subst h2
    have := decode1_encode b0 t r [] hd hne
    rwa [List.append_nil] at this

/-! ### decoding across an append

  UTF-8 is self-synchronising: a string can be cut in front of any byte that is not a
  continuation byte without changing how either part decodes. -/

def StartOK (b : Bytes) : Prop := ∀ c ∈ b.head?, isCont c = false

theorem acc3_cont (b0 c : Nat) (h : isCont c = false) : (decide (lo3 b0 ≤ c) && decide (c ≤ hi3 b0)) = false := by
  have := lo3_spec b0
  have := hi3_spec b0
  rw [Bool.eq_false_iff, Ne, isCont_iff] at h
  exact bandf (by omega)

theorem acc4_cont (b0 c : Nat) (h : isCont c = false) : (decide (lo4 b0 ≤ c) && decide (c ≤ hi4 b0)) = false := by
  have := lo4_spec b0
  have := hi4_spec b0
  rw [Bool.eq_false_iff, Ne, isCont_iff] at h
  exact bandf (by omega)

theorem decode1_append (b0 : Nat) (t b : Bytes) (hb : StartOK b) :
    decode1 b0 (t ++ b) = ((decode1 b0 t).1, (decode1 b0 t).2 ++ b) := by
  have hc : ∀ c b', b = c :: b' → isCont c = false := fun c b' e => hb c (by simp [e])
  unfold decode1
  split
  · rfl
  · split
    · cases t with
      | nil =>
        cases b with
        | nil => rfl
        | cons c b' => simp [hc c b' rfl]
      | cons b1 t1 =>
        simp only [List.cons_append]
        split <;> rfl
    · split
      · rcases t with _ | ⟨b1, _ | ⟨b2, t2⟩⟩
        · rcases b with _ | ⟨c, _ | ⟨c2, b'⟩⟩
          · rfl
          · rfl
          · simp [acc3_cont b0 c (hc c _ rfl)]
        · rcases b with _ | ⟨c, b'⟩
          · rfl
          · simp [hc c b' rfl]
        · simp only [List.cons_append]
          split <;> rfl
      · split
        · rcases t with _ | ⟨b1, _ | ⟨b2, _ | ⟨b3, t3⟩⟩⟩
          · rcases b with _ | ⟨c, _ | ⟨c2, _ | ⟨c3, b'⟩⟩⟩
            · rfl
            · rfl
            · rfl
            · simp [acc4_cont b0 c (hc c _ rfl)]
          · rcases b with _ | ⟨c, _ | ⟨c2, b'⟩⟩
            · rfl
            · rfl
            · simp [hc c _ rfl]
          · rcases b with _ | ⟨c, b'⟩
            · rfl
            · simp [hc c _ rfl]
          · simp only [List.cons_append]
            split <;> rfl
        · rfl

theorem runes_append' (a b : Bytes) (hb : StartOK b) : runes (a ++ b) = runes a ++ runes b := by
  induction a using rune_induction with
  | nil => rfl
  | cons b0 t ih =>
    rw [List.cons_append, runes_cons, runes_cons, decode1_append b0 t b hb, ih]
    rfl

theorem startOK_cons (c : Nat) (cs : Bytes) (h : isCont c = false) : StartOK (c :: cs) := by
  intro x hx
  cases hx
  exact h

end Mime.MTU
