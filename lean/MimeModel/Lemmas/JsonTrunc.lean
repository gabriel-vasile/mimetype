import MimeModel.Lemmas.C10Base
import MimeModel.Props.C08
/-
  C10 on a *truncated* header: when only the first `lim` bytes of an RFC 8259 document are
  examined and the member that decides a query lies completely inside them, the sub-type
  detector still answers "yes".

  Route: `querySatisfied` is never reset once set; `Decided` is a grammar over the bytes that follow
  an opening `{`, saying "complete members, one of which decides a query; then anything"; on such
  bytes `objectLoop` (the model of parser.go's consumeObject) sets the flag, whatever its result.
-/
namespace Mime.JsonTrunc
open Mime Mime.Json Mime.Gen.Json Mime.Spec Mime.JsonQuery Mime.JsonLeaf Mime.JsonForward Mime.JsonPrefix

abbrev Query := Mime.Gen.Json.Query

theorem applyQuery_mono (q : Option Query) (vb : Bytes) {s : PState} (h : s.querySatisfied = true) :
    (applyQuery q vb s).querySatisfied = true := by
  cases q with
  | none => exact h
  | some q =>
    simp only [applyQuery]
    split
    · rfl
    · split
      · rfl
      · exact h

theorem finishAny_mono (nq : Bool) (lvl t : Nat) {res : Option Bytes × PState} (h : res.2.querySatisfied = true) :
    (finishAny nq lvl t res).2.querySatisfied = true := by
  obtain ⟨k, e⟩ := finishAny_snd nq lvl t res
  rw [e]
  exact (setQ_qs _ nq).trans (by rw [setFirst_qs, h, Bool.or_true])

variable (qs : List Query) (cap : Nat)

/-- a scanner that never resets `querySatisfied` -/
def KeepsFlag (G : Scan) : Prop := ∀ (y : Bytes) (s : PState), s.querySatisfied = true → (G y s).2.querySatisfied = true

def MonoAny (f : Nat) : Prop := ∀ lvl : Nat, KeepsFlag (consumeAny qs cap f lvl)
def MonoArr (f : Nat) : Prop := ∀ lvl : Nat, KeepsFlag (arrayLoop qs cap f lvl)
def MonoObj (f : Nat) : Prop := ∀ lvl : Nat, KeepsFlag (objectLoop qs cap f lvl)

section
variable {qs cap} {F : Nat}

theorem kindScan_keeps (hA : MonoArr qs cap F) (hO : MonoObj qs cap F) (L : Nat) (k : Kind) :
    KeepsFlag (kindScan qs cap F L k) := by
  intro y s h
  by_cases hk : k ≠ .arr ∧ k ≠ .obj
  · exact (kindScan_scalar qs cap F L k hk y s).2.trans h
  cases k with
  | arr =>
    cases y with
    | nil => exact h
    | cons _ cs =>
      simp only [kindScan]
      split
      · exact h
      · exact hA _ _ _ h
  | obj =>
    cases y with
    | nil => exact h
    | cons _ cs => exact hO _ _ _ h
  | _ => exact absurd (by decide) hk

theorem mono_any_step (hA : MonoArr qs cap F) (hO : MonoObj qs cap F) : MonoAny qs cap (F + 1) := by
  intro lvl b s h
  rw [consumeAny_eq]
  split
  · exact h
  · rw [spaceScan_val]
    cases J.skipWs b with
    | nil => exact h
    | cons c cs => exact finishAny_mono _ _ _ (kindScan_keeps hA hO lvl _ _ _ h)

theorem mono_arr_step (hV : MonoAny qs cap F) (hA : MonoArr qs cap F) : MonoArr qs cap (F + 1) := by
  intro lvl b s h
  rw [arrayLoop_eq, spaceScan_val]
  cases J.skipWs b with
  | nil => exact h
  | cons c cs =>
    have h1 : (s.bump (b.length - (c :: cs).length)).querySatisfied = true := h
    generalize s.bump (b.length - (c :: cs).length) = s1 at h1
    simp only [arrHead]
    split
    · exact h1
    · have h2 := hV lvl (c :: cs) s1 h1
      generalize consumeAny qs cap F lvl (c :: cs) s1 = res at h2
      obtain ⟨o, s2⟩ := res
      cases o with
      | none => exact h2
      | some r =>
        cases r with
        | nil => exact h2
        | cons d ds =>
          simp only [arrAfter]
          split
          · exact hA _ _ _ h2
          · split <;> exact h2

theorem objAfterVal_flag (hO : MonoObj qs cap F) (L : Nat) (qm : Option Query) {tag : Bytes} (r2 : Bytes) (s6 : PState)
    (h : (applyQuery qm tag s6).querySatisfied = true) :
    (objAfterVal qs cap F L qm tag r2 s6).2.querySatisfied = true := by
  cases r2 with
  | nil => exact h
  | cons g gs =>
    simp only [objAfterVal]
    split
    · exact hO _ _ _ h
    · split <;> exact h

theorem objValue_flag (hO : MonoObj qs cap F) (L : Nat) (qm : Option Query) (e : Nat) (es : Bytes) {s5 : PState}
    (h : (consumeAny qs cap F L (e :: es) s5).2.querySatisfied = true) :
    (objValue qs cap F L qm (e :: es) s5).2.querySatisfied = true := by
  simp only [objValue]
  generalize consumeAny qs cap F L (e :: es) s5 = res at h
  obtain ⟨o, s6⟩ := res
  cases o with
  | none => exact h
  | some r2 => exact objAfterVal_flag hO L qm r2 s6 (applyQuery_mono _ _ h)

theorem mono_obj_step (hV : MonoAny qs cap F) (hO : MonoObj qs cap F) : MonoObj qs cap (F + 1) := by
  intro lvl b s h
  rw [objectLoop_eq, spaceScan_val]
  cases J.skipWs b with
  | nil => exact h
  | cons c cs =>
    have h1 : (s.bump (b.length - (c :: cs).length)).querySatisfied = true := h
    generalize s.bump (b.length - (c :: cs).length) = s1 at h1
    simp only [objHead]
    split
    · exact h1
    split
    · exact h1
    have h2 := (consumeString_fields cs .norm s1.bump).2.trans h1
    generalize consumeString .norm cs s1.bump = res at h2
    obtain ⟨o, s2⟩ := res
    cases o with
    | none => exact h2
    | some r =>
      simp only [objAfterKey]
      rw [spaceScan_val]
      cases J.skipWs r with
      | nil => exact h2
      | cons d ds =>
        simp only [objColon]
        split
        · exact h2
        · rw [spaceScan_val]
          cases J.skipWs ds with
          | nil => exact h2
          | cons e es => exact objValue_flag hO lvl _ e es (hV lvl _ _ h2)

end

/-- once `querySatisfied` is set, no call of the scanner resets it -/
theorem flag_mono : ∀ f, MonoAny qs cap f ∧ MonoArr qs cap f ∧ MonoObj qs cap f := by
  intro f
  induction f with
  | zero => exact ⟨fun _ _ _ h => h, fun _ _ _ h => h, fun _ _ _ h => h⟩
  | succ f ih =>
    obtain ⟨hV, hA, hO⟩ := ih
    exact ⟨mono_any_step hA hO, mono_arr_step hV hA, mono_obj_step hV hO⟩

theorem any_obj_flag (F L : Nat) (P b : Bytes) (s : PState) (hopen : J.skipWs P = 0x7B :: b)
    (hpass : (cap != 0 && decide (L > cap)) = false)
    (h : ∀ s1 : PState, s1.currPath = s.currPath → (objectLoop qs cap F (L + 1) b s1).2.querySatisfied = true) :
    (consumeAny qs cap (F + 1) L P s).2.querySatisfied = true := by
  rw [consumeAny_eq]
  simp only [hpass, Bool.false_eq_true, ↓reduceIte]
  rw [spaceScan_val, hopen]
  exact finishAny_mono _ _ _ (h _ rfl)

/-- the scanner on a complete RFC 8259 value (followed by a delimiter if it is a number), with the
    fuels of the two sides decoupled -/
theorem value_run (hne : qs.isEmpty = false) (hq : ValsQuoted qs) (f F L : Nat) (ds : Bytes) (v : J.JVal) (r2 : Bytes)
    (hv : J.value true f ds = .ok v r2) (hd : v = .num → Delim r2) (hcap : CapOK cap L (J.depth v))
    (hF : 2 * ds.length + 1 ≤ F) : ValueRun qs cap F L ds v r2 := by
  obtain ⟨G, hG⟩ : ∃ G, max f F = G + 1 := ⟨max f F - 1, by have := Nat.le_max_right f F; omega⟩
  have hv' := SpecComplete.value_mono_le true ds v r2 f (G + 1) (by rw [← hG]; exact Nat.le_max_left _ _) hv
  refine ⟨(forward_valueN qs cap (G + 1) L ds v r2 PState.fresh hv' hd hcap).2.2, fun s => ?_⟩
  rw [consumeAny_fuel qs cap L ds s F (G + 1) hF (by have := Nat.le_max_right f F; omega)]
  have hrest := (forward_valueN qs cap (G + 1) L ds v r2 s hv' hd hcap).1
  have hfields := (query_all' qs hne hq cap (G + 1)).1 L ds v r2 s hv' hcap
  exact ⟨_, Prod.ext hrest rfl, hfields⟩

/-- `Decided qs n path b`: `b` = the bytes after a `{` whose key path is `path`. They consist of
    complete members `"key" : value ,` and then a member that decides a query of `qs`: either its
    complete value does (`hit`), or its value is an object whose opening `{` is followed by
    `Decided` bytes (`inner`; that object need not be complete).  What follows the deciding
    member is arbitrary (e.g. the cut-off remainder of the document), except that after a deciding
    *number* it must not continue the number literal (`Delim`: no digit, `.`, `e`, `E`).  `n` bounds the
    nesting depth of the complete member values (so that the recursion cap can be stated). -/
inductive Decided (qs : List Query) : Nat → List Bytes → Bytes → Prop
  | hit (n : Nat) (path : List Bytes) (b cs key r ds : Bytes) (v : J.JVal) (r2 : Bytes) :
      J.skipWs b = 0x22 :: cs → J.str true cs [] = .ok key r → J.skipWs r = 0x3A :: ds →
      (∃ f, J.value true f ds = .ok v r2) → (v = .num → Delim r2) → J.depth v ≤ n →
      (matchHere qs (path ++ [key]) v || qsatV qs (path ++ [key]) v) = true → Decided qs n path b
  | skip (n : Nat) (path : List Bytes) (b cs key r ds : Bytes) (v : J.JVal) (r2 b' : Bytes) :
      J.skipWs b = 0x22 :: cs → J.str true cs [] = .ok key r → J.skipWs r = 0x3A :: ds →
      (∃ f, J.value true f ds = .ok v r2) → J.depth v ≤ n → J.skipWs r2 = 0x2C :: b' →
      Decided qs n path b' → Decided qs n path b
  | inner (n : Nat) (path : List Bytes) (b cs key r ds b' : Bytes) :
      J.skipWs b = 0x22 :: cs → J.str true cs [] = .ok key r → J.skipWs r = 0x3A :: ds →
      J.skipWs ds = 0x7B :: b' → Decided qs n (path ++ [key]) b' → Decided qs (n + 1) path b

theorem Decided.mono {qs : List Query} {n : Nat} {path : List Bytes} {b : Bytes} (h : Decided qs n path b) :
    ∀ m, n ≤ m → Decided qs m path b := by
  induction h with
  | hit n path b cs key r ds v r2 h1 h2 h3 h4 h5 h6 h7 =>
    intro m hm; exact .hit m path b cs key r ds v r2 h1 h2 h3 h4 h5 (by omega) h7
  | skip n path b cs key r ds v r2 b' h1 h2 h3 h4 h5 h6 _ ih =>
    intro m hm; exact .skip m path b cs key r ds v r2 b' h1 h2 h3 h4 (by omega) h6 (ih m hm)
  | inner n path b cs key r ds b' h1 h2 h3 h4 _ ih =>
    intro m hm
    obtain ⟨m', rfl⟩ : ∃ m', m = m' + 1 := ⟨m - 1, by omega⟩
    exact .inner m' path b cs key r ds b' h1 h2 h3 h4 (ih m' (by omega))

theorem member_head_len {b cs key r ds : Bytes}
    (h1 : J.skipWs b = 0x22 :: cs) (h2 : J.str true cs [] = .ok key r) (h3 : J.skipWs r = 0x3A :: ds) :
    ds.length + 3 ≤ b.length := by
  have l1 := skipWs_length_le b
  have l2 := (str_forward true cs [] key r PState.fresh h2).2
  have l3 := skipWs_length_le r
  rw [h1] at l1
  rw [h3] at l3
  simp only [List.length_cons] at l1 l3
  omega

theorem member_run (hne : qs.isEmpty = false) (hq : ValsQuoted qs) (F L : Nat) (b cs key r ds : Bytes) (v : J.JVal)
    (r2 : Bytes) (s : PState)
    (h1 : J.skipWs b = 0x22 :: cs) (h2 : J.str true cs [] = .ok key r) (h3 : J.skipWs r = 0x3A :: ds)
    (h4 : ∃ f, J.value true f ds = .ok v r2) (hd : v = .num → Delim r2) {n : Nat} (hc : CapOK cap L n) (hdep : J.depth v ≤ n)
    (hF : 2 * b.length + 2 ≤ F + 1) :
    MemberDone qs cap F L b s key v r2 ∧ r2.length + 4 ≤ b.length := by
  obtain ⟨f, hv⟩ := h4
  have l1 := member_head_len h1 h2 h3
  have l4 := skipWs_length_le ds
  have hrun := value_run qs cap hne hq f F L (J.skipWs ds) v r2 (by rw [← value_skipWs]; exact hv) hd
    (capOK_le hc (by omega)) (by omega)
  exact ⟨member_step qs hq cap F L b cs key r ds v r2 s f h1 h2 h3 hv hrun, by have := hrun.1; omega⟩

/-- **the scanner sets the flag on `Decided` input**, whatever follows the deciding member and
    whatever the scanner's result -/
theorem decided_sets (hne : qs.isEmpty = false) (hq : ValsQuoted qs) {n : Nat} {path : List Bytes} {b : Bytes}
    (h : Decided qs n path b) :
    ∀ (F L : Nat) (s : PState), s.currPath = path → (cap = 0 ∨ L + n ≤ cap) → 2 * b.length + 2 ≤ F →
      (objectLoop qs cap F L b s).2.querySatisfied = true := by
  induction h with
  | hit n path b cs key r ds v r2 h1 h2 h3 h4 h5 h6 h7 =>
    intro F L s hp hc hF
    obtain ⟨F', rfl⟩ : ∃ F', F = F' + 1 := ⟨F - 1, by omega⟩
    obtain ⟨⟨qm, tag, s6, e, _, m2⟩, _⟩ := member_run qs cap hne hq F' L b cs key r ds v r2 s h1 h2 h3 h4 h5 hc h6 hF
    rw [e]
    apply objAfterVal_flag (flag_mono qs cap F').2.2
    rw [m2, hp, Bool.or_assoc, Bool.or_comm (qsatV ..), h7, Bool.or_true]
  | skip n path b cs key r ds v r2 b' h1 h2 h3 h4 h5 h6 _ ih =>
    intro F L s hp hc hF
    obtain ⟨F', rfl⟩ : ∃ F', F = F' + 1 := ⟨F - 1, by omega⟩
    obtain ⟨⟨qm, tag, s6, e, m1, _⟩, hl⟩ := member_run qs cap hne hq F' L b cs key r ds v r2 s h1 h2 h3 h4
      (fun _ => delim_of_skipWs r2 _ _ h6 (Or.inl rfl)) hc h5 hF
    rw [e, h6]
    simp only [objAfterVal, beq_self_eq_true, ↓reduceIte]
    have l5 := skipWs_length_le r2
    rw [h6] at l5
    simp only [List.length_cons] at l5
    apply ih F' L _ _ hc (by omega)
    simp only [bump_currPath, pop_currPath]
    rw [m1, hp]
    simp
  | inner n path b cs key r ds b' h1 h2 h3 h4 _ ih =>
    intro F L s hp hc hF
    obtain ⟨F', rfl⟩ : ∃ F', F = F' + 1 := ⟨F - 1, by omega⟩
    obtain ⟨s5, e5, p5, _⟩ := obj_to_value qs cap F' L b cs key r ds s h1 h2 h3
    have l1 := member_head_len h1 h2 h3
    have l4 := skipWs_length_le ds
    rw [h4] at l4
    simp only [List.length_cons] at l4
    rw [e5, h4]
    obtain ⟨F'', rfl⟩ : ∃ F'', F' = F'' + 1 := ⟨F' - 1, by omega⟩
    apply objValue_flag (flag_mono qs cap (F'' + 1)).2.2
    apply any_obj_flag qs cap F'' L _ b' s5 (SpecComplete.skipWs_nonws _ _ (by decide))
      (capOK_pass (capOK_le (d' := 0) hc (by omega)))
    intro s1 hs1
    exact ih F'' (L + 1) s1 (by rw [hs1, p5, hp]) (capOK_le hc (by omega)) (by omega)

theorem top_decided (hne : qs.isEmpty = false) (hq : ValsQuoted qs) (P b : Bytes) (n : Nat) (s : PState)
    (hopen : J.skipWs P = 0x7B :: b) (hdec : Decided qs n [] b) (hcap : cap = 0 ∨ 1 + n ≤ cap)
    (hs : s.currPath = []) :
    (consumeAny qs cap (fuelFor P) 0 P s).2.querySatisfied = true := by
  have hl := skipWs_length_le P
  rw [hopen] at hl
  simp only [List.length_cons] at hl
  have hff : fuelFor P = (2 * P.length + 3) + 1 := by simp [fuelFor]
  rw [hff]
  apply any_obj_flag qs cap _ 0 P b s hopen (by simp)
  intro s1 hs1
  exact decided_sets qs cap hne hq hdec _ 1 s1 (hs1.trans hs) (by simpa using hcap) (by omega)

/-- **C10 (truncated)**: when only the first `lim` bytes of an RFC 8259 document (nesting depth
    within the cap) are examined, they start (after white space) with `{`, and the member that
    decides a query of `qs` lies inside them (`Decided`), the detector built from `qs` answers
    "yes" — wherever the cut falls after that member -/
theorem subtype_truncated (qs : List Query) (hne : qs.isEmpty = false) (hq : ValsQuoted qs)
    (D : Bytes) (v : J.JVal) (lim : Nat) (b : Bytes) (n : Nat)
    (hdoc : J.doc true D = some v) (hdepth : J.depth v ≤ maxRecursion)
    (hlim : lim ≤ D.length) (hlim0 : lim ≠ 0)
    (hopen : J.skipWs (D.take lim) = 0x7B :: b)
    (hdec : Decided qs n [] b) (hn : n < maxRecursion) :
    jsonHelper (D.take lim) lim qs tokObject = true := by
  have hlenP : (D.take lim).length = lim := by simp; omega
  rw [C10Base.jsonHelper_run qs (D.take lim) lim 0x7B b hopen (Or.inl rfl) rfl,
    top_decided qs maxRecursion hne hq (D.take lim) b n PState.fresh.reset hopen hdec (Or.inr (by omega)) rfl,
    C08.inspected_cut qs D v lim hdoc hdepth hlim, hlenP]
  simp [hlim0]
  omega

theorem geo_truncated (D : Bytes) (v : J.JVal) (lim : Nat) (b : Bytes) (n : Nat)
    (hdoc : J.doc true D = some v) (hdepth : J.depth v ≤ maxRecursion) (hlim : lim ≤ D.length) (hlim0 : lim ≠ 0)
    (hopen : J.skipWs (D.take lim) = 0x7B :: b) (hdec : Decided q_geo n [] b) (hn : n < maxRecursion) :
    jsonHelper (D.take lim) lim q_geo tokObject = true :=
  subtype_truncated q_geo (by decide) C10Base.quoted_geo D v lim b n hdoc hdepth hlim hlim0 hopen hdec hn

theorem har_truncated (D : Bytes) (v : J.JVal) (lim : Nat) (b : Bytes) (n : Nat)
    (hdoc : J.doc true D = some v) (hdepth : J.depth v ≤ maxRecursion) (hlim : lim ≤ D.length) (hlim0 : lim ≠ 0)
    (hopen : J.skipWs (D.take lim) = 0x7B :: b) (hdec : Decided q_har n [] b) (hn : n < maxRecursion) :
    jsonHelper (D.take lim) lim q_har tokObject = true :=
  subtype_truncated q_har (by decide) C10Base.quoted_har D v lim b n hdoc hdepth hlim hlim0 hopen hdec hn

theorem gltf_truncated (D : Bytes) (v : J.JVal) (lim : Nat) (b : Bytes) (n : Nat)
    (hdoc : J.doc true D = some v) (hdepth : J.depth v ≤ maxRecursion) (hlim : lim ≤ D.length) (hlim0 : lim ≠ 0)
    (hopen : J.skipWs (D.take lim) = 0x7B :: b) (hdec : Decided q_gltf n [] b) (hn : n < maxRecursion) :
    jsonHelper (D.take lim) lim q_gltf tokObject = true :=
  subtype_truncated q_gltf (by decide) C10Base.quoted_gltf D v lim b n hdoc hdepth hlim hlim0 hopen hdec hn

/-- `b` starts (after white space) with the complete member `"key" : v`; `r2` is what follows the value -/
def IsMember (b key : Bytes) (v : J.JVal) (r2 : Bytes) : Prop :=
  ∃ cs r ds, J.skipWs b = 0x22 :: cs ∧ J.str true cs [] = .ok key r ∧ J.skipWs r = 0x3A :: ds ∧
    ∃ f, J.value true f ds = .ok v r2

/-- `b` starts (after white space) with `"key" : {`; `b'` is what follows the brace -/
def OpensObject (b key b' : Bytes) : Prop :=
  ∃ cs r ds, J.skipWs b = 0x22 :: cs ∧ J.str true cs [] = .ok key r ∧ J.skipWs r = 0x3A :: ds ∧
    J.skipWs ds = 0x7B :: b'

/-- `Members n b b'`: `b` starts with complete members (values of nesting depth at most `n`), each
    followed by a comma; `b'` is what follows the last of these commas -/
inductive Members (n : Nat) : Bytes → Bytes → Prop
  | done (b : Bytes) : Members n b b
  | more (b key : Bytes) (v : J.JVal) (r2 b' b'' : Bytes) :
      IsMember b key v r2 → J.depth v ≤ n → J.skipWs r2 = 0x2C :: b' → Members n b' b'' → Members n b b''

theorem Decided.of_members {qs : List Query} {n : Nat} {path : List Bytes} {b b' : Bytes}
    (hm : Members n b b') (hd : Decided qs n path b') : Decided qs n path b := by
  induction hm with
  | done b => exact hd
  | more b key v r2 b' b'' h1 h2 h3 _ ih =>
    obtain ⟨cs, r, ds, a1, a2, a3, a4⟩ := h1
    exact .skip n path b cs key r ds v r2 b' a1 a2 a3 a4 h2 h3 (ih hd)

theorem Decided.of_hit {qs : List Query} {n : Nat} {path : List Bytes} {b key : Bytes} {v : J.JVal} {r2 : Bytes}
    (hm : IsMember b key v r2) (hnum : v = .num → Delim r2) (hdep : J.depth v ≤ n)
    (hq : (matchHere qs (path ++ [key]) v || qsatV qs (path ++ [key]) v) = true) : Decided qs n path b := by
  obtain ⟨cs, r, ds, a1, a2, a3, a4⟩ := hm
  exact .hit n path b cs key r ds v r2 a1 a2 a3 a4 hnum hdep hq

theorem Decided.of_inner {qs : List Query} {n : Nat} {path : List Bytes} {b key b' : Bytes}
    (ho : OpensObject b key b') (hd : Decided qs n (path ++ [key]) b') : Decided qs (n + 1) path b := by
  obtain ⟨cs, r, ds, a1, a2, a3, a4⟩ := ho
  exact .inner n path b cs key r ds b' a1 a2 a3 a4 hd

/-- GeoJSON: complete members, then `"type" : "<one of the nine RFC 7946 names>"`, then anything -/
theorem decided_geo (n : Nat) (b b' name r2 : Bytes) (hm : Members n b b')
    (ht : IsMember b' (ofString "type") (.str name) r2) (hname : name ∈ J.geoNames) : Decided q_geo n [] b := by
  apply Decided.of_members hm
  apply Decided.of_hit ht (fun h => nomatch h) (by simp [J.depth])
  rw [C10Base.q_geo_eq, C10Base.kType_eq]
  simp only [List.nil_append, C10Base.geo_here, beq_self_eq_true, Bool.true_and, C10Base.geoVal]
  simp [hname]

/-- glTF: complete members, then `"asset" : {`, complete members, then `"version" : "1.0"` or
    `"2.0"`, then anything -/
theorem decided_gltf (n : Nat) (b b1 b2 b3 ver r2 : Bytes) (hm : Members (n + 1) b b1)
    (ho : OpensObject b1 (ofString "asset") b2) (hm2 : Members n b2 b3)
    (ht : IsMember b3 (ofString "version") (.str ver) r2) (hver : ver = ofString "1.0" ∨ ver = ofString "2.0") :
    Decided q_gltf (n + 1) [] b := by
  apply Decided.of_members hm
  apply Decided.of_inner ho
  apply Decided.of_members hm2
  apply Decided.of_hit ht (fun h => nomatch h) (by simp [J.depth])
  rw [C10Base.q_gltf_eq, C10Base.kAsset_eq, C10Base.kVersion_eq]
  simp only [List.nil_append, List.cons_append, C10Base.gltf_here2, beq_self_eq_true, Bool.true_and, C10Base.gltfVer]
  rcases hver with rfl | rfl
  · rw [C10Base.v10_eq]; simp
  · rw [C10Base.v20_eq]; simp

/-- HAR: complete members, then `"log" : {`, complete members, then a member named `version`,
    `creator` or `entries` with any complete value, then anything (not continuing a number) -/
theorem decided_har (n : Nat) (b b1 b2 b3 key : Bytes) (v : J.JVal) (r2 : Bytes) (hm : Members (n + 1) b b1)
    (ho : OpensObject b1 (ofString "log") b2) (hm2 : Members n b2 b3)
    (ht : IsMember b3 key v r2) (hkey : key = ofString "version" ∨ key = ofString "creator" ∨ key = ofString "entries")
    (hdep : J.depth v ≤ n) (hnum : v = .num → Delim r2) : Decided q_har (n + 1) [] b := by
  apply Decided.of_members hm
  apply Decided.of_inner ho
  apply Decided.of_members hm2
  apply Decided.of_hit ht hnum hdep
  rw [C10Base.q_har_eq, C10Base.kLog_eq]
  simp only [List.nil_append, List.cons_append, C10Base.har_here2, beq_self_eq_true, Bool.true_and]
  rcases hkey with rfl | rfl | rfl
  · rw [C10Base.kVersion_eq]; simp
  · rw [C10Base.kCreator_eq]; simp
  · rw [C10Base.kEntries_eq]; simp

/- the detectors on cut headers, evaluated -/
-- {"a":[1],"type":"Feature","geometry":{"ty
example : jsonHelper [123, 34, 97, 34, 58, 91, 49, 93, 44, 34, 116, 121, 112, 101, 34, 58, 34, 70, 101, 97, 116, 117, 114, 101, 34, 44, 34, 103, 101, 111, 109, 101, 116, 114, 121, 34, 58, 123, 34, 116, 121] 41 q_geo tokObject = true := by decide +kernel
-- {"asset":{"generator":"x","version":"2.0","copy
example : jsonHelper [123, 34, 97, 115, 115, 101, 116, 34, 58, 123, 34, 103, 101, 110, 101, 114, 97, 116, 111, 114, 34, 58, 34, 120, 34, 44, 34, 118, 101, 114, 115, 105, 111, 110, 34, 58, 34, 50, 46, 48, 34, 44, 34, 99, 111, 112, 121] 47 q_gltf tokObject = true := by decide +kernel
-- {"log":{"version":"1.2","creator":{"name":"x"},"entries":[],"pag
example : jsonHelper [123, 34, 108, 111, 103, 34, 58, 123, 34, 118, 101, 114, 115, 105, 111, 110, 34, 58, 34, 49, 46, 50, 34, 44, 34, 99, 114, 101, 97, 116, 111, 114, 34, 58, 123, 34, 110, 97, 109, 101, 34, 58, 34, 120, 34, 125, 44, 34, 101, 110, 116, 114, 105, 101, 115, 34, 58, 91, 93, 44, 34, 112, 97, 103] 64 q_har tokObject = true := by decide +kernel

/- why `Decided.hit` asks for a delimiter after a deciding *number*: the reference recogniser reads
   the value `0` in front of `1e+x`, the liberal scanner reads on and fails inside the exponent -/
-- {"log":{"version":01e+x
example : (parse q_har [123, 34, 108, 111, 103, 34, 58, 123, 34, 118, 101, 114, 115, 105, 111, 110, 34, 58, 48, 49, 101, 43, 120]).querySatisfied = false := by decide +kernel

/- the theorems applied: every hypothesis discharged on a concrete document -/
-- {"a":[1],"type":"Feature","geometry":{"type":"Point","coordinates":[1,2]}}
private def geoDoc : Bytes := [123, 34, 97, 34, 58, 91, 49, 93, 44, 34, 116, 121, 112, 101, 34, 58, 34, 70, 101, 97, 116, 117, 114, 101, 34, 44, 34, 103, 101, 111, 109, 101, 116, 114, 121, 34, 58, 123, 34, 116, 121, 112, 101, 34, 58, 34, 80, 111, 105, 110, 116, 34, 44, 34, 99, 111, 111, 114, 100, 105, 110, 97, 116, 101, 115, 34, 58, 91, 49, 44, 50, 93, 125, 125]
private def geoTree : J.JVal := .obj [([97], .arr [.num]), ([116, 121, 112, 101], .str [70, 101, 97, 116, 117, 114, 101]),
  ([103, 101, 111, 109, 101, 116, 114, 121], .obj [([116, 121, 112, 101], .str [80, 111, 105, 110, 116]), ([99, 111, 111, 114, 100, 105, 110, 97, 116, 101, 115], .arr [.num, .num])])]

/-- cut inside the key of `geometry`'s first member: `{"a":[1],"type":"Feature","geometry":{"ty` -/
example : jsonHelper (geoDoc.take 41) 41 q_geo tokObject = true := by
  have hdoc : J.doc true geoDoc = some geoTree := by rfl
  have e1 : ofString "Feature" = [70, 101, 97, 116, 117, 114, 101] := by rw [ofString_ofList]; decide +kernel
  have hm : Members 1 ((geoDoc.take 41).drop 1) ((geoDoc.take 41).drop 9) :=
    .more _ _ _ _ _ _ ⟨_, _, _, rfl, rfl, rfl, 3, rfl⟩ (by decide) rfl (.done _)
  have ht : IsMember ((geoDoc.take 41).drop 9) (ofString "type") (.str (ofString "Feature")) ((geoDoc.take 41).drop 25) := by
    rw [C10Base.kType_eq, e1]; exact ⟨_, _, _, rfl, rfl, rfl, 1, rfl⟩
  exact geo_truncated geoDoc geoTree 41 _ 1 hdoc (by decide) (by decide) (by decide) rfl
    (decided_geo 1 _ _ _ _ hm ht (by simp [J.geoNames])) (by decide)

-- {"asset":{"generator":"x","version":"2.0","copyright":"c"},"scenes":[]}
private def gltfDoc : Bytes := [123, 34, 97, 115, 115, 101, 116, 34, 58, 123, 34, 103, 101, 110, 101, 114, 97, 116, 111, 114, 34, 58, 34, 120, 34, 44, 34, 118, 101, 114, 115, 105, 111, 110, 34, 58, 34, 50, 46, 48, 34, 44, 34, 99, 111, 112, 121, 114, 105, 103, 104, 116, 34, 58, 34, 99, 34, 125, 44, 34, 115, 99, 101, 110, 101, 115, 34, 58, 91, 93, 125]
private def gltfTree : J.JVal := .obj [([97, 115, 115, 101, 116], .obj [([103, 101, 110, 101, 114, 97, 116, 111, 114], .str [120]),
  ([118, 101, 114, 115, 105, 111, 110], .str [50, 46, 48]), ([99, 111, 112, 121, 114, 105, 103, 104, 116], .str [99])]), ([115, 99, 101, 110, 101, 115], .arr [])]

/-- cut inside the key after `version`: `{"asset":{"generator":"x","version":"2.0","copy` -/
example : jsonHelper (gltfDoc.take 47) 47 q_gltf tokObject = true := by
  have hdoc : J.doc true gltfDoc = some gltfTree := by rfl
  have e1 : ofString "2.0" = [50, 46, 48] := by rw [ofString_ofList]; decide +kernel
  have ho : OpensObject ((gltfDoc.take 47).drop 1) (ofString "asset") ((gltfDoc.take 47).drop 10) := by
    rw [C10Base.kAsset_eq]; exact ⟨_, _, _, rfl, rfl, rfl, rfl⟩
  have hm2 : Members 0 ((gltfDoc.take 47).drop 10) ((gltfDoc.take 47).drop 26) :=
    .more _ _ _ _ _ _ ⟨_, _, _, rfl, rfl, rfl, 1, rfl⟩ (by decide) rfl (.done _)
  have ht : IsMember ((gltfDoc.take 47).drop 26) (ofString "version") (.str (ofString "2.0")) ((gltfDoc.take 47).drop 41) := by
    rw [C10Base.kVersion_eq, e1]; exact ⟨_, _, _, rfl, rfl, rfl, 1, rfl⟩
  exact gltf_truncated gltfDoc gltfTree 47 _ 1 hdoc (by decide) (by decide) (by decide) rfl
    (decided_gltf 0 _ _ _ _ _ _ (.done _) ho hm2 ht (Or.inr rfl)) (by decide)

-- {"log":{"version":"1.2","creator":{"name":"x"},"entries":[],"pages":[]}}
private def harDoc : Bytes := [123, 34, 108, 111, 103, 34, 58, 123, 34, 118, 101, 114, 115, 105, 111, 110, 34, 58, 34, 49, 46, 50, 34, 44, 34, 99, 114, 101, 97, 116, 111, 114, 34, 58, 123, 34, 110, 97, 109, 101, 34, 58, 34, 120, 34, 125, 44, 34, 101, 110, 116, 114, 105, 101, 115, 34, 58, 91, 93, 44, 34, 112, 97, 103, 101, 115, 34, 58, 91, 93, 125, 125]
private def harTree : J.JVal := .obj [([108, 111, 103], .obj [([118, 101, 114, 115, 105, 111, 110], .str [49, 46, 50]),
  ([99, 114, 101, 97, 116, 111, 114], .obj [([110, 97, 109, 101], .str [120])]), ([101, 110, 116, 114, 105, 101, 115], .arr []), ([112, 97, 103, 101, 115], .arr [])])]

/-- `entries` as the deciding member, cut inside its successor's key: `{"log":{"version":"1.2","creator":{"name":"x"},"entries":[],"pag` -/
example : jsonHelper (harDoc.take 64) 64 q_har tokObject = true := by
  have hdoc : J.doc true harDoc = some harTree := by rfl
  have ho : OpensObject ((harDoc.take 64).drop 1) (ofString "log") ((harDoc.take 64).drop 8) := by
    rw [C10Base.kLog_eq]; exact ⟨_, _, _, rfl, rfl, rfl, rfl⟩
  have hm2 : Members 1 ((harDoc.take 64).drop 8) ((harDoc.take 64).drop 47) :=
    .more _ _ _ _ _ _ ⟨_, _, _, rfl, rfl, rfl, 1, rfl⟩ (by decide) rfl
      (.more _ _ _ _ _ _ ⟨_, _, _, rfl, rfl, rfl, 3, rfl⟩ (by decide) rfl (.done _))
  have ht : IsMember ((harDoc.take 64).drop 47) (ofString "entries") (.arr []) ((harDoc.take 64).drop 59) := by
    rw [C10Base.kEntries_eq]; exact ⟨_, _, _, rfl, rfl, rfl, 2, rfl⟩
  exact har_truncated harDoc harTree 64 _ 2 hdoc (by decide) (by decide) (by decide) rfl
    (decided_har 1 _ _ _ _ _ _ _ (.done _) ho hm2 ht (Or.inr (Or.inr rfl)) (by decide) (fun h => nomatch h)) (by decide)

end Mime.JsonTrunc
