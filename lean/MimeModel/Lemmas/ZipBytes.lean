import MimeModel.Model.Prims
import MimeModel.Lemmas.Bytes
/-
  Occurrences of the local-header signature `PK\x03\x04` in byte strings: where `indexOf pk34`
  finds it in a concatenation of blocks.  No zip structure here, only bytes.
-/
namespace Mime.ZipLayout
open Mime

theorem pk34_length : pk34.length = 4 := rfl

end Mime.ZipLayout

namespace Mime.ZipConverse
open Mime Mime.ZipLayout

/-- `t` does not begin with a proper suffix of `PK\x03\x04`: no occurrence of the signature can
    start in the block before `t` and end inside `t` -/
def NoBorder (t : Bytes) : Prop :=
  hasPrefix t [0x4B, 0x03, 0x04] = false ∧ hasPrefix t [0x03, 0x04] = false ∧ hasPrefix t [0x04] = false

/-- the tail of the archive contains no local-header signature, and none can straddle the last
    entry and the tail -/
def CleanTail (t : Bytes) : Prop := indexOf pk34 t = none ∧ NoBorder t

instance (t : Bytes) : Decidable (NoBorder t) := by unfold NoBorder; infer_instance
instance (t : Bytes) : Decidable (CleanTail t) := by unfold CleanTail; infer_instance

theorem noBorder_nil : NoBorder [] := by decide

theorem noBorder_P (r : Bytes) : NoBorder (0x50 :: r) := by
  simp [NoBorder, hasPrefix, List.isPrefixOf]

/-- a central directory record `PK\x01\x02…` -/
theorem noBorder_central (r : Bytes) : NoBorder ([0x50, 0x4B, 0x01, 0x02] ++ r) := noBorder_P _
/-- an end-of-central-directory record `PK\x05\x06…` -/
theorem noBorder_end (r : Bytes) : NoBorder ([0x50, 0x4B, 0x05, 0x06] ++ r) := noBorder_P _
theorem noBorder_pk34 (r : Bytes) : NoBorder (pk34 ++ r) := noBorder_P _

/-- `PK\x03\x04` has no proper border, so it cannot start inside a non-empty block `s` (that it is
    not a prefix of) and end inside a `t` without border -/
theorem straddle_false (s t : Bytes) (hs : s ≠ []) (h : pk34.isPrefixOf s = false) (hb : NoBorder t) :
    pk34.isPrefixOf (s ++ t) = false := by
  obtain ⟨h1, h2, h3⟩ := hb
  simp only [hasPrefix] at h1 h2 h3
  match s, hs, h with
  | [a], _, _ => simp [pk34, List.isPrefixOf, h1]
  | [a, b], _, _ => simp [pk34, List.isPrefixOf, h2]
  | [a, b, c], _, _ => simp [pk34, List.isPrefixOf, h3]
  | a :: b :: c :: d :: t, _, h => simpa [pk34, List.isPrefixOf] using h

theorem indexOf_append_of_clean : ∀ (s t : Bytes), indexOf pk34 s = none → NoBorder t →
    indexOf pk34 (s ++ t) = (indexOf pk34 t).map (s.length + ·) := by
  intro s
  induction s with
  | nil => intro t _ _; rw [List.nil_append]; cases indexOf pk34 t <;> simp
  | cons a as ih =>
    intro t h hb
    obtain ⟨h1, h2⟩ := indexOf_cons_none h
    have hn := straddle_false (a :: as) t (by simp) h1 hb
    rw [List.cons_append] at hn ⊢
    rw [indexOf, if_neg (by rw [hn]; exact Bool.false_ne_true), ih t h2 hb]
    cases indexOf pk34 t with
    | none => rfl
    | some k => simp only [Option.map_some, List.length_cons]; congr 1; omega

theorem indexOf_append_none (s t : Bytes) (hs : indexOf pk34 s = none) (ht : indexOf pk34 t = none)
    (hb : NoBorder t) : indexOf pk34 (s ++ t) = none := by
  rw [indexOf_append_of_clean s t hs hb, ht]; rfl

theorem indexOf_append_pk34 {s : Bytes} (r : Bytes) (hs : indexOf pk34 s = none) :
    indexOf pk34 (s ++ (pk34 ++ r)) = some s.length := by
  rw [indexOf_append_of_clean s _ hs (noBorder_pk34 r)]; rfl

/-- the offsets (counted from `i`) at which `p` occurs in `l`, in one pass over `l` -/
def occurrences (p : Bytes) : Bytes → Nat → List Nat
  | [], _ => []
  | a :: as, i => if hasPrefix (a :: as) p then i :: occurrences p as (i + 1) else occurrences p as (i + 1)

theorem occurrences_eq (p : Bytes) : ∀ (l : Bytes) (i : Nat),
    (List.range' i l.length).filter (fun k => hasPrefix (l.drop (k - i)) p) = occurrences p l i := by
  intro l
  induction l with
  | nil => intro i; rfl
  | cons a as ih =>
    intro i
    have htail : (List.range' (i + 1) as.length).filter (fun k => hasPrefix ((a :: as).drop (k - i)) p) =
        occurrences p as (i + 1) := by
      rw [← ih (i + 1)]
      refine List.filter_congr fun k hk => ?_
      have := (List.mem_range'_1.mp hk).1
      rw [show k - i = (k - (i + 1)) + 1 by omega, List.drop_succ_cons]
    rw [List.length_cons, List.range'_succ, List.filter_cons, Nat.sub_self, List.drop_zero, htail, occurrences]

/-- for the kernel the left side rebuilds `l` at every offset, the single pass does not -/
theorem filter_range_occurrences (p l : Bytes) :
    (List.range l.length).filter (fun k => hasPrefix (l.drop k) p) = occurrences p l 0 := by
  rw [List.range_eq_range', ← occurrences_eq p l 0]
  rfl

end Mime.ZipConverse
