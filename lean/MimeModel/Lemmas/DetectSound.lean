import MimeModel.Lemmas.Tree
import MimeModel.Model.Detect
/-
  From the result of `detect` back to the verdicts of the checks, generically (any tree, any
  external parameters, any input, any limit): everything on the reported chain is a node of the
  tree and, except for the root, was accepted by its own detector on the examined header.  Used by
  the Detect-level soundness theorems: "the leaf is X" ⇒ "the check of X said yes on the header".
-/
namespace Mime.DetectSound
open Mime Mime.Tree

theorem chain_eq (ext : Ext) (T : Tree Info) (x : Bytes) (lim : Nat) :
    (detect ext T x lim).chain = (T.walk (accepts ext (header x lim) lim)).reverse := rfl

theorem chain_last (ext : Ext) (T : Tree Info) (x : Bytes) (lim : Nat) :
    (detect ext T x lim).chain.getLast? = some T.info := by
  rw [chain_eq, List.getLast?_reverse]
  exact walk_head _ T

theorem chain_cases (ext : Ext) (T : Tree Info) (x : Bytes) (lim : Nat) (i : Info)
    (hi : i ∈ (detect ext T x lim).chain) :
    i ∈ T.flatten ∧ (i = T.info ∨ accepts ext (header x lim) lim i = true) := by
  rw [chain_eq, List.mem_reverse] at hi
  refine ⟨walk_sub_flatten _ T i hi, ?_⟩
  rw [walk_unfold, List.mem_cons] at hi
  exact hi.imp_right fun h => (mem_walkList _ _ i h).1

/-- **from a reported type to its check**: `P` is a kind of node (typically: its media type), `Q`
    what the nodes of that kind have in common (typically: their detector).  The two hypotheses
    are decidable facts about a concrete tree. -/
theorem chain_kind (ext : Ext) (T : Tree Info) (x : Bytes) (lim : Nat) (P Q : Info → Bool)
    (hall : T.flatten.all (fun i => !P i || Q i) = true) (hroot : P T.info = false)
    (i : Info) (hi : i ∈ (detect ext T x lim).chain) (hP : P i = true) :
    Q i = true ∧ accepts ext (header x lim) lim i = true := by
  obtain ⟨hmem, hcase⟩ := chain_cases ext T x lim i hi
  have hQ := List.all_eq_true.1 hall i hmem
  rw [hP] at hQ
  refine ⟨hQ, hcase.resolve_left (fun he => ?_)⟩
  rw [he, hroot] at hP
  cases hP

theorem charset_of_leaf (ext : Ext) (T : Tree Info) (x : Bytes) (lim : Nat) (leaf : Info)
    (h : (detect ext T x lim).chain.head? = some leaf) :
    (detect ext T x lim).charset = charsetFor ext leaf.mime (header x lim) := by
  have hc : (detect ext T x lim).charset =
      (match (detect ext T x lim).chain with
       | [] => []
       | leaf :: _ => charsetFor ext leaf.mime (header x lim)) := rfl
  rw [hc]
  cases hl : (detect ext T x lim).chain with
  | nil => rw [hl] at h; cases h
  | cons a l =>
    rw [hl] at h
    cases h
    rfl

theorem charsetFor_plain (ext : Ext) (h : Bytes) : charsetFor ext mimeTextPlain h = Charset.fromPlain h := rfl

theorem charsetFor_html (ext : Ext) (h : Bytes) :
    charsetFor ext mimeTextHtml h = Charset.fromHTML h (ext.htmlToks h) := by
  -- `mimeTextHtml == mimeTextPlain` compares two literal byte lists: evaluated, it is `false`
  rw [charsetFor, if_neg (by decide +kernel), if_pos (beq_self_eq_true _)]

theorem leaf_exists (ext : Ext) (T : Tree Info) (x : Bytes) (lim : Nat) :
    ∃ leaf, (detect ext T x lim).chain.head? = some leaf := by
  rw [chain_eq, List.head?_reverse, walk_unfold]
  exact ⟨_, List.getLast?_eq_some_getLast (List.cons_ne_nil _ _)⟩

theorem header_whole (x : Bytes) (lim : Nat) (h : lim = 0 ∨ x.length ≤ lim) : header x lim = x := by
  unfold header
  split
  · rfl
  · exact List.take_of_length_le (h.resolve_left ‹_›)

theorem header_cut_length (x : Bytes) (lim : Nat) (h0 : lim ≠ 0) (h : lim ≤ x.length) :
    (header x lim).length = lim := by
  unfold header
  rw [if_neg h0, List.length_take]
  exact Nat.min_eq_left h

theorem header_take (x : Bytes) (lim n : Nat) (h : n ≤ (header x lim).length) :
    (header x lim).take n = x.take n ∧ n ≤ x.length ∧ (lim = 0 ∨ n ≤ lim) := by
  unfold header at h ⊢
  by_cases h0 : lim = 0
  · rw [if_pos h0] at h ⊢
    exact ⟨rfl, h, Or.inl h0⟩
  · rw [if_neg h0] at h ⊢
    rw [List.length_take] at h
    have h1 : n ≤ lim := Nat.le_trans h (Nat.min_le_left ..)
    exact ⟨by rw [List.take_take, Nat.min_eq_left h1], Nat.le_trans h (Nat.min_le_right ..), Or.inr h1⟩

theorem header_keeps_prefix (p rest : Bytes) (lim : Nat) (h : lim = 0 ∨ p.length ≤ lim) :
    ∃ rest', header (p ++ rest) lim = p ++ rest' := by
  unfold header
  split
  · exact ⟨rest, rfl⟩
  · rw [List.take_append, List.take_of_length_le (h.resolve_left ‹_›)]
    exact ⟨_, rfl⟩

end Mime.DetectSound
