import MimeModel.Lemmas.JsonQuery
import MimeModel.Model.Custom
/-
  An RFC 8259 document (the strict reference grammar) contains no binary-data byte: every byte
  the recogniser consumes is printable, or one of the four white-space bytes.
-/
namespace Mime.JsonClean
open Mime Mime.Json Mime.Spec Mime.JsonLeaf Mime.JsonForward Mime.JsonQuery

/-- a byte RFC 8259 text may contain outside strings, or inside them: never a binary-data byte -/
def Good (c : Nat) : Prop := 0x20 ≤ c ∨ c = 0x09 ∨ c = 0x0A ∨ c = 0x0D

def GoodL (p : Bytes) : Prop := ∀ c ∈ p, Good c

theorem good_of (c : Nat) (h : 0x20 ≤ c) : Good c := Or.inl h

theorem GoodL.append {a b : Bytes} (ha : GoodL a) (hb : GoodL b) : GoodL (a ++ b) := by
  intro c hc
  rcases List.mem_append.mp hc with h | h
  · exact ha c h
  · exact hb c h

theorem GoodL.cons {c : Nat} {b : Bytes} (hc : Good c) (hb : GoodL b) : GoodL (c :: b) := by
  intro x hx
  rcases List.mem_cons.mp hx with h | h
  · rw [h]; exact hc
  · exact hb x h

theorem goodL_nil : GoodL [] := by intro c hc; cases hc

theorem good_not_binary (c : Nat) (h : Good c) : Cust.binaryByte c = false := by
  unfold Cust.binaryByte
  simp only [Bool.or_eq_false_iff, decide_eq_false_iff_not, beq_eq_false_iff_ne, Bool.and_eq_false_iff]
  unfold Good at h
  omega

theorem ws_good (w : Bytes) (h : ∀ c ∈ w, isSpace c = true) : GoodL w := by
  intro c hc
  have := h c hc
  simp only [isSpace, Bool.or_eq_true, beq_iff_eq] at this
  unfold Good; omega

/-- the consumed part of an input: `b = p ++ r` with `p` free of binary-data bytes -/
def Consumed (b r : Bytes) : Prop := ∃ p, b = p ++ r ∧ GoodL p

theorem Consumed.refl (b : Bytes) : Consumed b b := ⟨[], rfl, goodL_nil⟩

theorem Consumed.trans {a b c : Bytes} (h1 : Consumed a b) (h2 : Consumed b c) : Consumed a c := by
  obtain ⟨p, e1, g1⟩ := h1
  obtain ⟨q, e2, g2⟩ := h2
  exact ⟨p ++ q, by rw [e1, e2]; simp, g1.append g2⟩

theorem Consumed.cons {c : Nat} {b r : Bytes} (hc : Good c) (h : Consumed b r) : Consumed (c :: b) r := by
  obtain ⟨p, e, g⟩ := h
  exact ⟨c :: p, by rw [e]; rfl, GoodL.cons hc g⟩

theorem consumed_skipWs (b : Bytes) : Consumed b (J.skipWs b) := by
  obtain ⟨w, e, hw⟩ := skipWs_split b
  exact ⟨w, e, ws_good w hw⟩

theorem digit_good (c : Nat) (h : J.digit c = true) : Good c := by
  simp only [J.digit, Bool.and_eq_true, decide_eq_true_eq] at h
  unfold Good; omega

theorem consumed_digits (b : Bytes) : Consumed b (J.digits b).2 := by
  obtain ⟨ds, e, _, hd, _⟩ := digits_spec b
  exact ⟨ds, e, fun c hc => digit_good c (hd c hc)⟩

theorem consumed_digits1 {t r : Bytes} (h : J.digits1 t = .ok () r) : Consumed t r := by
  obtain ⟨d, ds, e, hd, _⟩ := digits1_ok t r h
  exact ⟨d :: ds, e, fun c hc => digit_good c (hd c hc)⟩

theorem consumed_dropSign (t : Bytes) : Consumed t (J.dropSign t) := by
  cases t with
  | nil => exact Consumed.refl _
  | cons s t' =>
    simp only [J.dropSign]
    split
    · rename_i hs
      refine Consumed.cons ?_ (Consumed.refl _)
      simp only [Bool.or_eq_true, beq_iff_eq] at hs
      unfold Good; omega
    · exact Consumed.refl _

theorem consumed_expPart (r r' : Bytes) (h : J.expPart r = .ok () r') : Consumed r r' := by
  cases r with
  | nil => simp only [J.expPart, J.R.ok.injEq, true_and] at h; subst h; exact Consumed.refl _
  | cons e t =>
    simp only [J.expPart] at h
    split at h
    · rename_i he
      have hg : Good e := by
        simp only [J.isExpChar, Bool.or_eq_true, beq_iff_eq] at he
        unfold Good; omega
      exact Consumed.cons hg ((consumed_dropSign t).trans (consumed_digits1 h))
    · simp only [J.R.ok.injEq, true_and] at h; subst h; exact Consumed.refl _

theorem consumed_fracStrict (r r' : Bytes) (h : J.fracStrict r = .ok () r') : Consumed r r' := by
  unfold J.fracStrict at h
  split at h
  · exact Consumed.cons (good_of _ (by decide)) (consumed_digits1 h)
  · simp only [J.R.ok.injEq, true_and] at h; subst h; exact Consumed.refl _

theorem consumed_numStrict {b r : Bytes} (h : J.numStrict b = .ok () r) : Consumed b r := by
  have hm : Consumed b (J.dropMinus b) := by
    unfold J.dropMinus
    split
    · exact Consumed.cons (good_of _ (by decide)) (Consumed.refl _)
    · exact Consumed.refl _
  refine hm.trans ?_
  unfold J.numStrict at h
  generalize J.dropMinus b = b1 at h
  cases b1 with
  | nil => cases h
  | cons c cs =>
    simp only at h
    split at h
    · cases h
    · rename_i hd
      have hdc : J.digit c = true := by simpa using hd
      have hint : Consumed (c :: cs) (if c == 0x30 then cs else (J.digits cs).2) := by
        split
        · exact Consumed.cons (digit_good c hdc) (Consumed.refl _)
        · exact Consumed.cons (digit_good c hdc) (consumed_digits cs)
      refine hint.trans ?_
      generalize (if c == 0x30 then cs else (J.digits cs).2) = ai at h
      unfold J.andThen at h
      cases hf : J.fracStrict ai with
      | ok u r1 =>
        rw [hf] at h
        exact (consumed_fracStrict ai r1 hf).trans (consumed_expPart r1 r h)
      | more => rw [hf] at h; cases h
      | bad => rw [hf] at h; cases h

theorem consumed_lit {w b r : Bytes} (hw : GoodL w) (h : J.lit w b = .ok () r) : Consumed b r :=
  ⟨w, lit_ok_iff w b r h, hw⟩

theorem consumed_str (cs body r : Bytes) (h : J.str true cs [] = .ok body r) : Consumed cs r := by
  obtain ⟨p, h1, _, h3⟩ := str_ok true cs [] body r h
  refine ⟨p ++ [0x22], by rw [h1]; simp, GoodL.append (fun x hx => Or.inl (h3 rfl x hx)) ?_⟩
  intro c hc
  simp at hc; subst hc; unfold Good; omega

/-- with fuel `f`, whatever the reference accepts of `b` (a value, the items of an array, the members of an
    object) is free of binary-data bytes -/
def CV (f : Nat) : Prop := ∀ b v r, J.value true f b = .ok v r → Consumed b r
def CI (f : Nat) : Prop := ∀ b acc first v r, J.items true f b acc first = .ok v r → Consumed b r
def CM (f : Nat) : Prop := ∀ b acc first v r, J.members true f b acc first = .ok v r → Consumed b r

theorem cv_step (f : Nat) (hI : CI f) (hM : CM f) : CV (f + 1) := by
  intro b v r h
  obtain ⟨c, cs, hsk, hc⟩ := value_case h
  refine (consumed_skipWs b).trans ?_
  rw [hsk]
  cases hc with
  | str body r hc hs => exact Consumed.cons (good_of c (by omega)) (consumed_str cs body r hs)
  | arr xs r hc hi => exact Consumed.cons (good_of c (by omega)) (hI _ _ _ _ _ hi)
  | obj ms r hc hm => exact Consumed.cons (good_of c (by omega)) (hM _ _ _ _ _ hm)
  | litT r hc hl => exact consumed_lit (by unfold GoodL Good; decide) hl
  | litF r hc hl => exact consumed_lit (by unfold GoodL Good; decide) hl
  | litN r hc hl => exact consumed_lit (by unfold GoodL Good; decide) hl
  | num r _ _ _ _ hn => exact consumed_numStrict hn

theorem ci_step (f : Nat) (hV : CV f) (hI : CI f) : CI (f + 1) := by
  intro b acc first v r h
  obtain ⟨c, cs, hsk, hcase⟩ := SpecComplete.items_ok h
  refine (consumed_skipWs b).trans ?_
  rw [hsk]
  rcases hcase with ⟨rfl, _, _, rfl⟩ | ⟨_, h⟩
  · exact Consumed.cons (good_of _ (by decide)) (Consumed.refl _)
  obtain ⟨x, r1, d, ds, hval, h1, hd⟩ := SpecComplete.itemsAfter_ok h
  refine (hV _ _ _ hval).trans ((consumed_skipWs r1).trans ?_)
  rw [h1]
  rcases hd with ⟨rfl, hrest⟩ | ⟨rfl, _, rfl⟩
  · exact Consumed.cons (good_of _ (by decide)) (hI _ _ _ _ _ hrest)
  · exact Consumed.cons (good_of _ (by decide)) (Consumed.refl _)

theorem cm_step (f : Nat) (hV : CV f) (hM : CM f) : CM (f + 1) := by
  intro b acc first v r h
  obtain ⟨c, cs, hsk, hcase⟩ := SpecComplete.members_ok h
  refine (consumed_skipWs b).trans ?_
  rw [hsk]
  rcases hcase with ⟨rfl, _, _, rfl⟩ | ⟨_, rfl, h⟩
  · exact Consumed.cons (good_of _ (by decide)) (Consumed.refl _)
  obtain ⟨key, r0, ds, hs, h0, h⟩ := SpecComplete.membersAfterKey_ok h
  obtain ⟨x, r2, g, gs, hval, h2, hg⟩ := SpecComplete.membersAfterVal_ok h
  refine Consumed.cons (good_of _ (by decide)) ((consumed_str cs key r0 hs).trans ((consumed_skipWs r0).trans ?_))
  rw [h0]
  refine Consumed.cons (good_of _ (by decide)) ((hV _ _ _ hval).trans ((consumed_skipWs r2).trans ?_))
  rw [h2]
  rcases hg with ⟨rfl, hrest⟩ | ⟨rfl, _, rfl⟩
  · exact Consumed.cons (good_of _ (by decide)) (hM _ _ _ _ _ hrest)
  · exact Consumed.cons (good_of _ (by decide)) (Consumed.refl _)

theorem consumed_all : ∀ f, CV f ∧ CI f ∧ CM f := by
  intro f
  induction f with
  | zero =>
    refine ⟨?_, ?_, ?_⟩
    · intro b v r h; simp [J.value] at h
    · intro b acc first v r h; simp [J.items] at h
    · intro b acc first v r h; simp [J.members] at h
  | succ f ih =>
    obtain ⟨hV, hI, hM⟩ := ih
    exact ⟨cv_step f hI hM, ci_step f hV hI, cm_step f hV hM⟩

/-- **an RFC 8259 document contains no binary-data byte** -/
theorem doc_good (D : Bytes) (v : J.JVal) (h : J.doc true D = some v) : GoodL D := by
  unfold J.doc at h
  cases hf : J.firstNonWs D with
  | none => simp [hf] at h
  | some c =>
    simp only [hf] at h
    split at h
    · cases h
    · cases hval : J.value true (J.fuelFor D) D with
      | more => simp [hval] at h
      | bad => simp [hval] at h
      | ok v' r =>
        simp only [hval] at h
        split at h
        · rename_i hws
          obtain ⟨p, e, g⟩ := (consumed_all (J.fuelFor D)).1 D v' r hval
          obtain ⟨w, e2, hw⟩ := skipWs_split r
          have hr : J.skipWs r = [] := by simpa using hws
          rw [hr, List.append_nil] at e2
          rw [e, e2]
          exact g.append (ws_good w hw)
        · cases h


end Mime.JsonClean
