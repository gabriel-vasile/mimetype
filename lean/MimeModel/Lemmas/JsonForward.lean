import MimeModel.Lemmas.JsonScanEq
/-
  Forward simulation: whatever the reference RFC 8259 recogniser (`Spec.J.value true`)
  accepts, the scanner model consumes, counting every byte — at any nesting level allowed
  by the recursion cap.
-/
namespace Mime.JsonForward
open Mime Mime.Json Mime.Spec Mime.JsonLeaf Mime.JsonPrefix Mime.SpecComplete

/-- the recursion cap allows a value of depth `d` at level `L` -/
def CapOK (cap L d : Nat) : Prop := cap = 0 ∨ L + d ≤ cap

theorem capOK_pass {cap L d : Nat} (h : CapOK cap L d) : (cap != 0 && decide (L > cap)) = false := by
  rcases h with h | h
  · simp [h]
  · simp; omega

theorem depth_mem_list (x : J.JVal) (xs : List J.JVal) (h : x ∈ xs) : J.depth x ≤ J.depthList xs := by
  induction xs with
  | nil => cases h
  | cons y ys ih =>
    simp only [J.depthList]
    cases h with
    | head => omega
    | tail _ h' => have := ih h'; omega

theorem depth_mem_members (k : Bytes) (x : J.JVal) (ms : List (Bytes × J.JVal)) (h : (k, x) ∈ ms) :
    J.depth x ≤ J.depthMembers ms := by
  induction ms with
  | nil => cases h
  | cons y ys ih =>
    obtain ⟨k', v'⟩ := y
    simp only [J.depthMembers]
    cases h with
    | head => omega
    | tail _ h' => have := ih h'; omega

theorem ws_delim {x : Nat} (hw : J.ws x = true) : J.digit x = false ∧ x ≠ 0x2E ∧ isE x = false := by
  simp only [J.ws, Bool.or_eq_true, beq_iff_eq] at hw
  rcases hw with ((hw | hw) | hw) | hw <;> subst hw <;> decide

/-- what follows a value inside a document is white space, a comma or a closing bracket -/
theorem delim_of_skipWs (r : Bytes) (d : Nat) (ds : Bytes) (h : J.skipWs r = d :: ds)
    (hd : d = 0x2C ∨ d = 0x5D ∨ d = 0x7D) : Delim r := by
  intro c hc
  cases r with
  | nil => cases hc
  | cons x xs =>
    cases hc
    rw [J.skipWs] at h
    split at h
    · exact ws_delim ‹_›
    · cases h
      rcases hd with rfl | rfl | rfl <;> decide

theorem delim_of_ws_only (r : Bytes) (h : (J.skipWs r).isEmpty = true) : Delim r := by
  intro c hc
  cases r with
  | nil => cases hc
  | cons x xs =>
    cases hc
    rw [J.skipWs] at h
    split at h
    · exact ws_delim ‹_›
    · cases h

theorem finishAny_some (q : Bool) (lvl t : Nat) (r : Bytes) (s2 : PState) :
    (finishAny q lvl t (some r, s2)).1 = some (J.skipWs r) ∧
    (finishAny q lvl t (some r, s2)).2.ib = s2.ib + (r.length - (J.skipWs r).length) := by
  simp only [finishAny, consumeSpace_spec]
  exact ⟨trivial, by rw [bump_ib, setFlags_ib]⟩

/-- the three statements proved together by induction on the fuel -/
def FValue (qs : List Gen.Json.Query) (cap fuel : Nat) : Prop :=
  ∀ (lvl : Nat) (b : Bytes) (v : J.JVal) (r : Bytes) (s : PState),
    J.value true fuel b = .ok v r → Delim r → CapOK cap lvl (J.depth v) →
    (consumeAny qs cap fuel lvl b s).1 = some (J.skipWs r) ∧
    (consumeAny qs cap fuel lvl b s).2.ib = s.ib + (b.length - (J.skipWs r).length) ∧ r.length < b.length

def FItems (qs : List Gen.Json.Query) (cap fuel : Nat) : Prop :=
  ∀ (L : Nat) (b : Bytes) (acc : List J.JVal) (first : Bool) (xs : List J.JVal) (r : Bytes) (s : PState),
    J.items true fuel b acc first = .ok (.arr xs) r → (∀ x ∈ xs, CapOK cap L (J.depth x)) →
    (arrayLoop qs cap fuel L b s).1 = some r ∧
    (arrayLoop qs cap fuel L b s).2.ib = s.ib + (b.length - r.length) ∧ r.length < b.length

def FMembers (qs : List Gen.Json.Query) (cap fuel : Nat) : Prop :=
  ∀ (L : Nat) (b : Bytes) (acc : List (Bytes × J.JVal)) (first : Bool) (ms : List (Bytes × J.JVal)) (r : Bytes) (s : PState),
    J.members true fuel b acc first = .ok (.obj ms) r → (∀ m ∈ ms, CapOK cap L (J.depth m.2)) →
    (objectLoop qs cap fuel L b s).1 = some r ∧
    (objectLoop qs cap fuel L b s).2.ib = s.ib + (b.length - r.length) ∧ r.length < b.length

@[simp] theorem enter_ib (s : PState) (l : Nat) : (s.enter l).ib = s.ib := rfl
@[simp] theorem push_ib (s : PState) (k : Bytes) : (s.push k).ib = s.ib := rfl
@[simp] theorem pop_ib (s : PState) : s.pop.ib = s.ib := rfl

@[simp] theorem applyQuery_ib (q : Option Gen.Json.Query) (v : Bytes) (s : PState) : (applyQuery q v s).ib = s.ib := by
  unfold applyQuery
  split
  · rfl
  · split <;> split <;> rfl

theorem value_skipWs (strict : Bool) (fuel : Nat) (b : Bytes) : J.value strict fuel b = J.value strict fuel (J.skipWs b) := by
  cases fuel with
  | zero => rfl
  | succ f => rw [value_succ, value_succ, skipWs_idem]

theorem items_shape (strict : Bool) : ∀ (fuel : Nat) (b : Bytes) (acc : List J.JVal) (first : Bool) (v : J.JVal) (r : Bytes),
    J.items strict fuel b acc first = .ok v r → ∃ xs, v = .arr xs ∧ ∀ a ∈ acc, a ∈ xs := by
  intro fuel
  induction fuel with
  | zero => intro b acc first v r h; rw [J.items] at h; cases h
  | succ f ih =>
    intro b acc first v r h
    obtain ⟨c, cs, _, ⟨_, _, rfl, _⟩ | ⟨_, h⟩⟩ := items_ok h
    · exact ⟨_, rfl, fun a ha => List.mem_reverse.mpr ha⟩
    · obtain ⟨x, r1, d, ds, _, _, ⟨_, h⟩ | ⟨_, rfl, _⟩⟩ := itemsAfter_ok h
      · obtain ⟨xs, e, hm⟩ := ih _ _ _ _ _ h
        exact ⟨xs, e, fun a ha => hm a (List.mem_cons_of_mem _ ha)⟩
      · exact ⟨_, rfl, fun a ha => List.mem_reverse.mpr (List.mem_cons_of_mem _ ha)⟩

theorem items_arr (strict : Bool) (fuel : Nat) (b : Bytes) (acc : List J.JVal) (first : Bool) (v : J.JVal) (r : Bytes)
    (h : J.items strict fuel b acc first = .ok v r) : ∃ xs, v = .arr xs :=
  (items_shape strict fuel b acc first v r h).imp fun _ h => h.1

theorem items_acc_mem (strict : Bool) (fuel : Nat) (b : Bytes) (acc : List J.JVal) (first : Bool) (xs : List J.JVal) (r : Bytes)
    (h : J.items strict fuel b acc first = .ok (.arr xs) r) : ∀ a ∈ acc, a ∈ xs := by
  obtain ⟨_, e, hm⟩ := items_shape strict fuel b acc first _ r h
  cases e; exact hm

theorem members_shape (strict : Bool) : ∀ (fuel : Nat) (b : Bytes) (acc : List (Bytes × J.JVal)) (first : Bool) (v : J.JVal) (r : Bytes),
    J.members strict fuel b acc first = .ok v r → ∃ ms, v = .obj ms ∧ ∀ a ∈ acc, a ∈ ms := by
  intro fuel
  induction fuel with
  | zero => intro b acc first v r h; rw [J.members] at h; cases h
  | succ f ih =>
    intro b acc first v r h
    obtain ⟨c, cs, _, ⟨_, _, rfl, _⟩ | ⟨_, _, h⟩⟩ := members_ok h
    · exact ⟨_, rfl, fun a ha => List.mem_reverse.mpr ha⟩
    · obtain ⟨k, r1, ds, _, _, h⟩ := membersAfterKey_ok h
      obtain ⟨x, r2, e, es, _, _, ⟨_, h⟩ | ⟨_, rfl, _⟩⟩ := membersAfterVal_ok h
      · obtain ⟨ms, e, hm⟩ := ih _ _ _ _ _ h
        exact ⟨ms, e, fun a ha => hm a (List.mem_cons_of_mem _ ha)⟩
      · exact ⟨_, rfl, fun a ha => List.mem_reverse.mpr (List.mem_cons_of_mem _ ha)⟩

theorem members_obj (strict : Bool) (fuel : Nat) (b : Bytes) (acc : List (Bytes × J.JVal)) (first : Bool) (v : J.JVal) (r : Bytes)
    (h : J.members strict fuel b acc first = .ok v r) : ∃ ms, v = .obj ms :=
  (members_shape strict fuel b acc first v r h).imp fun _ h => h.1

theorem members_acc_mem (strict : Bool) (fuel : Nat) (b : Bytes) (acc : List (Bytes × J.JVal)) (first : Bool)
    (ms : List (Bytes × J.JVal)) (r : Bytes)
    (h : J.members strict fuel b acc first = .ok (.obj ms) r) : ∀ a ∈ acc, a ∈ ms := by
  obtain ⟨_, e, hm⟩ := members_shape strict fuel b acc first _ r h
  cases e; exact hm

theorem value_rbracket (f : Nat) (cs : Bytes) : J.value true f (0x5D :: cs) = .bad := by
  cases f <;> rfl

theorem value_ne_nil {strict : Bool} {f : Nat} {b : Bytes} {v : J.JVal} {r : Bytes} (h : J.value strict f b = .ok v r) :
    J.skipWs b ≠ [] := by
  intro e
  cases f with
  | zero => rw [J.value] at h; cases h
  | succ f => rw [SpecComplete.value_nil e] at h; cases h

theorem capOK_arr {cap lvl : Nat} {xs : List J.JVal} (h : CapOK cap lvl (J.depth (.arr xs))) :
    ∀ x ∈ xs, CapOK cap (lvl + 1) (J.depth x) := by
  intro x hx
  refine h.imp id fun h => ?_
  have := depth_mem_list x xs hx
  rw [J.depth] at h
  omega

theorem capOK_obj {cap lvl : Nat} {ms : List (Bytes × J.JVal)} (h : CapOK cap lvl (J.depth (.obj ms))) :
    ∀ m ∈ ms, CapOK cap (lvl + 1) (J.depth m.2) := by
  intro m hm
  refine h.imp id fun h => ?_
  have := depth_mem_members m.1 m.2 ms hm
  rw [J.depth] at h
  omega

theorem items_tail_facts {f : Nat} {acc xs : List J.JVal} {v : J.JVal} {r r1 ds : Bytes} {d : Nat} (h1 : J.skipWs r1 = d :: ds)
    (hd : (d = 0x2C ∧ J.items true f ds (v :: acc) false = .ok (.arr xs) r) ∨
      (d = 0x5D ∧ J.JVal.arr xs = .arr (v :: acc).reverse ∧ r = ds)) : Delim r1 ∧ v ∈ xs := by
  rcases hd with ⟨e, hrec⟩ | ⟨e, hw, _⟩
  · exact ⟨delim_of_skipWs r1 d ds h1 (Or.inl e), items_acc_mem true f ds (v :: acc) false xs r hrec v (List.mem_cons_self ..)⟩
  · cases hw; exact ⟨delim_of_skipWs r1 d ds h1 (Or.inr (Or.inl e)), List.mem_reverse.mpr (List.mem_cons_self ..)⟩

theorem members_tail_facts {f : Nat} {acc ms : List (Bytes × J.JVal)} {k : Bytes} {v : J.JVal} {r r2 es : Bytes} {e : Nat}
    (h2 : J.skipWs r2 = e :: es)
    (he : (e = 0x2C ∧ J.members true f es ((k, v) :: acc) false = .ok (.obj ms) r) ∨
      (e = 0x7D ∧ J.JVal.obj ms = .obj ((k, v) :: acc).reverse ∧ r = es)) : Delim r2 ∧ (k, v) ∈ ms := by
  rcases he with ⟨e', hrec⟩ | ⟨e', hw, _⟩
  · exact ⟨delim_of_skipWs r2 e es h2 (Or.inl e'), members_acc_mem true f es ((k, v) :: acc) false ms r hrec _ (List.mem_cons_self ..)⟩
  · cases hw; exact ⟨delim_of_skipWs r2 e es h2 (Or.inr (Or.inr e')), List.mem_reverse.mpr (List.mem_cons_self ..)⟩

/-- the scanner's result `res` on `b` from state `s` is a success with rest `r`, every consumed byte
    counted (the conclusion of `FItems` / `FMembers`, for any scanner) -/
def Fwd (res : Option Bytes × PState) (s : PState) (b r : Bytes) : Prop :=
  res.1 = some r ∧ res.2.ib = s.ib + (b.length - r.length) ∧ r.length < b.length

theorem Fwd.of_eq {res : Option Bytes × PState} {s : PState} {b r : Bytes}
    (h : res = (some r, s.bump (b.length - r.length))) (hlt : r.length < b.length) : Fwd res s b r := by
  subst h; exact ⟨rfl, rfl, hlt⟩

/-- a run from a later position, seen from an earlier one -/
theorem Fwd.rebase {res : Option Bytes × PState} {s s1 : PState} {b b1 r : Bytes} (h : Fwd res s1 b1 r)
    (hib : s1.ib + b1.length = s.ib + b.length) (hle : b1.length ≤ b.length) : Fwd res s b r := by
  obtain ⟨h1, h2, h3⟩ := h
  have hr := Nat.le_of_lt h3
  exact ⟨h1, by rw [h2, ← Nat.add_sub_assoc hr, hib, Nat.add_sub_assoc (Nat.le_trans hr hle)], Nat.lt_of_lt_of_le h3 hle⟩

/-- `G` consumes `b` down to `r1`, then the continuation consumes `r1` down to `r` -/
theorem Fwd.seq {G : Scan} {H : Bytes → Scan} {s : PState} {b r1 r : Bytes} (h1 : (G b s).1 = some r1)
    (h2 : (G b s).2.ib = s.ib + (b.length - r1.length)) (h3 : r1.length ≤ b.length)
    (hH : ∀ s1, Fwd (H (consumed b r1) r1 s1) s1 r1 r) : Fwd (seqScan G H b s) s b r := by
  unfold seqScan
  generalize G b s = res at h1 h2
  obtain ⟨o, s1⟩ := res
  cases h1
  exact (hH s1).rebase (by rw [h2, Nat.add_assoc, Nat.sub_add_cancel h3]) h3

variable {qs : List Gen.Json.Query} {cap f : Nat}

theorem lit_fwd (w : Bytes) (hw : 0 < w.length) {y r : Bytes} {a : Unit} (s : PState) (h : J.lit w y = .ok a r) :
    Fwd (consumeConst y w s) s y r := by
  have hy := lit_ok_iff w y r h
  have hl := congrArg List.length hy
  rw [List.length_append] at hl
  refine Fwd.of_eq ?_ (by omega)
  rw [consumeConst_ok w y r s hy]
  congr 2; omega

theorem kindScan_fwd (hI : FItems qs cap f) (hM : FMembers qs cap f) {lvl c : Nat} {cs : Bytes} {v : J.JVal} {r : Bytes}
    (s1 : PState) (h : valueHead true f c cs = .ok v r) (hd : v = .num → Delim r) (hcap : CapOK cap lvl (J.depth v)) :
    Fwd (kindScan qs cap f lvl (classify c) (c :: cs) s1) s1 (c :: cs) r := by
  rw [valueHead_classify] at h
  generalize classify c = k at h ⊢
  cases k <;> dsimp only [kindScan] at h ⊢
  case str =>
    obtain ⟨body, hb, _⟩ := wrap_ok_inv h
    obtain ⟨h1, h2⟩ := str_forward true cs [] body r s1.bump hb
    exact (Fwd.of_eq h1 h2).rebase (by simp only [bump_ib, List.length_cons]; omega) (Nat.le_succ _)
  case arr =>
    obtain ⟨xs, rfl⟩ := items_arr true f cs [] true v r h
    have hi := hI (lvl + 1) cs [] true xs r (s1.bump.push [0x5B]) h (capOK_arr hcap)
    have hne : cs.isEmpty = false := by
      cases cs with
      | nil => exact absurd hi.2.2 (Nat.not_lt_zero _)
      | cons _ _ => rfl
    rw [hne]
    exact Fwd.rebase hi (by simp only [push_ib, bump_ib, List.length_cons]; omega) (Nat.le_succ _)
  case obj =>
    obtain ⟨ms, rfl⟩ := members_obj true f cs [] true v r h
    exact Fwd.rebase (hM (lvl + 1) cs [] true ms r s1.bump h (capOK_obj hcap))
      (by simp only [bump_ib, List.length_cons]; omega) (Nat.le_succ _)
  case litT => obtain ⟨a, ha, _⟩ := wrap_ok_inv h; exact lit_fwd wTrue (by decide) s1 ha
  case litF => obtain ⟨a, ha, _⟩ := wrap_ok_inv h; exact lit_fwd wFalse (by decide) s1 ha
  case litN => obtain ⟨a, ha, _⟩ := wrap_ok_inv h; exact lit_fwd wNull (by decide) s1 ha
  case num =>
    rw [if_pos rfl] at h
    obtain ⟨a, ha, hv⟩ := wrap_ok_inv h
    obtain ⟨h1, h2⟩ := numStrict_forward (c :: cs) r s1 ha (hd hv)
    exact Fwd.of_eq h1 h2

/-- `FValue` with the delimiter asked for only behind a number (the other values end in a byte of their own) -/
def FValueN (qs : List Gen.Json.Query) (cap fuel : Nat) : Prop :=
  ∀ (lvl : Nat) (b : Bytes) (v : J.JVal) (r : Bytes) (s : PState),
    J.value true fuel b = .ok v r → (v = .num → Delim r) → CapOK cap lvl (J.depth v) →
    (consumeAny qs cap fuel lvl b s).1 = some (J.skipWs r) ∧
    (consumeAny qs cap fuel lvl b s).2.ib = s.ib + (b.length - (J.skipWs r).length) ∧ r.length < b.length

theorem step_valueN (hI : FItems qs cap f) (hM : FMembers qs cap f) : FValueN qs cap (f + 1) := by
  intro lvl b v r s hv hd hcap
  obtain ⟨c, cs, hb, hv⟩ := value_ok hv
  have hle := skipWs_length_le b
  have hk := kindScan_fwd hI hM ((s.enter lvl).bump (b.length - (J.skipWs b).length)) hv hd hcap
  rw [consumeAny_succ, if_neg (by rw [capOK_pass hcap]; exact Bool.false_ne_true)]
  rw [hb] at hle ⊢ hk
  simp only [anyHead, finishScan]
  generalize kindScan qs cap f lvl (classify c) (c :: cs) _ = res at hk
  obtain ⟨o, s2⟩ := res
  obtain ⟨k1, k2, k3⟩ := hk
  dsimp only at k1 k2
  subst k1
  obtain ⟨f1, f2⟩ := finishAny_some qs.isEmpty lvl (classify c).tok r s2
  have hr := skipWs_length_le r
  rw [bump_ib, enter_ib] at k2
  exact ⟨f1, by rw [f2, k2]; omega, by omega⟩

theorem step_value (qs : List Gen.Json.Query) (cap f : Nat) (hI : FItems qs cap f) (hM : FMembers qs cap f) :
    FValue qs cap (f + 1) :=
  fun lvl b v r s hv hd hcap => step_valueN hI hM lvl b v r s hv (fun _ => hd) hcap

theorem step_items (qs : List Gen.Json.Query) (cap f : Nat) (hV : FValue qs cap f) (hI : FItems qs cap f) :
    FItems qs cap (f + 1) := by
  intro L b acc first xs r s hv hx
  obtain ⟨c, cs, hb, hcase⟩ := items_ok hv
  have hle := skipWs_length_le b
  rw [arrayLoop_succ, hb]
  rw [hb] at hle
  refine Fwd.rebase (s1 := s.bump (b.length - (c :: cs).length)) ?_ (by rw [bump_ib]; omega) hle
  generalize s.bump (b.length - (c :: cs).length) = s1
  rcases hcase with ⟨rfl, _, _, rfl⟩ | ⟨_, hv⟩
  · exact ⟨rfl, show s1.bump.pop.ib = _ by simp only [pop_ib, bump_ib, List.length_cons]; omega, Nat.lt_succ_self _⟩
  · obtain ⟨v, r1, d, ds, hval, hr1, hd⟩ := itemsAfter_ok hv
    have hc : ¬ (c == 0x5D) = true := by
      intro e; rw [beq_iff_eq.mp e, value_rbracket] at hval; cases hval
    have hfacts := items_tail_facts hr1 hd
    obtain ⟨a1, a2, a3⟩ := hV L (c :: cs) v r1 s1 hval hfacts.1 (hx v hfacts.2)
    have h1 := skipWs_length_le r1
    rw [hr1] at a1 a2 h1
    rw [arrHead_seq qs cap f L hc]
    refine Fwd.seq a1 a2 (Nat.le_trans h1 (Nat.le_of_lt a3)) fun s2 => ?_
    rcases hd with ⟨rfl, hrec⟩ | ⟨rfl, _, rfl⟩
    · exact Fwd.rebase (hI L ds (v :: acc) false xs r s2.bump hrec hx) (by rw [bump_ib, List.length_cons, Nat.add_right_comm, Nat.add_assoc])
        (Nat.le_succ _)
    · exact ⟨rfl, show s2.bump.pop.ib = _ by rw [pop_ib, bump_ib, List.length_cons, Nat.add_sub_cancel_left], Nat.lt_succ_self _⟩

theorem objValue_fwd (hV : FValue qs cap f) (hM : FMembers qs cap f) {L : Nat} {acc ms : List (Bytes × J.JVal)} {k ds r : Bytes}
    (qm : Option Gen.Json.Query) (s5 : PState)
    (h : membersAfterVal true f acc k (J.value true f ds) = .ok (.obj ms) r) (hx : ∀ m ∈ ms, CapOK cap L (J.depth m.2)) :
    Fwd (objValue qs cap f L qm (J.skipWs ds) s5) s5 (J.skipWs ds) r := by
  obtain ⟨v, r2, g, gs, hval, hr2, hg⟩ := membersAfterVal_ok h
  rw [value_skipWs] at hval
  rcases hds : J.skipWs ds with _ | ⟨e, es⟩
  · exact absurd (by rw [hds]; rfl) (value_ne_nil hval)
  rw [hds] at hval
  have hfacts := members_tail_facts hr2 hg
  obtain ⟨a1, a2, a3⟩ := hV L (e :: es) v r2 s5 hval hfacts.1 (hx _ hfacts.2)
  have h1 := skipWs_length_le r2
  rw [hr2] at a1 a2 h1
  rw [objValue_seq]
  refine Fwd.seq a1 a2 (Nat.le_trans h1 (Nat.le_of_lt a3)) fun s6 => ?_
  rcases hg with ⟨rfl, hrec⟩ | ⟨rfl, _, rfl⟩
  · exact Fwd.rebase (hM L gs ((k, v) :: acc) false ms r _ hrec hx)
      (by rw [bump_ib, pop_ib, applyQuery_ib, List.length_cons, Nat.add_right_comm, Nat.add_assoc]) (Nat.le_succ _)
  · exact ⟨rfl, show (applyQuery qm _ s6).pop.bump.ib = _ by
      rw [bump_ib, pop_ib, applyQuery_ib, List.length_cons, Nat.add_sub_cancel_left], Nat.lt_succ_self _⟩

theorem step_members (qs : List Gen.Json.Query) (cap f : Nat) (hV : FValue qs cap f) (hM : FMembers qs cap f) :
    FMembers qs cap (f + 1) := by
  intro L b acc first ms r s hv hx
  obtain ⟨c, cs, hb, hcase⟩ := members_ok hv
  have hle := skipWs_length_le b
  rw [objectLoop_succ, hb]
  rw [hb] at hle
  refine Fwd.rebase (s1 := s.bump (b.length - (c :: cs).length)) ?_ (by rw [bump_ib]; omega) hle
  generalize s.bump (b.length - (c :: cs).length) = s1
  rcases hcase with ⟨rfl, _, _, rfl⟩ | ⟨_, rfl, hv⟩
  · exact ⟨rfl, show s1.bump.ib = _ by simp only [bump_ib, List.length_cons]; omega, Nat.lt_succ_self _⟩
  · -- key, colon, then `objValue`
    obtain ⟨key, r0, ds, hstr, hr0, hv⟩ := membersAfterKey_ok hv
    obtain ⟨k1, k2⟩ := str_forward true cs [] key r0 s1.bump hstr
    have h0 := skipWs_length_le r0
    have h2 := skipWs_length_le ds
    rw [hr0, List.length_cons] at h0
    rw [objHead_seq]
    refine Fwd.rebase (s1 := s1.bump) (b1 := cs) ?_ (by rw [bump_ib, List.length_cons, Nat.add_right_comm, Nat.add_assoc]) (Nat.le_succ _)
    refine Fwd.seq (by rw [k1]) (by rw [k1]; rfl) (Nat.le_of_lt k2) fun s2 => ?_
    rw [objAfterKey_eq, hr0, objColon_colon]
    exact Fwd.rebase (objValue_fwd hV hM _ _ hv hx) (by simp only [bump_ib, push_ib, List.length_cons]; omega) (by omega)

theorem forward_all (qs : List Gen.Json.Query) (cap : Nat) : ∀ fuel : Nat,
    FValue qs cap fuel ∧ FItems qs cap fuel ∧ FMembers qs cap fuel := by
  intro fuel
  induction fuel with
  | zero =>
    refine ⟨?_, ?_, ?_⟩
    · intro lvl b v r s h; rw [J.value] at h; cases h
    · intro L b acc first xs r s h; rw [J.items] at h; cases h
    · intro L b acc first ms r s h; rw [J.members] at h; cases h
  | succ f ih =>
    obtain ⟨hV, hI, hM⟩ := ih
    exact ⟨step_value qs cap f hI hM, step_items qs cap f hV hI, step_members qs cap f hV hM⟩

theorem forward_valueN (qs : List Gen.Json.Query) (cap : Nat) : ∀ fuel : Nat, FValueN qs cap fuel
  | 0 => fun lvl b v r s h => by rw [J.value] at h; cases h
  | f + 1 => step_valueN (forward_all qs cap f).2.1 (forward_all qs cap f).2.2

end Mime.JsonForward
