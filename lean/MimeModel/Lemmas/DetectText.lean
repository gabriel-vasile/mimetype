import MimeModel.Gen.Tree
import MimeModel.Lemmas.DetectPath
/-
  The `text` node of the built-in tree (text/plain) and the paths that lead through it: root →
  `text` → a child of `text` selected by a predicate.  What `descend`, `pathNodes` and `rivals`
  are on them, and that the path is accepted when `Text` and the child's detector accept.
  The namespace is `Mime.C08` because the node definitions `C08.isNamed`, `C08.textNode`,
  `C08.jsonNode` are named so in the statements of C08 and its successors.
-/
namespace Mime.C08
open Mime Mime.Tree

def isNamed (n : String) (t : Tree Info) : Bool := t.info.name == n

/-- the `text` node of the built-in tree and its `json` child -/
def textNode : Tree Info := (Gen.builtin.children.find? (isNamed "text")).getD Gen.builtin
def jsonNode : Tree Info := (textNode.children.find? (isNamed "json")).getD Gen.builtin

/-- the two nodes are there, with their detectors, and json comes after eight siblings (one evaluation of the tree) -/
theorem builtin_nodes :
    (Gen.builtin.children.find? (isNamed "text")).isSome = true ∧
    (textNode.children.find? (isNamed "json")).isSome = true ∧
    (textNode.info.det = .custom .text ∧ jsonNode.info.det = .custom .json) ∧
    (textNode.children.takeWhile (fun x => !isNamed "json" x)).map (·.info.name) =
      ["html", "svg", "xml", "php", "js", "lua", "perl", "python"] := by decide +kernel

theorem text_found : Gen.builtin.children.find? (isNamed "text") = some textNode :=
  DetectPath.found _ builtin_nodes.1

theorem json_found : textNode.children.find? (isNamed "json") = some jsonNode :=
  DetectPath.found _ builtin_nodes.2.1

theorem node_dets : textNode.info.det = .custom .text ∧ jsonNode.info.det = .custom .json :=
  builtin_nodes.2.2.1

theorem accepts_text (ext : Ext) (h : Bytes) (lim : Nat) {i : Info} (hd : i.det = .custom .text) :
    accepts ext h lim i = Cust.text h :=
  DetectPath.accepts_custom_total ext h lim i .text (fun raw _ => Cust.text raw) hd rfl

end Mime.C08

namespace Mime.DetectText
open Mime Mime.Tree Mime.WalkPath

variable {q : Tree Info → Bool} {n : Tree Info}

theorem descend_text (h : C08.textNode.children.find? q = some n) :
    descend [C08.isNamed "text", q] Gen.builtin = some n := by
  rw [descend_step C08.text_found, descend_step h]
  rfl

theorem pathNodes_text (h : C08.textNode.children.find? q = some n) :
    pathNodes [C08.isNamed "text", q] Gen.builtin = [C08.textNode, n] := by
  rw [pathNodes_step C08.text_found, pathNodes_step h]
  rfl

theorem rivals_text (h : C08.textNode.children.find? q = some n) :
    rivals [C08.isNamed "text", q] Gen.builtin =
      Gen.builtin.children.takeWhile (fun x => !C08.isNamed "text" x) ++
      C08.textNode.children.takeWhile (fun x => !q x) := by
  rw [rivals_step C08.text_found, rivals_step h, rivals, List.append_nil]

theorem accepted_text (ext : Ext) (hdr : Bytes) (lim : Nat) (h : C08.textNode.children.find? q = some n)
    (htext : Cust.text hdr = true) (hacc : accepts ext hdr lim n.info = true) :
    ∀ m ∈ pathNodes [C08.isNamed "text", q] Gen.builtin, accepts ext hdr lim m.info = true := by
  rw [pathNodes_text h]
  refine List.forall_mem_cons.2 ⟨?_, List.forall_mem_singleton.2 hacc⟩
  rw [C08.accepts_text ext _ lim C08.node_dets.1]
  exact htext

end Mime.DetectText
