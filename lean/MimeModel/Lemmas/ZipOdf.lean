import MimeModel.Lemmas.ZipConverse
import MimeModel.Lemmas.WalkPath
/-
  For the OpenDocument / EPUB clause of C19: an archive whose first entry is the stored `mimetype`
  file shows `mimetype` and the type at offset 30, and the OOXML variant of `zipContains` (the
  first-entry check of zip.go) answers `false` at a first entry whose name is neither the marker
  nor one of the OOXML "skip files".
-/
namespace Mime.ZipOdf
open Mime Mime.Spec.Zip Mime.ZipLayout Mime.Tree Mime.WalkPath

/-- neither starts with the other -/
def incomp (a b : Bytes) : Bool := !hasPrefix a b && !hasPrefix b a

theorem incomp_false {a b x : Bytes} (h : incomp a b = true) (ha : hasPrefix x a = true) :
    hasPrefix x b = false := by
  cases hb : hasPrefix x b with
  | false => rfl
  | true =>
    exfalso
    simp only [incomp, Bool.and_eq_true, Bool.not_eq_true'] at h
    rw [hasPrefix_iff] at ha hb
    rcases List.prefix_or_prefix_of_prefix ha hb with h1 | h1
    · have := hasPrefix_iff.mpr h1
      rw [h.2] at this; cases this
    · have := hasPrefix_iff.mpr h1
      rw [h.1] at this; cases this

/-- `mimetype` -/
def mtB : Bytes := [109, 105, 109, 101, 116, 121, 112, 101]

theorem mtB_eq : ofString "mimetype" = mtB := by rw [ofString_ofList]; decide +kernel

/-- the first entry is the stored `mimetype` file naming the type `ty`: well-formed header,
    name `mimetype`, no extra field, and the data (stored, i.e. the file's own bytes) start
    with `ty` -/
structure StoredMimetype (e : Entry) (ty : Bytes) : Prop where
  wf : e.WF
  name : e.name = ofString "mimetype"
  extra : e.extra = []
  data : hasPrefix e.data ty = true

instance (e : Entry) (ty : Bytes) : Decidable (StoredMimetype e ty) :=
  if h : e.WF ∧ e.name = ofString "mimetype" ∧ e.extra = [] ∧ hasPrefix e.data ty = true
  then isTrue ⟨h.1, h.2.1, h.2.2.1, h.2.2.2⟩
  else isFalse (fun s => h ⟨s.wf, s.name, s.extra, s.data⟩)

theorem drop30 {e : Entry} {ty : Bytes} (h : StoredMimetype e ty) (es : List Entry) (tail : Bytes) :
    (archive (e :: es) tail).drop 30 = mtB ++ (e.data ++ (e.desc ++ archive es tail)) := by
  rw [archive_drop_30 e es tail h.wf, h.name, mtB_eq, h.extra]
  simp only [List.nil_append, List.append_assoc]

theorem archive_length_38 {e : Entry} {ty : Bytes} (h : StoredMimetype e ty) (es : List Entry)
    (tail : Bytes) : 38 ≤ (archive (e :: es) tail).length := by
  have h1 := archive_length_ge e es tail
  have h2 := image_length_wf h.wf
  have h3 : e.name.length = 8 := by rw [h.name, mtB_eq]; rfl
  omega

theorem mimetype_at_30 {e : Entry} {ty : Bytes} (h : StoredMimetype e ty) (es : List Entry)
    (tail : Bytes) :
    hasPrefix ((archive (e :: es) tail).drop 30) (ofString "mimetype" ++ ty) = true ∧
    31 ≤ (archive (e :: es) tail).length := by
  refine ⟨?_, by have := archive_length_38 h es tail; omega⟩
  rw [drop30 h, mtB_eq, hasPrefix_append_left]
  exact hasPrefix_append _ h.data

/-- zip.go, `msoCheck` branch: the marker is not at the first name position and the first name
    is none of the "skip files" ⇒ `false`, immediately -/
theorem zipContains_mso_first (raw sig : Bytes) (hl : 30 ≤ raw.length)
    (hpk : hasPrefix raw pk34 = true)
    (h1 : hasPrefix (raw.drop 30) sig = false)
    (h2 : msoSkipFiles.any (fun sf => hasPrefix (raw.drop 30) sf) = false) :
    zipContains raw sig true = some false := by
  rw [zipContains_of_header raw sig true hl hpk, C19Base.zipWalk_eq raw sig true hl, h1, h2]
  rfl

theorem zipContains_mso_first_name (raw sig n : Bytes) (hl : 30 ≤ raw.length)
    (hpk : hasPrefix raw pk34 = true) (hn : hasPrefix (raw.drop 30) n = true)
    (hsig : incomp n sig = true) (hskip : msoSkipFiles.all (fun sf => incomp n sf) = true) :
    zipContains raw sig true = some false := by
  refine zipContains_mso_first raw sig hl hpk (incomp_false hsig hn) ?_
  rw [List.any_eq_false]
  intro sf hsf
  rw [List.all_eq_true] at hskip
  rw [incomp_false (hskip sf hsf) hn]
  exact Bool.false_ne_true

theorem mso_rejects_first_entry (e : Entry) (es : List Entry) (tail sig : Bytes) (hwf : e.WF)
    (hsig : incomp e.name sig = true) (hskip : msoSkipFiles.all (fun sf => incomp e.name sf) = true) :
    zipContains (archive (e :: es) tail) sig true = some false :=
  zipContains_mso_first_name _ sig e.name (archive_length_30 e es tail hwf)
    (archive_hasPrefix_pk34 e es tail) (archive_name_at_30 e es tail hwf) hsig hskip

theorem mimetype_skip : msoSkipFiles.all (fun sf => incomp mtB sf) = true := by
  unfold msoSkipFiles
  repeat rw [ofString_ofList]
  decide +kernel

end Mime.ZipOdf
