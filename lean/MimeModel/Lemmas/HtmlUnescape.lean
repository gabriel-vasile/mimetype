import MimeModel.Model.HtmlTokFull
import MimeModel.Lemmas.HtmlTok
/-
  Theorems about `Mime.HtmlEnt.unescape` (character references, escape.go of x/net/html) and the
  total tokenizer model `Mime.HtmlTok.startTagsFull` / `fromHTMLBytesFull`.  A reference consumes
  at least one byte, so the fuel of the copy loop is irrelevant and `unescape` has fuel-free loop
  equations; the total model extends the `Option` one, and `fromHTML` reads only the http-equiv /
  content / charset values of `meta` tags.  Hence C12's HTML clause WITHOUT the "no `&`" side
  condition (`charset_value_unescaped`).
-/
namespace Mime.HtmlUnescapeLemmas
open Mime Mime.Charset Mime.HtmlTok Mime.HtmlEnt Mime.HtmlTokLemmas

theorem noAmp_iff (b : Bytes) : b.contains 0x26 = false ↔ ∀ x ∈ b, x ≠ 0x26 := by
  rw [List.contains_eq_any_beq, List.any_eq_false]
  constructor
  · intro h x hx e
    exact h x hx (by rw [e]; rfl)
  · intro h x hx e
    have e' : (38 : Nat) = x := by simpa using e
    exact h x hx e'.symm

theorem noAmp_cons (c : Nat) (r : Bytes) :
    (c :: r).contains 0x26 = false ↔ (c == 0x26) = false ∧ r.contains 0x26 = false := by
  rw [noAmp_iff, noAmp_iff]
  simp only [List.mem_cons, forall_eq_or_imp, beq_eq_false_iff_ne, ne_eq]

theorem unescape_nil (a : Bool) : unescape a [] = [] := rfl

/-- the fast path of `unescape` (return `b` when it has no `&`) is what the loop would compute -/
theorem unescapeLoop_noAmp (a : Bool) : ∀ (f : Nat) (b : Bytes), b.contains 0x26 = false → unescapeLoop a f b = b
  | 0, b, _ => by simp only [unescapeLoop]
  | f + 1, [], _ => by simp only [unescapeLoop]
  | f + 1, c :: r, h => by
    obtain ⟨hc, hr⟩ := (noAmp_cons c r).mp h
    simp only [unescapeLoop, hc, Bool.false_eq_true, ↓reduceIte]
    rw [unescapeLoop_noAmp a f r hr]

theorem unescape_noAmp (a : Bool) (b : Bytes) (h : b.contains 0x26 = false) : unescape a b = b := by
  simp only [unescape, h, Bool.false_eq_true, ↓reduceIte]

theorem ite_snd_pos {c : Prop} [Decidable c] {x y : Bytes × Nat} (hx : 1 ≤ x.2) (hy : ¬ c → 1 ≤ y.2) :
    1 ≤ (if c then x else y).2 := by
  split
  · exact hx
  · exact hy ‹_›

/-- `unescapeEntity` always advances `src`: every exit returns 1, a numeric `i > 3`, `1 + scanName …`
    or `j + 1` -/
theorem unescapeEntity_pos (a : Bool) (s : Bytes) : 1 ≤ (unescapeEntity a s).2 := by
  have h1 : 1 ≤ 1 + scanName (s.drop 1) := Nat.le_add_right 1 _
  unfold unescapeEntity
  refine ite_snd_pos (Nat.le_refl 1) fun _ => ite_snd_pos ?_ fun _ => ?_
  · exact ite_snd_pos (Nat.le_refl 1) fun _ => ite_snd_pos (Nat.le_refl 1) fun h =>
      Nat.le_of_lt (Nat.lt_of_lt_of_le (by decide) (Nat.le_of_not_le h))
  · refine ite_snd_pos h1 fun _ => ite_snd_pos h1 fun _ => ?_
    split
    · exact h1
    split
    · exact h1
    refine ite_snd_pos ?_ fun _ => h1
    split
    · exact Nat.le_add_left 1 _
    · exact h1

theorem unescapeLoop_fuel (a : Bool) : ∀ (f g : Nat) (b : Bytes), b.length ≤ f → b.length ≤ g →
    unescapeLoop a f b = unescapeLoop a g b
  | 0, g, b, hf, _ => by
    have : b = [] := List.eq_nil_of_length_eq_zero (Nat.le_zero.mp hf)
    subst this
    cases g <;> simp only [unescapeLoop]
  | f + 1, g, [], _, _ => by cases g <;> simp only [unescapeLoop]
  | f + 1, 0, c :: r, _, hg => by simp at hg
  | f + 1, g + 1, c :: r, hf, hg => by
    simp only [List.length_cons] at hf hg
    simp only [unescapeLoop]
    split
    · have hp := unescapeEntity_pos a (c :: r)
      have hl : ((c :: r).drop (unescapeEntity a (c :: r)).2).length ≤ r.length := by
        rw [List.length_drop, List.length_cons]; omega
      rw [unescapeLoop_fuel a f g _ (by omega) (by omega)]
    · rw [unescapeLoop_fuel a f g r (by omega) (by omega)]

theorem unescape_eq_loop (a : Bool) (f : Nat) (b : Bytes) (h : b.length ≤ f) : unescape a b = unescapeLoop a f b := by
  unfold unescape
  split
  · exact unescapeLoop_fuel a _ _ b (Nat.le_refl _) h
  · rename_i hc
    exact (unescapeLoop_noAmp a f b (by simpa using hc)).symm

theorem unescape_amp_step (a : Bool) (r : Bytes) :
    unescape a (0x26 :: r) =
      (unescapeEntity a (0x26 :: r)).1 ++ unescape a ((0x26 :: r).drop (unescapeEntity a (0x26 :: r)).2) := by
  rw [unescape_eq_loop a (r.length + 1) (0x26 :: r) (by simp)]
  simp only [unescapeLoop, beq_self_eq_true, ↓reduceIte]
  rw [unescape_eq_loop a r.length]
  have hp := unescapeEntity_pos a (0x26 :: r)
  rw [List.length_drop, List.length_cons]; omega

theorem unescape_cons_noAmp (a : Bool) (c : Nat) (r : Bytes) (hc : c ≠ 0x26) :
    unescape a (c :: r) = c :: unescape a r := by
  rw [unescape_eq_loop a (r.length + 1) (c :: r) (by simp), unescape_eq_loop a r.length r (Nat.le_refl _)]
  have : (c == 0x26) = false := by simpa using hc
  simp only [unescapeLoop, this, Bool.false_eq_true, ↓reduceIte]

theorem unescape_append_noAmp_left (a : Bool) (p s : Bytes) (h : p.contains 0x26 = false) :
    unescape a (p ++ s) = p ++ unescape a s := by
  induction p with
  | nil => rfl
  | cons c p ih =>
    obtain ⟨hc, hp⟩ := (noAmp_cons c p).mp h
    rw [List.cons_append, unescape_cons_noAmp a c _ (by simpa using hc), ih hp, List.cons_append]

/- Named references on concrete values: the table chunk by chunk.

`entity` is the concatenation of eleven chunks, the first ten sorted by the first byte of the name.
The kernel pays for the nested `++` at every entry it walks over, and a miss walks over all 2138.
`entityFast` looks into a chunk only when the first byte of the name is in the chunk's range; the
ranges written there must be those of the regenerated chunks, and nothing but the ten `decide +kernel`
in `entity_lookup` checks that.  The model transcribes escape.go with the table built in, so the functions
are repeated below with the lookup as a parameter (`prefixLoopL` … `unescapeL`), only to be evaluated:
`unescapeL entityFast` is `unescape` (`unescape_eq_fast`), the form the examples are evaluated in. -/

def firstIn (lo hi : Nat) (t : List (Bytes × Nat)) : Bool := t.all fun p => lo ≤ p.1.headD 0 && p.1.headD 0 ≤ hi

def lookupIn (lo hi : Nat) (t : List (Bytes × Nat)) (n : Bytes) : Option Nat :=
  if lo ≤ n.headD 0 && n.headD 0 ≤ hi then t.lookup n else none

theorem lookupIn_eq {lo hi : Nat} {t : List (Bytes × Nat)} (h : firstIn lo hi t = true) (n : Bytes) :
    t.lookup n = lookupIn lo hi t n := by
  unfold lookupIn
  split
  · rfl
  · rename_i hn
    induction t with
    | nil => rfl
    | cons p t ih =>
      simp only [firstIn, List.all_cons, Bool.and_eq_true] at h
      have hp : (n == p.1) = false := by
        apply beq_false_of_ne
        intro e
        rw [e] at hn
        exact hn (by simpa using h.1)
      rw [List.lookup_cons, hp]
      exact ih h.2

def entityFast (n : Bytes) : Option Nat :=
  (lookupIn 65 73 entityA n).or <| (lookupIn 73 82 entityB n).or <| (lookupIn 82 97 entityC n).or <|
  (lookupIn 97 99 entityD n).or <| (lookupIn 99 102 entityE n).or <| (lookupIn 102 108 entityF n).or <|
  (lookupIn 108 110 entityG n).or <| (lookupIn 110 114 entityH n).or <| (lookupIn 114 115 entityI n).or <|
  (lookupIn 115 120 entityJ n).or <| entityK.lookup n

theorem entity_lookup (n : Bytes) : entity.lookup n = entityFast n := by
  simp only [entity, List.lookup_append, entityFast, Option.or_assoc]
  rw [lookupIn_eq (by decide +kernel : firstIn 65 73 entityA = true), lookupIn_eq (by decide +kernel : firstIn 73 82 entityB = true),
    lookupIn_eq (by decide +kernel : firstIn 82 97 entityC = true), lookupIn_eq (by decide +kernel : firstIn 97 99 entityD = true),
    lookupIn_eq (by decide +kernel : firstIn 99 102 entityE = true), lookupIn_eq (by decide +kernel : firstIn 102 108 entityF = true),
    lookupIn_eq (by decide +kernel : firstIn 108 110 entityG = true), lookupIn_eq (by decide +kernel : firstIn 110 114 entityH = true),
    lookupIn_eq (by decide +kernel : firstIn 114 115 entityI = true), lookupIn_eq (by decide +kernel : firstIn 115 120 entityJ = true)]

/-- `prefixLoop` with `look` for `entity.lookup` -/
def prefixLoopL (look : Bytes → Option Nat) (name : Bytes) : Nat → Option (Nat × Nat)
  | 0 => none
  | j + 1 =>
    if j + 1 > 1 then
      match look (name.take (j + 1)) with
      | some x => some (x, j + 1)
      | none => prefixLoopL look name j
    else none

/-- `unescapeEntity` with `look` for `entity.lookup` -/
def unescapeEntityL (look : Bytes → Option Nat) (attr : Bool) (s : Bytes) : Bytes × Nat :=
  if s.length ≤ 1 then (s.take 1, 1)
  else if s.getD 1 0 == 0x23 then
    if s.length ≤ 3 then (s.take 1, 1)
    else
      let hex := s.getD 2 0 == 0x78 || s.getD 2 0 == 0x58
      let i0 := if hex then 3 else 2
      let p := scanNum hex 0 (s.drop i0)
      let i := i0 + p.2
      if i ≤ 3 then (s.take 1, 1)
      else (encodeRune (fixRune p.1), i)
  else
    let i := 1 + scanName (s.drop 1)
    let name := (s.take i).drop 1
    if name == [] then (s.take i, i)
    else if attr && name.getLast? != some 0x3B && s[i]? == some 0x3D then (s.take i, i)
    else
      match look name with
      | some x => (encodeRune x, i)
      | none =>
        match entity2.lookup name with
        | some x => (encodeRune x.1 ++ encodeRune x.2, i)
        | none =>
          if !attr then
            match prefixLoopL look name (min (name.length - 1) longestEntityWithoutSemicolon) with
            | some (x, j) => (encodeRune x, j + 1)
            | none => (s.take i, i)
          else (s.take i, i)

def unescapeLoopL (look : Bytes → Option Nat) (attr : Bool) : Nat → Bytes → Bytes
  | 0, b => b
  | _ + 1, [] => []
  | fuel + 1, c :: r =>
    if c == 0x26 then
      let p := unescapeEntityL look attr (c :: r)
      p.1 ++ unescapeLoopL look attr fuel ((c :: r).drop p.2)
    else c :: unescapeLoopL look attr fuel r

def unescapeL (look : Bytes → Option Nat) (attr : Bool) (b : Bytes) : Bytes :=
  if b.contains 0x26 then unescapeLoopL look attr b.length b else b

theorem prefixLoopL_entity (name : Bytes) : ∀ j, prefixLoopL (entity.lookup ·) name j = prefixLoop name j
  | 0 => rfl
  | j + 1 => by
    simp only [prefixLoopL, prefixLoop, prefixLoopL_entity name j]
    rfl

theorem unescapeEntityL_entity (attr : Bool) (s : Bytes) : unescapeEntityL (entity.lookup ·) attr s = unescapeEntity attr s := by
  simp only [unescapeEntityL, unescapeEntity, prefixLoopL_entity]
  rfl

theorem unescapeLoopL_entity (attr : Bool) : ∀ f b, unescapeLoopL (entity.lookup ·) attr f b = unescapeLoop attr f b
  | 0, _ => rfl
  | _ + 1, [] => rfl
  | f + 1, c :: r => by simp only [unescapeLoopL, unescapeLoop, unescapeEntityL_entity, unescapeLoopL_entity attr f]

theorem unescape_eq_fast (attr : Bool) (b : Bytes) : unescape attr b = unescapeL entityFast attr b := by
  rw [← funext entity_lookup]
  simp only [unescapeL, unescape, unescapeLoopL_entity]

theorem entity_semicolon : entity.lookup [0x3B] = none := by rw [entity_lookup]; decide +kernel
theorem entity2_semicolon : entity2.lookup [0x3B] = none := by decide +kernel

theorem unescapeEntity_amp_only (a : Bool) (c : Nat) (rest : Bytes) (h1 : c ≠ 0x23) (h2 : isAlnum c = false) :
    unescapeEntity a (0x26 :: c :: rest) = if c = 0x3B then ([0x26, 0x3B], 2) else ([0x26], 1) := by
  have e1 : (c == 0x23) = false := by simpa using h1
  unfold unescapeEntity
  simp only [List.length_cons, List.getD_cons_succ, List.getD_cons_zero, e1, List.drop_succ_cons, List.drop_zero,
    scanName, h2, Bool.false_eq_true, ↓reduceIte]
  have l1 : ¬ (rest.length + 1 + 1 ≤ 1) := by omega
  simp only [l1, ↓reduceIte]
  by_cases hs : c = 0x3B
  · subst hs
    simp only [beq_self_eq_true, ↓reduceIte, Nat.reduceAdd, List.take_succ_cons, List.take_zero, List.drop_succ_cons,
      List.drop_zero, List.getLast?_singleton, bne_self_eq_false, Bool.and_false,
      entity_semicolon, entity2_semicolon, List.length_singleton, Nat.sub_self, Nat.zero_min, prefixLoop]
    cases a <;> simp
  · have e2 : (c == 0x3B) = false := by simpa using hs
    simp [e2, hs]

/-- `&` followed by a byte that cannot start a reference (not `#`, not
    `[a-zA-Z0-9]`) stays `&`, and unescaping goes on with that byte -/
theorem unescape_amp_only (a : Bool) (c : Nat) (rest : Bytes) (h1 : c ≠ 0x23) (h2 : isAlnum c = false) :
    unescape a (0x26 :: c :: rest) = 0x26 :: unescape a (c :: rest) := by
  rw [unescape_amp_step, unescapeEntity_amp_only a c rest h1 h2]
  by_cases hs : c = 0x3B
  · subst hs
    rw [unescape_cons_noAmp a 0x3B rest (by decide)]
    simp
  · simp [hs]

theorem unescape_amp_end (a : Bool) (p : Bytes) (h : p.contains 0x26 = false) : unescape a (p ++ [0x26]) = p ++ [0x26] := by
  rw [unescape_append_noAmp_left a p _ h]
  cases a <;> rfl

theorem convNLAux_noAmp : ∀ (v : Bytes) (afterCR : Bool), v.contains 0x26 = false → (convNLAux afterCR v).contains 0x26 = false
  | [], _, _ => rfl
  | c :: r, afterCR, h => by
    obtain ⟨hc, hr⟩ := (noAmp_cons c r).mp h
    simp only [convNLAux]
    split
    · exact (noAmp_cons _ _).mpr ⟨by decide, convNLAux_noAmp r true hr⟩
    · split
      · exact convNLAux_noAmp r false hr
      · exact (noAmp_cons _ _).mpr ⟨hc, convNLAux_noAmp r false hr⟩

theorem convNL_noAmp (v : Bytes) (h : v.contains 0x26 = false) : (convNL v).contains 0x26 = false :=
  convNLAux_noAmp v false h

theorem finishTagFull_of_noAmp (t : Tag) (h : hasAmp t = false) : finishTagFull t = finishTag t := by
  simp only [finishTagFull, finishTag, Tag.mk.injEq, true_and]
  apply List.map_congr_left
  intro kv hkv
  simp only [hasAmp, List.any_eq_false] at h
  have := h kv hkv
  rw [unescape_noAmp true _ (convNL_noAmp kv.2 (by simpa using this))]

theorem startTagsFull_of_startTags (c : Bytes) (ts : List Tag) (h : startTags c = some ts) : startTagsFull c = ts := by
  unfold startTags at h
  simp only at h
  split at h
  · exact absurd h (by simp)
  · rename_i hany
    injection h with h
    rw [← h]
    unfold startTagsFull
    apply List.map_congr_left
    intro t ht
    apply finishTagFull_of_noAmp
    simp only [Bool.not_eq_true, List.any_eq_false] at hany
    simpa using hany t ht

/-- the keys whose VALUES `fromHTML` looks at (of `meta` tags only) -/
def readKey (k : Bytes) : Bool := k == kHttpEquiv || k == kContent || k == kwCharset

/-- `TagAttr` with `f` as the value post-processing -/
def mapVals (f : Bytes → Bytes) (t : Tag) : Tag := { name := t.name, attrs := t.attrs.map (fun kv => (kv.1, f kv.2)) }

theorem finishTag_eq_mapVals : finishTag = mapVals convNL := rfl
theorem finishTagFull_eq_mapVals : finishTagFull = mapVals (fun v => unescape true (convNL v)) := rfl

/-- `fromHTMLBytesFull` evaluated with the chunked lookup -/
theorem fromHTMLBytesFull_eq_fast (c : Bytes) :
    fromHTMLBytesFull c = fromHTML c ((rawTags c).map (mapVals fun v => unescapeL entityFast true (convNL v))) := by
  simp only [← unescape_eq_fast]
  rfl

theorem metaAttrs_congr (f g : Bytes → Bytes) : ∀ (as : List (Bytes × Bytes)) (seen : List Bytes) (gp : Bool) (need : Need) (name : Bytes),
    (∀ kv ∈ as, readKey kv.1 = true → f kv.2 = g kv.2) →
    metaAttrs (as.map (fun kv => (kv.1, f kv.2))) seen gp need name =
      metaAttrs (as.map (fun kv => (kv.1, g kv.2))) seen gp need name
  | [], _, _, _, _, _ => rfl
  | (k, v) :: rest, seen, gp, need, name, h => by
    have ih := fun s b n nm => metaAttrs_congr f g rest s b n nm (fun kv hkv => h kv (List.mem_cons_of_mem _ hkv))
    simp only [List.map_cons, metaAttrs]
    by_cases hr : readKey k = true
    · rw [h (k, v) (List.mem_cons_self ..) hr]
      simp only [ih]
    · simp only [readKey, Bool.or_eq_true, not_or, Bool.not_eq_true] at hr
      simp only [hr.1.1, hr.1.2, hr.2, Bool.false_eq_true, ↓reduceIte, ih]

theorem fromHTMLToks_congr (f g : Bytes → Bytes) : ∀ (ts : List Tag),
    (∀ t ∈ ts, t.name = kMeta → ∀ kv ∈ t.attrs, readKey kv.1 = true → f kv.2 = g kv.2) →
    fromHTMLToks (ts.map (mapVals f)) = fromHTMLToks (ts.map (mapVals g))
  | [], _ => rfl
  | t :: ts, h => by
    have hts := fromHTMLToks_congr f g ts (fun u hu => h u (List.mem_cons_of_mem _ hu))
    simp only [List.map_cons, fromHTMLToks, mapVals]
    by_cases hn : t.name = kMeta
    · rw [metaAttrs_congr f g t.attrs _ _ _ _ (h t (List.mem_cons_self ..) hn)]
      rw [hts]
    · have : (t.name != kMeta) = true := by simpa using hn
      simp only [this, ↓reduceIte]
      exact hts

/-- if the http-equiv / content / charset values of the
    `meta` tags contain no `&`, character references anywhere else — other attributes of those
    tags, attributes of other tags, keys, text — do not change the answer of `FromHTML` -/
theorem fromHTML_values_unescaped (c : Bytes)
    (h : ∀ t ∈ rawTags c, t.name = kMeta → ∀ kv ∈ t.attrs, readKey kv.1 = true → kv.2.contains 0x26 = false) :
    fromHTMLBytesFull c = Charset.fromHTML c ((rawTags c).map finishTag) := by
  unfold fromHTMLBytesFull startTagsFull Charset.fromHTML
  rw [finishTagFull_eq_mapVals, finishTag_eq_mapVals,
    fromHTMLToks_congr (fun v => unescape true (convNL v)) convNL (rawTags c)
      (fun t ht hn kv hkv hr => unescape_noAmp true _ (convNL_noAmp kv.2 (h t ht hn kv hkv hr)))]

/- The declarations named `Mime.DetectHtml.…` below are the part of the Detect-level argument that
   `charset_value_unescaped` already needs; Lemmas/DetectHtml.lean, which imports this file, has the rest. -/

/-- `M` is the source text of a `<meta …>` start tag with the attributes `as`: read from the text
    state it is reported as `meta` with the lower-cased keys and the literal values of `as`, and
    tokenization continues in the text state behind it -/
def _root_.Mime.DetectHtml.MetaSrc (M : Bytes) (as : List AttrSrc) : Prop :=
  ∀ rest, rawTags (M ++ rest) = { name := kMeta, attrs := parsed as } :: rawTags rest

theorem _root_.Mime.DetectHtml.metaSrc_tagText (nm ws0 : Bytes) (as : List AttrSrc)
    (hnm : lowerASCII nm = kMeta) (hws : ∀ x ∈ ws0, isWS x = true) (hws0 : ws0 = [] → as = [])
    (hwf : attrsWf as) : DetectHtml.MetaSrc (tagText nm ws0 as) as :=
  fun rest => meta_first_tag_raw nm ws0 as rest hnm hws hws0 hwf

/-- behind a part `P` the tokenizer skips (no `meta` tag in it, back in the text state) the first `<meta …>`
    tag decides, if the prescan answers a non-empty `result` on its finished attributes whatever tags follow:
    no coverage hypothesis, unlike `fromHTMLBytes_meta_decides` -/
theorem _root_.Mime.DetectHtml.fromHTMLBytesFull_meta_decides_src (P M : Bytes) (as : List AttrSrc) (rest result : Bytes)
    (hP : Skips P) (hM : DetectHtml.MetaSrc M as)
    (hres : ∀ more, fromHTMLToks (finishTagFull { name := kMeta, attrs := parsed as } :: more) = result)
    (hne : result ≠ [])
    (hbom : fromBOM (P ++ M ++ rest) = csNone) :
    fromHTMLBytesFull (P ++ M ++ rest) = result := by
  rw [fromHTMLBytesFull, startTagsFull, fromHTML, hbom,
    fromHTMLToks_behind finishTagFull (fun _ => rfl) P M rest hP (hM rest), hres]
  simp [hne]

theorem inert_finishedFull (l : List AttrSrc) (hl : ∀ a ∈ l, inertKey a.key) :
    ∀ p ∈ (parsed l).map (fun kv => (kv.1, unescape true (convNL kv.2))),
      p.1 ≠ kContent ∧ p.1 ≠ kwCharset ∧ p.1 ≠ kHttpEquiv := by
  intro p hp
  simp only [parsed, List.map_map, List.mem_map, Function.comp] at hp
  obtain ⟨a, ha, rfl⟩ := hp
  exact hl a ha

/-- `Tokenizer.TagAttr` on a raw value: `unescape(convertNewlines(val), true)` -/
def _root_.Mime.DetectHtml.attrVal (v : Bytes) : Bytes := unescape true (convNL v)

/-- `attrVal` in the form that is evaluated on concrete values (`unescape_eq_fast`) -/
theorem _root_.Mime.DetectHtml.attrVal_eq_fast (v : Bytes) : DetectHtml.attrVal v = unescapeL entityFast true (convNL v) :=
  unescape_eq_fast true (convNL v)

theorem _root_.Mime.DetectHtml.attrVal_plain (v : Bytes) (hcr : ∀ c ∈ v, c ≠ 0x0D) (hamp : v.contains 0x26 = false) :
    DetectHtml.attrVal v = v := by
  unfold DetectHtml.attrVal
  rw [convNL_id v hcr, unescape_noAmp true v hamp]

/-- `<meta pre… charset=L post…>`: the prescan answers the DECODED value of the attribute
    (character references replaced, CR / CR LF → LF), lower-cased, utf-8 for utf-16 —
    no hypothesis about `&` or CR anywhere -/
theorem _root_.Mime.DetectHtml.charset_toks (pre post : List AttrSrc) (cs : Bytes) (form : ValForm) (L sep : Bytes)
    (hcs : lowerASCII cs = kwCharset)
    (hpre : ∀ a ∈ pre, inertKey a.key) (hpost : ∀ a ∈ post, inertKey a.key) (more : List Tag) :
    fromHTMLToks (finishTagFull { name := kMeta, attrs := parsed (pre ++ charsetAttr cs form L sep :: post) } :: more) =
      norm (DetectHtml.attrVal L) := by
  have hparsed : (parsed (pre ++ charsetAttr cs form L sep :: post)).map (fun kv => (kv.1, unescape true (convNL kv.2))) =
      (parsed pre).map (fun kv => (kv.1, unescape true (convNL kv.2))) ++ (kwCharset, DetectHtml.attrVal L) ::
        (parsed post).map (fun kv => (kv.1, unescape true (convNL kv.2))) := by
    simp [parsed, charsetAttr, hcs, DetectHtml.attrVal]
  simp only [finishTagFull, hparsed]
  exact C12.meta_charset_anywhere (DetectHtml.attrVal L) _ _ _ (inert_finishedFull pre hpre) (inert_finishedFull post hpost)

/-- `C12.html_meta_charset_general` for the total model.
    `doc = P ++ "<meta" ws pre… charset=L post… ">" ++ rest`: if the label `L` contains no `&`
    (and no CR), `FromHTML` answers the normalised label — WHATEVER the other attributes of the
    tag (inert keys, arbitrary values), the prologue and the rest of the document contain:
    character references there are decoded by the tokenizer but never reach the answer.
    Unlike `C12.html_meta_charset_general` it needs no hypothesis `startTags doc ≠ none`. -/
theorem charset_value_unescaped (P nm ws0 : Bytes) (pre post : List AttrSrc)
    (cs : Bytes) (form : ValForm) (L sep rest : Bytes)
    (hP : Prologue P) (hnm : lowerASCII nm = kMeta)
    (hws : ∀ x ∈ ws0, isWS x = true) (hws0 : ws0 ≠ [])
    (hcs : lowerASCII cs = kwCharset)
    (hwf : attrsWf (pre ++ charsetAttr cs form L sep :: post))
    (hpre : ∀ a ∈ pre, inertKey a.key) (hpost : ∀ a ∈ post, inertKey a.key)
    (hL : L ≠ []) (hcr : ∀ c ∈ L, c ≠ 0x0D) (hamp : L.contains 0x26 = false)
    (hbom : fromBOM (P ++ tagText nm ws0 (pre ++ charsetAttr cs form L sep :: post) ++ rest) = csNone) :
    fromHTMLBytesFull (P ++ tagText nm ws0 (pre ++ charsetAttr cs form L sep :: post) ++ rest) = norm L := by
  have hres := fun more => DetectHtml.charset_toks pre post cs form L sep hcs hpre hpost more
  rw [DetectHtml.attrVal_plain L hcr hamp] at hres
  exact DetectHtml.fromHTMLBytesFull_meta_decides_src P _ _ rest (norm L) hP.skips
    (DetectHtml.metaSrc_tagText nm ws0 _ hnm hws (fun h => absurd h hws0) hwf) hres (norm_ne_nil L hL) hbom

/-- wherever `fromHTMLBytes` answers, the total model answers the same -/
theorem charset_value_unescaped_agrees (doc l : Bytes) (h : fromHTMLBytes doc = some l) : fromHTMLBytesFull doc = l := by
  unfold fromHTMLBytes at h
  cases hs : startTags doc with
  | none => simp [hs] at h
  | some ts =>
    rw [hs, Option.map_some] at h
    injection h with h
    rw [← h, fromHTMLBytesFull, startTagsFull_of_startTags doc ts hs]

/-- `charset=L` with a label of token bytes, in any quoting, as the only attribute: well formed, and the
    label has no CR and no `&` -/
theorem charsetAttr_token (cs : Bytes) (form : ValForm) (L : Bytes) (hcs : lowerASCII cs = kwCharset) (hL : L ≠ [])
    (htok : ∀ c ∈ L, tokenChar c = true) :
    attrsWf ([] ++ charsetAttr cs form L [] :: []) ∧ (∀ c ∈ L, c ≠ 0x0D) ∧ L.contains 0x26 = false := by
  refine ⟨charsetAttr_wf cs form L hcs hL htok, fun c hc e => ?_, (noAmp_iff L).mpr fun c hc => (tokenChar_spec (htok c hc)).2.2.2.2⟩
  have := (tokenChar_spec (htok c hc)).1
  subst e
  exact absurd this (by decide)

/-- the plain form `P ++ "<meta charset=" q L q ">" ++ rest` (`meta` /
    `charset` in any letter case; `q` = `"`, `'` or nothing; `L` a non-empty label of token bytes,
    which excludes `&`): with no BOM, `FromHTML` answers the lower-cased label (utf-8 for utf-16
    labels).  Unlike `C12.html_meta_charset_bytes` nothing is assumed about `&` in `P` and `rest`. -/
theorem charset_value_unescaped_simple (P nm cs : Bytes) (form : ValForm) (L rest : Bytes)
    (hP : Prologue P) (hnm : lowerASCII nm = kMeta) (hcs : lowerASCII cs = kwCharset)
    (hL : L ≠ []) (htok : ∀ c ∈ L, tokenChar c = true)
    (hbom : fromBOM (P ++ tagText nm [0x20] [charsetAttr cs form L []] ++ rest) = csNone) :
    fromHTMLBytesFull (P ++ tagText nm [0x20] [charsetAttr cs form L []] ++ rest) = norm L := by
  obtain ⟨hwf, hcr, hamp⟩ := charsetAttr_token cs form L hcs hL htok
  exact charset_value_unescaped P nm [0x20] [] [] cs form L [] rest hP hnm (by decide) (by decide) hcs hwf
    (fun _ h => nomatch h) (fun _ h => nomatch h) hL hcr hamp hbom

/- kernel evaluation of the model; every example is also a line of the validation run -/

/-- `&amp;` -> `&` (attribute mode) -/
example : unescape true [38, 97, 109, 112, 59] = [38] := by rw [unescape_eq_fast]; decide +kernel
/-- `&ampx` -> `&ampx` — the alphanumeric run is the name; no prefix matching (attribute mode) -/
example : unescape true [38, 97, 109, 112, 120] = [38, 97, 109, 112, 120] := by rw [unescape_eq_fast]; decide +kernel
/-- `&amp=` -> `&amp=` — no `;` and `=` follows: left alone (attribute mode) -/
example : unescape true [38, 97, 109, 112, 61] = [38, 97, 109, 112, 61] := by decide +kernel
/-- `&amp=` -> `&=` (text mode) -/
example : unescape false [38, 97, 109, 112, 61] = [38, 61] := by rw [unescape_eq_fast]; decide +kernel
/-- `&amp;=` -> `&=` (attribute mode) -/
example : unescape true [38, 97, 109, 112, 59, 61] = [38, 61] := by rw [unescape_eq_fast]; decide +kernel
/-- `&notit;` -> `¬it;` — longest prefix `not` without `;` (text mode) -/
example : unescape false [38, 110, 111, 116, 105, 116, 59] = [194, 172, 105, 116, 59] := by rw [unescape_eq_fast]; decide +kernel
/-- `&notit;` -> `&notit;` — prefix matching is text-mode only (attribute mode) -/
example : unescape true [38, 110, 111, 116, 105, 116, 59] = [38, 110, 111, 116, 105, 116, 59] := by rw [unescape_eq_fast]; decide +kernel
/-- `&#128;` -> `€` — Windows-1252 replacement table: E2 82 AC (attribute mode) -/
example : unescape true [38, 35, 49, 50, 56, 59] = [226, 130, 172] := by decide +kernel
/-- `&#xD800;` -> `U+FFFD` — surrogate: U+FFFD = EF BF BD (attribute mode) -/
example : unescape true [38, 35, 120, 68, 56, 48, 48, 59] = [239, 191, 189] := by decide +kernel
/-- `&lt` -> `<` — a legacy name needs no `;` (attribute mode) -/
example : unescape true [38, 108, 116] = [60] := by rw [unescape_eq_fast]; decide +kernel
/-- `&LT;&GT` -> `<>` (attribute mode) -/
example : unescape true [38, 76, 84, 59, 38, 71, 84] = [60, 62] := by rw [unescape_eq_fast]; decide +kernel
/-- `&NotEqualTilde;` -> `≂̸` — two code points (entity2) (attribute mode) -/
example : unescape true [38, 78, 111, 116, 69, 113, 117, 97, 108, 84, 105, 108, 100, 101, 59] = [226, 137, 130, 204, 184] := by rw [unescape_eq_fast]; decide +kernel
/-- `&nGt;` -> `&nGt;` — commented out of entity2: would grow in place (attribute mode) -/
example : unescape true [38, 110, 71, 116, 59] = [38, 110, 71, 116, 59] := by rw [unescape_eq_fast]; decide +kernel
/-- `&#1x` -> `&#1x` — sic: ONE decimal digit without `;` is "no characters matched" (`i <= 3`) (attribute mode) -/
example : unescape true [38, 35, 49, 120] = [38, 35, 49, 120] := by decide +kernel
/-- `&#1;` -> `\x01` (attribute mode) -/
example : unescape true [38, 35, 49, 59] = [1] := by decide +kernel
/-- `&#12x` -> `\x0Cx` — two digits are enough (attribute mode) -/
example : unescape true [38, 35, 49, 50, 120] = [12, 120] := by decide +kernel
/-- `&#x1z` -> `\x01z` — and so is one hex digit (attribute mode) -/
example : unescape true [38, 35, 120, 49, 122] = [1, 122] := by decide +kernel
/-- `&#x;` -> `U+FFFD` — sic: no digit at all, but `&#x;` is 4 bytes: U+FFFD (attribute mode) -/
example : unescape true [38, 35, 120, 59] = [239, 191, 189] := by decide +kernel
/-- `&#;` -> `&#;` (attribute mode) -/
example : unescape true [38, 35, 59] = [38, 35, 59] := by decide +kernel
/-- `&#xg` -> `&#xg` (attribute mode) -/
example : unescape true [38, 35, 120, 103] = [38, 35, 120, 103] := by decide +kernel
/-- `&#65` -> `A` — no `;` needed (attribute mode) -/
example : unescape true [38, 35, 54, 53] = [65] := by decide +kernel
/-- `&#6` -> `&#6` — one digit, at the end of the value or not (attribute mode) -/
example : unescape true [38, 35, 54] = [38, 35, 54] := by decide +kernel
/-- `&#4294967361;` -> `A` — int32 wrap-around: 2^32 + 65 (attribute mode) -/
example : unescape true [38, 35, 52, 50, 57, 52, 57, 54, 55, 51, 54, 49, 59] = [65] := by decide +kernel
/-- `&#2147483648;` -> `U+FFFD` — negative rune: U+FFFD by utf8.EncodeRune (attribute mode) -/
example : unescape true [38, 35, 50, 49, 52, 55, 52, 56, 51, 54, 52, 56, 59] = [239, 191, 189] := by decide +kernel
/-- `&#0;` -> `U+FFFD` (attribute mode) -/
example : unescape true [38, 35, 48, 59] = [239, 191, 189] := by decide +kernel
/-- `&#x10FFFF;` -> `U+10FFFF` = F4 8F BF BF (attribute mode) -/
example : unescape true [38, 35, 120, 49, 48, 70, 70, 70, 70, 59] = [244, 143, 191, 191] := by decide +kernel
/-- `&#x110000;` -> `U+FFFD` (attribute mode) -/
example : unescape true [38, 35, 120, 49, 49, 48, 48, 48, 48, 59] = [239, 191, 189] := by decide +kernel
/-- `&&amp;&;&` -> `&&&;&` (attribute mode) -/
example : unescape true [38, 38, 97, 109, 112, 59, 38, 59, 38] = [38, 38, 38, 59, 38] := by rw [unescape_eq_fast]; decide +kernel
/-- `\xC3&eacute;\xA9` -> `\xC3\xC3\xA9\xA9` — raw bytes around a reference are copied (attribute mode) -/
example : unescape true [195, 38, 101, 97, 99, 117, 116, 101, 59, 169] = [195, 195, 169, 169] := by rw [unescape_eq_fast]; decide +kernel

/-- `TagAttr` = `unescape(convertNewlines(val), true)`: newline conversion comes FIRST, so a CR written
    as `&#13;` survives, next to a raw CR LF that becomes LF:  `a\r\nb&#13;&#10;c` -> `a\nb\r\nc` -/
example : unescape true (convNL [97, 13, 10, 98, 38, 35, 49, 51, 59, 38, 35, 49, 48, 59, 99]) = [97, 10, 98, 13, 10, 99] := by decide +kernel

/-- `<meta charset="utf&#45;8">`: `fromHTMLBytes` declines, the total one reads `utf-8` -/
example : fromHTMLBytes [60, 109, 101, 116, 97, 32, 99, 104, 97, 114, 115, 101, 116, 61, 34, 117, 116, 102, 38, 35, 52, 53, 59, 56, 34, 62] = none ∧
    fromHTMLBytesFull [60, 109, 101, 116, 97, 32, 99, 104, 97, 114, 115, 101, 116, 61, 34, 117, 116, 102, 38, 35, 52, 53, 59, 56, 34, 62] = [117, 116, 102, 45, 56] := by decide +kernel

/-- `<meta name="a&amp;b" charset=koi8-r>`: a reference in another attribute does not matter -/
example : fromHTMLBytesFull [60, 109, 101, 116, 97, 32, 110, 97, 109, 101, 61, 34, 97, 38, 97, 109, 112, 59, 98, 34, 32, 99, 104, 97, 114, 115, 101, 116, 61, 107, 111, 105, 56, 45, 114, 62] = [107, 111, 105, 56, 45, 114] := by decide +kernel

/-- keys are not unescaped: `<meta charset&#61;x=y>` has the key `charset&#61;x` -/
example : startTagsFull [60, 109, 101, 116, 97, 32, 99, 104, 97, 114, 115, 101, 116, 38, 35, 54, 49, 59, 120, 61, 121, 62] = [{ name := kMeta, attrs := [([99, 104, 97, 114, 115, 101, 116, 38, 35, 54, 49, 59, 120], [121])] }] := by
  decide +kernel

/-- the pragma form with references in the content value:
    `<meta http-equiv=Content-Type content="text/html&semi; charset&equals;x">` -> `x` -/
example : fromHTMLBytesFull [60, 109, 101, 116, 97, 32, 104, 116, 116, 112, 45, 101, 113, 117, 105, 118, 61, 67, 111, 110, 116, 101, 110, 116, 45, 84, 121, 112, 101, 32, 99, 111, 110, 116, 101, 110, 116, 61, 34, 116, 101, 120, 116, 47, 104, 116, 109, 108, 38, 115, 101, 109, 105, 59, 32, 99, 104, 97, 114, 115, 101, 116, 38, 101, 113, 117, 97, 108, 115, 59, 120, 34, 62] = [120] := by
  rw [fromHTMLBytesFull_eq_fast]; decide +kernel

end Mime.HtmlUnescapeLemmas
