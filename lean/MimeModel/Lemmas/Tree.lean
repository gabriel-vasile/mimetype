import MimeModel.Model.Tree
/-
  Generic lemmas about the first-match walk, for every tree and every verdict function.
  Two facts carry everything else: the walk below a node continues in the first accepting child
  (`walkList_eq_find`), and a property that passes from the children of a node to the node holds
  of every tree (`induction`).
-/
namespace Mime.Tree
variable {α : Type}

theorem tree_forest_induction {P : Tree α → Prop} {Q : List (Tree α) → Prop}
    (node : ∀ a ts, Q ts → P (.node a ts)) (nil : Q []) (cons : ∀ t ts, P t → Q ts → Q (t :: ts)) :
    (∀ t, P t) ∧ ∀ ts, Q ts :=
  ⟨fun t => Tree.rec (motive_1 := P) (motive_2 := Q) node nil cons t,
   fun ts => Tree.rec_1 (motive_1 := P) (motive_2 := Q) node nil cons ts⟩

theorem induction {P : Tree α → Prop} (h : ∀ a cs, (∀ c ∈ cs, P c) → P (.node a cs)) (t : Tree α) : P t :=
  (tree_forest_induction (Q := fun cs => ∀ c ∈ cs, P c) h (fun _ hc => nomatch hc)
    (fun _ _ ht hts => List.forall_mem_cons.2 ⟨ht, hts⟩)).1 t

theorem walk_eq (acc : α → Bool) (a : α) (cs : List (Tree α)) :
    walk acc (.node a cs) = a :: walkList acc cs := by rw [walk]

theorem walk_unfold (acc : α → Bool) (t : Tree α) : walk acc t = t.info :: walkList acc t.children := by
  cases t; exact walk_eq ..

theorem walk_ne_nil (acc : α → Bool) (t : Tree α) : walk acc t ≠ [] := by
  rw [walk_unfold]; exact List.cons_ne_nil _ _

theorem walk_head (acc : α → Bool) (t : Tree α) : (walk acc t).head? = some t.info := by
  rw [walk_unfold]; rfl

theorem walkList_eq_find (acc : α → Bool) (cs : List (Tree α)) :
    walkList acc cs = (cs.find? (fun c => acc c.info)).elim [] (walk acc) := by
  induction cs with
  | nil => rw [walkList]; rfl
  | cons c cs ih =>
    rw [walkList, List.find?_cons]
    cases acc c.info with
    | true => rfl
    | false => exact ih

theorem walkList_eq_nil_of_none (acc : α → Bool) (cs : List (Tree α))
    (h : ∀ c ∈ cs, acc c.info = false) : walkList acc cs = [] := by
  rw [walkList_eq_find, List.find?_eq_none.2 (fun c hc => by rw [h c hc]; exact Bool.false_ne_true)]
  rfl

theorem walkList_skip (acc : α → Bool) (pre : List (Tree α)) (c : Tree α) (post : List (Tree α))
    (hpre : ∀ d ∈ pre, acc d.info = false) (hc : acc c.info = true) :
    walkList acc (pre ++ c :: post) = walk acc c := by
  induction pre with
  | nil => simp [walkList, hc]
  | cons d ds ih =>
    have hd := hpre d (List.mem_cons_self ..)
    simp only [List.cons_append, walkList, hd, Bool.false_eq_true, ↓reduceIte]
    exact ih (fun e he => hpre e (List.mem_cons_of_mem _ he))

theorem mem_flattenList {c : Tree α} {cs : List (Tree α)} (hc : c ∈ cs) {i : α} (hi : i ∈ flatten c) :
    i ∈ flattenList cs := by
  induction cs with
  | nil => cases hc
  | cons d ds ih =>
    rw [flattenList, List.mem_append]
    cases hc with
    | head => exact Or.inl hi
    | tail _ h' => exact Or.inr (ih h')

theorem flatten_unfold (t : Tree α) : flatten t = t.info :: flattenList t.children := by
  cases t; rw [flatten]; rfl

/-- everything the walk picks up below its starting point was accepted and is a node of the forest -/
theorem mem_walkList (acc : α → Bool) (cs : List (Tree α)) :
    ∀ i ∈ walkList acc cs, acc i = true ∧ i ∈ flattenList cs := by
  have step : ∀ cs : List (Tree α),
      (∀ c ∈ cs, ∀ i ∈ walkList acc c.children, acc i = true ∧ i ∈ flattenList c.children) →
      ∀ i ∈ walkList acc cs, acc i = true ∧ i ∈ flattenList cs := by
    intro cs ih i hi
    rw [walkList_eq_find] at hi
    cases hf : cs.find? (fun c => acc c.info) with
    | none => rw [hf] at hi; cases hi
    | some c =>
      have hc := List.mem_of_find?_eq_some hf
      rw [hf, Option.elim_some, walk_unfold, List.mem_cons] at hi
      refine ⟨?_, mem_flattenList hc ?_⟩
      · rcases hi with rfl | hi
        · exact List.find?_some (p := fun c : Tree α => acc c.info) hf
        · exact (ih c hc i hi).1
      · rw [flatten_unfold, List.mem_cons]
        exact hi.imp_right fun h => (ih c hc i h).2
  exact step cs fun c _ =>
    induction (P := fun t => ∀ i ∈ walkList acc t.children, acc i = true ∧ i ∈ flattenList t.children)
      (fun _ cs ih => step cs ih) c

theorem walk_sub_flatten (acc : α → Bool) (t : Tree α) : ∀ i ∈ walk acc t, i ∈ flatten t := by
  intro i hi
  rw [walk_unfold, List.mem_cons] at hi
  rw [flatten_unfold, List.mem_cons]
  exact hi.imp_right fun h => (mem_walkList acc _ i h).2

end Mime.Tree
