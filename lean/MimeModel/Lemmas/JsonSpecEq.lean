import MimeModel.Spec.Json
/-
  The mutual recognisers `value` / `items` / `members` of Spec/Json.lean, one layer at a time:
  each is a dispatch on the first non-blank byte followed by a continuation that takes the
  outcome of the nested recogniser; with the inversion lemmas (what an `.ok` outcome of a layer
  says about the layer below) these equations are what the proofs about the grammar go through.
-/
namespace Mime.SpecComplete
open Mime Mime.Spec.J

/-- re-tag the value of an outcome -/
def wrap {α : Type} (g : α → JVal) (x : R α) : R JVal :=
  match x with
  | .ok a r => .ok (g a) r
  | .more => .more
  | .bad => .bad

theorem wrap_ok {α : Type} (g : α → JVal) (a : α) (r : Bytes) : wrap g (.ok a r) = .ok (g a) r := rfl

theorem wrap_ok_inv {α : Type} {g : α → JVal} {x : R α} {v : JVal} {r : Bytes}
    (h : wrap g x = .ok v r) : ∃ a, x = .ok a r ∧ v = g a := by
  cases x with
  | ok a r' => cases h; exact ⟨a, rfl, rfl⟩
  | more => cases h
  | bad => cases h

theorem wrap_more_inv {α : Type} {g : α → JVal} {x : R α} (h : wrap g x = .more) : x = .more := by
  cases x with
  | ok a r' => cases h
  | more => rfl
  | bad => cases h

theorem digits_cons_digit (c : Nat) (cs : Bytes) (h : digit c = true) :
    digits (c :: cs) = ((digits cs).1 + 1, (digits cs).2) := by
  rw [digits, if_pos h]

theorem digits_cons_non (c : Nat) (cs : Bytes) (h : digit c = false) :
    digits (c :: cs) = (0, c :: cs) := by
  rw [digits]
  simp [h]

/-- the optional `.` and the digits behind it: how many digits, and what follows -/
def fracPart (r1 : Bytes) : Nat × Bytes :=
  match r1 with
  | 0x2E :: r => digits r
  | _ => (0, r1)

/-- `numRelaxed` up to the exponent: how many mantissa digits were read, and what follows them -/
def numStage (b : Bytes) : Nat × Bytes :=
  ((digits (dropMinus b)).1 + (fracPart (digits (dropMinus b)).2).1, (fracPart (digits (dropMinus b)).2).2)

theorem fracPart_nil : fracPart [] = (0, []) := rfl

theorem fracPart_dot (r : Bytes) : fracPart (0x2E :: r) = digits r := rfl

theorem fracPart_non (c : Nat) (r : Bytes) (hc : (c == 0x2E) = false) : fracPart (c :: r) = (0, c :: r) := by
  unfold fracPart
  split
  · rename_i r' h
    cases h
    exact absurd hc (by decide)
  · rfl

theorem numRelaxed_eq (b : Bytes) : numRelaxed b =
    if (numStage b).1 == 0 then (if (numStage b).2.isEmpty then .more else .bad) else expPart (numStage b).2 := by
  unfold numRelaxed numStage
  dsimp only
  generalize (digits (dropMinus b)).2 = r1
  generalize (digits (dropMinus b)).1 = n1
  rcases r1 with _ | ⟨c, r⟩
  · rfl
  · by_cases hc : c = 0x2E
    · subst hc
      rfl
    · rw [fracPart_non c r (Bool.eq_false_iff.mpr fun e => hc (beq_iff_eq.mp e))]
      split
      · rename_i r' h
        cases h
        exact absurd rfl hc
      · rfl

theorem dropMinus_nil : dropMinus [] = [] := rfl

theorem dropMinus_minus (r : Bytes) : dropMinus (0x2D :: r) = r := rfl

theorem dropMinus_non (c : Nat) (r : Bytes) (hc : (c == 0x2D) = false) : dropMinus (c :: r) = c :: r := by
  unfold dropMinus
  split
  · rename_i r' h
    cases h
    exact absurd hc (by decide)
  · rfl

theorem dropSign_nil : dropSign [] = [] := rfl

theorem dropSign_cons (s : Nat) (t : Bytes) :
    dropSign (s :: t) = if s == 0x2B || s == 0x2D then t else s :: t := rfl

theorem expPart_nil : expPart [] = .ok () [] := rfl

theorem expPart_cons (e : Nat) (t : Bytes) :
    expPart (e :: t) = if isExpChar e then digits1 (dropSign t) else .ok () (e :: t) := rfl

/-- `value` after the leading white space: the dispatch on the first byte -/
def valueHead (s : Bool) (f : Nat) (c : Nat) (cs : Bytes) : R JVal :=
  if c == 0x22 then wrap .str (str s cs [])
  else if c == 0x5B then items s f cs [] true
  else if c == 0x7B then members s f cs [] true
  else if c == 0x74 then wrap (fun _ => .bool true) (lit [0x74, 0x72, 0x75, 0x65] (c :: cs))
  else if c == 0x66 then wrap (fun _ => .bool false) (lit [0x66, 0x61, 0x6C, 0x73, 0x65] (c :: cs))
  else if c == 0x6E then wrap (fun _ => .null) (lit [0x6E, 0x75, 0x6C, 0x6C] (c :: cs))
  else wrap (fun _ => .num) (if s then numStrict (c :: cs) else numRelaxed (c :: cs))

theorem valueHead_kind (c : Nat) :
    (c = 0x22 ∧ ∀ s f cs, valueHead s f c cs = wrap .str (str s cs [])) ∨
    (c = 0x5B ∧ ∀ s f cs, valueHead s f c cs = items s f cs [] true) ∨
    (c = 0x7B ∧ ∀ s f cs, valueHead s f c cs = members s f cs [] true) ∨
    (∃ g w, ∀ s f cs, valueHead s f c cs = wrap g (lit w (c :: cs))) ∨
    (∀ s f cs, valueHead s f c cs = wrap (fun _ => .num) (if s then numStrict (c :: cs) else numRelaxed (c :: cs))) := by
  by_cases h1 : (c == 0x22) = true
  · exact Or.inl ⟨beq_iff_eq.mp h1, fun s f cs => by rw [valueHead, if_pos h1]⟩
  by_cases h2 : (c == 0x5B) = true
  · exact Or.inr (Or.inl ⟨beq_iff_eq.mp h2, fun s f cs => by rw [valueHead, if_neg h1, if_pos h2]⟩)
  by_cases h3 : (c == 0x7B) = true
  · exact Or.inr (Or.inr (Or.inl ⟨beq_iff_eq.mp h3, fun s f cs => by rw [valueHead, if_neg h1, if_neg h2, if_pos h3]⟩))
  refine Or.inr (Or.inr (Or.inr ?_))
  by_cases h4 : (c == 0x74) = true
  · exact Or.inl ⟨_, _, fun s f cs => by rw [valueHead, if_neg h1, if_neg h2, if_neg h3, if_pos h4]⟩
  by_cases h5 : (c == 0x66) = true
  · exact Or.inl ⟨_, _, fun s f cs => by rw [valueHead, if_neg h1, if_neg h2, if_neg h3, if_neg h4, if_pos h5]⟩
  by_cases h6 : (c == 0x6E) = true
  · exact Or.inl ⟨_, _, fun s f cs => by
      rw [valueHead, if_neg h1, if_neg h2, if_neg h3, if_neg h4, if_neg h5, if_pos h6]⟩
  exact Or.inr fun s f cs => by rw [valueHead, if_neg h1, if_neg h2, if_neg h3, if_neg h4, if_neg h5, if_neg h6]

theorem value_succ (s : Bool) (f : Nat) (b : Bytes) :
    value s (f + 1) b = match skipWs b with | [] => .more | c :: cs => valueHead s f c cs := by
  rw [value]
  cases skipWs b with
  | nil => rfl
  | cons c cs =>
    -- same chain of tests on both sides; the leaves differ only in how the `R` outcome is re-tagged
    refine ite_congr rfl (fun _ => ?_) fun _ =>        -- `"`: a string
      ite_congr rfl (fun _ => rfl) fun _ =>            -- `[`
      ite_congr rfl (fun _ => rfl) fun _ =>            -- `{`
      ite_congr rfl (fun _ => ?_) fun _ =>             -- `t`
      ite_congr rfl (fun _ => ?_) fun _ =>             -- `f`
      ite_congr rfl (fun _ => ?_) fun _ => ?_          -- `n`, else a number
    · cases str s cs [] <;> rfl
    · cases lit [0x74, 0x72, 0x75, 0x65] (c :: cs) <;> rfl
    · cases lit [0x66, 0x61, 0x6C, 0x73, 0x65] (c :: cs) <;> rfl
    · cases lit [0x6E, 0x75, 0x6C, 0x6C] (c :: cs) <;> rfl
    · cases (if s = true then numStrict (c :: cs) else numRelaxed (c :: cs)) <;> rfl

/-- `items` after an item was read -/
def itemsAfter (s : Bool) (f : Nat) (acc : List JVal) (x : R JVal) : R JVal :=
  match x with
  | .bad => .bad
  | .more => .more
  | .ok v r =>
    match skipWs r with
    | [] => .more
    | d :: ds =>
      if d == 0x2C then items s f ds (v :: acc) false
      else if d == 0x5D then .ok (.arr (v :: acc).reverse) ds
      else .bad

theorem items_succ (s : Bool) (f : Nat) (b : Bytes) (acc : List JVal) (first : Bool) :
    items s (f + 1) b acc first =
      match skipWs b with
      | [] => .more
      | c :: cs =>
        if c == 0x5D && (first || !s) then .ok (.arr acc.reverse) cs
        else itemsAfter s f acc (value s f (c :: cs)) := by
  rw [items]
  rfl

/-- `members` after a member's value was read -/
def membersAfterVal (s : Bool) (f : Nat) (acc : List (Bytes × JVal)) (k : Bytes) (x : R JVal) : R JVal :=
  match x with
  | .bad => .bad
  | .more => .more
  | .ok v r2 =>
    match skipWs r2 with
    | [] => .more
    | e :: es =>
      if e == 0x2C then members s f es ((k, v) :: acc) false
      else if e == 0x7D then .ok (.obj ((k, v) :: acc).reverse) es
      else .bad

/-- `members` after a member's key was read -/
def membersAfterKey (s : Bool) (f : Nat) (acc : List (Bytes × JVal)) (x : R Bytes) : R JVal :=
  match x with
  | .bad => .bad
  | .more => .more
  | .ok k r =>
    match skipWs r with
    | [] => .more
    | d :: ds =>
      if d != 0x3A then .bad else membersAfterVal s f acc k (value s f ds)

theorem members_succ (s : Bool) (f : Nat) (b : Bytes) (acc : List (Bytes × JVal)) (first : Bool) :
    members s (f + 1) b acc first =
      match skipWs b with
      | [] => .more
      | c :: cs =>
        if c == 0x7D && (first || !s) then .ok (.obj acc.reverse) cs
        else if c != 0x22 then .bad
        else membersAfterKey s f acc (str s cs []) := by
  rw [members]
  rfl

section cases
variable {s : Bool} {f : Nat} {b : Bytes} {c : Nat} {cs : Bytes}

theorem value_nil (h : skipWs b = []) : value s (f + 1) b = .more := by
  rw [value_succ, h]

theorem value_cons (h : skipWs b = c :: cs) : value s (f + 1) b = valueHead s f c cs := by
  rw [value_succ, h]

theorem items_nil {acc : List JVal} {first : Bool} (h : skipWs b = []) :
    items s (f + 1) b acc first = .more := by
  rw [items_succ, h]

theorem items_close {acc : List JVal} {first : Bool} (h : skipWs b = c :: cs)
    (hc : (c == 0x5D && (first || !s)) = true) :
    items s (f + 1) b acc first = .ok (.arr acc.reverse) cs := by
  rw [items_succ, h]
  dsimp only
  rw [if_pos hc]

theorem items_val {acc : List JVal} {first : Bool} (h : skipWs b = c :: cs)
    (hc : ¬ (c == 0x5D && (first || !s)) = true) :
    items s (f + 1) b acc first = itemsAfter s f acc (value s f (c :: cs)) := by
  rw [items_succ, h]
  dsimp only
  rw [if_neg hc]

theorem itemsAfter_nil {acc : List JVal} {v : JVal} {r : Bytes} (h : skipWs r = []) :
    itemsAfter s f acc (.ok v r) = .more := by
  unfold itemsAfter
  dsimp only
  rw [h]

theorem itemsAfter_cons {acc : List JVal} {v : JVal} {r : Bytes} {d : Nat} {ds : Bytes} (h : skipWs r = d :: ds) :
    itemsAfter s f acc (.ok v r) =
      if d == 0x2C then items s f ds (v :: acc) false
      else if d == 0x5D then .ok (.arr (v :: acc).reverse) ds
      else .bad := by
  unfold itemsAfter
  dsimp only
  rw [h]

theorem members_nil {acc : List (Bytes × JVal)} {first : Bool} (h : skipWs b = []) :
    members s (f + 1) b acc first = .more := by
  rw [members_succ, h]

theorem members_close {acc : List (Bytes × JVal)} {first : Bool} (h : skipWs b = c :: cs)
    (hc : (c == 0x7D && (first || !s)) = true) :
    members s (f + 1) b acc first = .ok (.obj acc.reverse) cs := by
  rw [members_succ, h]
  dsimp only
  rw [if_pos hc]

theorem members_key {acc : List (Bytes × JVal)} {first : Bool} (h : skipWs b = c :: cs)
    (hc : ¬ (c == 0x7D && (first || !s)) = true) :
    members s (f + 1) b acc first =
      if c != 0x22 then .bad else membersAfterKey s f acc (str s cs []) := by
  rw [members_succ, h]
  dsimp only
  rw [if_neg hc]

theorem membersAfterKey_nil {acc : List (Bytes × JVal)} {k r : Bytes} (h : skipWs r = []) :
    membersAfterKey s f acc (.ok k r) = .more := by
  unfold membersAfterKey
  dsimp only
  rw [h]

theorem membersAfterKey_cons {acc : List (Bytes × JVal)} {k r : Bytes} {d : Nat} {ds : Bytes}
    (h : skipWs r = d :: ds) :
    membersAfterKey s f acc (.ok k r) =
      if d != 0x3A then .bad else membersAfterVal s f acc k (value s f ds) := by
  unfold membersAfterKey
  dsimp only
  rw [h]

theorem membersAfterVal_nil {acc : List (Bytes × JVal)} {k : Bytes} {v : JVal} {r : Bytes} (h : skipWs r = []) :
    membersAfterVal s f acc k (.ok v r) = .more := by
  unfold membersAfterVal
  dsimp only
  rw [h]

theorem membersAfterVal_cons {acc : List (Bytes × JVal)} {k : Bytes} {v : JVal} {r : Bytes} {e : Nat} {es : Bytes}
    (h : skipWs r = e :: es) :
    membersAfterVal s f acc k (.ok v r) =
      if e == 0x2C then members s f es ((k, v) :: acc) false
      else if e == 0x7D then .ok (.obj ((k, v) :: acc).reverse) es
      else .bad := by
  unfold membersAfterVal
  dsimp only
  rw [h]

end cases

/-! the one-step equations of `str`, and that text behind a recognised string does not disturb it -/

theorem str_quote (s : Bool) {c : Nat} (cs acc : Bytes) (h : (c == 0x22) = true) :
    str s (c :: cs) acc = .ok acc.reverse cs := by
  rw [str.eq_def]
  simp [h]
theorem str_esc_simple (s : Bool) (c e : Nat) (es acc : Bytes) (h1 : ¬ (c == 0x22) = true) (h2 : (c == 0x5C) = true)
    (h3 : (e == 0x22 || e == 0x5C || e == 0x2F || e == 0x62 || e == 0x66 || e == 0x6E || e == 0x72 || e == 0x74) = true) :
    str s (c :: e :: es) acc = str s es (e :: c :: acc) := by
  rw [str.eq_def]
  simp only [h1, h2, h3, if_true, Bool.false_eq_true, if_false]
theorem str_esc_u4 (s : Bool) {c e h1 h2 h3 h4 : Nat} (r acc : Bytes)
    (hc1 : ¬ (c == 0x22) = true) (hc2 : (c == 0x5C) = true)
    (he1 : ¬ (e == 0x22 || e == 0x5C || e == 0x2F || e == 0x62 || e == 0x66 || e == 0x6E || e == 0x72 || e == 0x74) = true)
    (he2 : (e == 0x75) = true) (hh : (hexd h1 && hexd h2 && hexd h3 && hexd h4) = true) :
    str s (c :: e :: h1 :: h2 :: h3 :: h4 :: r) acc = str s r (h4 :: h3 :: h2 :: h1 :: e :: c :: acc) := by
  rw [str.eq_def]
  simp only [hc1, hc2, he1, he2, hh, if_true, Bool.false_eq_true, if_false]
theorem str_plain (c : Nat) (cs acc : Bytes) (h1 : ¬ (c == 0x22) = true) (h2 : ¬ (c == 0x5C) = true) :
    str false (c :: cs) acc = str false cs (c :: acc) := by
  rw [str.eq_def]
  simp [h1, h2]

theorem str_safe (x : Bytes) (cs acc : Bytes) :
    ∀ v r, str false cs acc = .ok v r → str false (cs ++ x) acc = .ok v (r ++ x) := by
  fun_induction str false cs acc <;> intro v r h
  case case2 hc => cases h; rw [List.cons_append, str_quote _ _ _ hc]
  case case4 hc1 hc2 e es he ih =>
    rw [List.cons_append, List.cons_append, str_esc_simple _ _ _ _ _ hc1 hc2 he]; exact ih v r h
  case case5 hc1 hc2 e he1 he2 h1 h2 h3 h4 r' hh ih =>
    simp only [List.cons_append]
    rw [str_esc_u4 _ _ _ hc1 hc2 he1 he2 hh]; exact ih v r h
  case case11 hc1 hc2 _ ih =>
    rw [List.cons_append, str_plain _ _ _ hc1 hc2]; exact ih v r h
  all_goals cases h

section inversion
variable {s : Bool} {f : Nat} {b : Bytes} {w : JVal} {r : Bytes}

theorem value_ok (h : value s (f + 1) b = .ok w r) : ∃ c cs, skipWs b = c :: cs ∧ valueHead s f c cs = .ok w r := by
  rcases hb : skipWs b with _ | ⟨c, cs⟩
  · rw [value_nil hb] at h; cases h
  · exact ⟨c, cs, rfl, by rw [← value_cons hb]; exact h⟩

theorem itemsAfter_ok {acc : List JVal} {x : R JVal} (h : itemsAfter s f acc x = .ok w r) :
    ∃ v r1 d ds, x = .ok v r1 ∧ skipWs r1 = d :: ds ∧
      ((d = 0x2C ∧ items s f ds (v :: acc) false = .ok w r) ∨
       (d = 0x5D ∧ w = .arr (v :: acc).reverse ∧ r = ds)) := by
  rcases x with ⟨v, r1⟩ | _ | _
  · rcases hr : skipWs r1 with _ | ⟨d, ds⟩
    · rw [itemsAfter_nil hr] at h; cases h
    · rw [itemsAfter_cons hr] at h
      refine ⟨v, r1, d, ds, rfl, hr, ?_⟩
      by_cases hd : (d == 0x2C) = true
      · rw [if_pos hd] at h; exact Or.inl ⟨beq_iff_eq.mp hd, h⟩
      · rw [if_neg hd] at h
        by_cases hd2 : (d == 0x5D) = true
        · rw [if_pos hd2] at h; cases h; exact Or.inr ⟨beq_iff_eq.mp hd2, rfl, rfl⟩
        · rw [if_neg hd2] at h; cases h
  · cases h
  · cases h

theorem items_ok {acc : List JVal} {first : Bool} (h : items s (f + 1) b acc first = .ok w r) :
    ∃ c cs, skipWs b = c :: cs ∧
      ((c = 0x5D ∧ (first || !s) = true ∧ w = .arr acc.reverse ∧ r = cs) ∨
       (¬ (c == 0x5D && (first || !s)) = true ∧ itemsAfter s f acc (value s f (c :: cs)) = .ok w r)) := by
  rcases hb : skipWs b with _ | ⟨c, cs⟩
  · rw [items_nil hb] at h; cases h
  · refine ⟨c, cs, rfl, ?_⟩
    by_cases hc : (c == 0x5D && (first || !s)) = true
    · rw [items_close hb hc] at h; cases h
      rw [Bool.and_eq_true] at hc
      exact Or.inl ⟨beq_iff_eq.mp hc.1, hc.2, rfl, rfl⟩
    · rw [items_val hb hc] at h; exact Or.inr ⟨hc, h⟩

theorem membersAfterVal_ok {acc : List (Bytes × JVal)} {k : Bytes} {x : R JVal}
    (h : membersAfterVal s f acc k x = .ok w r) :
    ∃ v r2 e es, x = .ok v r2 ∧ skipWs r2 = e :: es ∧
      ((e = 0x2C ∧ members s f es ((k, v) :: acc) false = .ok w r) ∨
       (e = 0x7D ∧ w = .obj ((k, v) :: acc).reverse ∧ r = es)) := by
  rcases x with ⟨v, r2⟩ | _ | _
  · rcases hr : skipWs r2 with _ | ⟨e, es⟩
    · rw [membersAfterVal_nil hr] at h; cases h
    · rw [membersAfterVal_cons hr] at h
      refine ⟨v, r2, e, es, rfl, hr, ?_⟩
      by_cases he : (e == 0x2C) = true
      · rw [if_pos he] at h; exact Or.inl ⟨beq_iff_eq.mp he, h⟩
      · rw [if_neg he] at h
        by_cases he2 : (e == 0x7D) = true
        · rw [if_pos he2] at h; cases h; exact Or.inr ⟨beq_iff_eq.mp he2, rfl, rfl⟩
        · rw [if_neg he2] at h; cases h
  · cases h
  · cases h

theorem membersAfterKey_ok {acc : List (Bytes × JVal)} {x : R Bytes} (h : membersAfterKey s f acc x = .ok w r) :
    ∃ k r1 ds, x = .ok k r1 ∧ skipWs r1 = 0x3A :: ds ∧ membersAfterVal s f acc k (value s f ds) = .ok w r := by
  rcases x with ⟨k, r1⟩ | _ | _
  · rcases hr : skipWs r1 with _ | ⟨d, ds⟩
    · rw [membersAfterKey_nil hr] at h; cases h
    · rw [membersAfterKey_cons hr] at h
      by_cases hd : (d != 0x3A) = true
      · rw [if_pos hd] at h; cases h
      · rw [if_neg hd] at h
        have hd' : d = 0x3A := by simpa using hd
        subst hd'
        exact ⟨k, r1, ds, rfl, hr, h⟩
  · cases h
  · cases h

theorem members_ok {acc : List (Bytes × JVal)} {first : Bool} (h : members s (f + 1) b acc first = .ok w r) :
    ∃ c cs, skipWs b = c :: cs ∧
      ((c = 0x7D ∧ (first || !s) = true ∧ w = .obj acc.reverse ∧ r = cs) ∨
       (¬ (c == 0x7D && (first || !s)) = true ∧ c = 0x22 ∧ membersAfterKey s f acc (str s cs []) = .ok w r)) := by
  rcases hb : skipWs b with _ | ⟨c, cs⟩
  · rw [members_nil hb] at h; cases h
  · refine ⟨c, cs, rfl, ?_⟩
    by_cases hc : (c == 0x7D && (first || !s)) = true
    · rw [members_close hb hc] at h; cases h
      rw [Bool.and_eq_true] at hc
      exact Or.inl ⟨beq_iff_eq.mp hc.1, hc.2, rfl, rfl⟩
    · rw [members_key hb hc] at h
      by_cases hq : (c != 0x22) = true
      · rw [if_pos hq] at h; cases h
      · rw [if_neg hq] at h
        exact Or.inr ⟨hc, by simpa using hq, h⟩

end inversion

end Mime.SpecComplete
