import MimeModel.Lemmas.C19Odf
/-
  Machinery for `MimeModel.Props.C19_Reported`: the OOXML, JAR and APK clauses of C19 from the zip
  layout (Spec/Zip.lean) to the result of `Detect` (limit 0), the rivals excluded by proof.
  The shape classifier `rej` of C19Odf is taken for an arbitrary first entry name (`rejN`); a rival
  either rejects by shape or is a `zipContains` walk whose marker is shown absent — from the whole
  clean archive, or from the first six entries alone (the window of zip.go).
-/
namespace Mime.C19Rep
open Mime.C19
open Mime Mime.Cust Mime.Tree Mime.WalkPath Mime.Spec.Zip Mime.ZipLayout Mime.ZipConverse Mime.ZipOdf Mime.C19Odf

/-- `[Content_Types].xml` -/
def ctB : Bytes := C19Base.exContentTypes
/-- `META-INF/MANIFEST.MF` -/
def mfB : Bytes := C19Base.kManifest
def xlB : Bytes := [120, 108, 47]
def wordB : Bytes := C19Base.exWord
def pptB : Bytes := [112, 112, 116, 47]

theorem ctB_eq : ofString "[Content_Types].xml" = ctB := contentTypes_eq
/-- the manifest's name is the last of the names of `apkJarMarkers_eq` -/
theorem mfB_eq : ofString "META-INF/MANIFEST.MF" = mfB :=
  (List.cons.inj (congrArg (List.drop 5) apkJarMarkers_eq)).1.symm
theorem xlB_eq : ofString "xl/" = xlB := by rw [ofString_ofList]; decide +kernel
theorem wordB_eq : ofString "word/" = wordB := by rw [ofString_ofList]; decide +kernel
theorem pptB_eq : ofString "ppt/" = pptB := by rw [ofString_ofList]; decide +kernel

/-- the five entry names the APK check looks for -/
def apkMarkers : List Bytes :=
  [[65, 110, 100, 114, 111, 105, 100, 77, 97, 110, 105, 102, 101, 115, 116, 46, 120, 109, 108],
   [77, 69, 84, 65, 45, 73, 78, 70, 47, 99, 111, 109, 47, 97, 110, 100, 114, 111, 105, 100, 47, 98, 117, 105, 108, 100, 47, 103, 114, 97, 100, 108, 101, 47, 97, 112, 112, 45, 109, 101, 116, 97, 100, 97, 116, 97, 46, 112, 114, 111, 112, 101, 114, 116, 105, 101, 115],
   [99, 108, 97, 115, 115, 101, 115, 46, 100, 101, 120],
   [114, 101, 115, 111, 117, 114, 99, 101, 115, 46, 97, 114, 115, 99],
   [114, 101, 115, 47, 100, 114, 97, 119, 97, 98, 108, 101]]

theorem incomp_of_prefix {a p s : Bytes} (hp : hasPrefix a p = true) (hi : incomp p s = true) :
    incomp a s = true := by
  have h1 : hasPrefix a s = false := incomp_false hi hp
  have h2 : hasPrefix s a = false := by
    cases h : hasPrefix s a with
    | false => rfl
    | true =>
      have := hasPrefix_trans h hp
      simp only [incomp, Bool.and_eq_true, Bool.not_eq_true'] at hi
      rw [hi.2] at this; cases this
  simp [incomp, h1, h2]

theorem incomp_self_prefix {a s : Bytes} (hi : incomp a s = true) :
    hasPrefix a s = false ∧ hasPrefix s a = false := by
  simpa [incomp] using hi

/-- the OOXML "skip files" of zip.go as byte lists -/
def skipB : List Bytes :=
  [[91, 67, 111, 110, 116, 101, 110, 116, 95, 84, 121, 112, 101, 115, 93, 46, 120, 109, 108],
   [95, 114, 101, 108, 115, 47, 46, 114, 101, 108, 115],
   [100, 111, 99, 80, 114, 111, 112, 115],
   [99, 117, 115, 116, 111, 109, 88, 109, 108],
   [91, 116, 114, 97, 115, 104, 93]]

theorem skipB_eq : msoSkipFiles = skipB := by
  unfold msoSkipFiles
  repeat rw [ofString_ofList]
  decide +kernel

/-- detectors that reject every buffer starting with `PK\x03\x04` that shows `n` at offset 30 -/
def rejN (n : Bytes) : Det → Bool
  | .expr (.prefixAt 0 s) => incomp pk34 s
  | .expr (.prim (.zipContains sig true)) => incomp n sig && skipB.all (fun sf => incomp n sf)
  | .expr (.and (.lenGe _) (.prefixAt 30 s)) => incomp n s
  | _ => false

theorem rejN_sound (ext : Ext) (raw n : Bytes) (lim : Nat) (i : Info)
    (hpk : hasPrefix raw pk34 = true) (hl : 30 ≤ raw.length)
    (hn : hasPrefix (raw.drop 30) n = true) (h : rejN n i.det = true) :
    accepts ext raw lim i = false := by
  unfold rejN at h
  split at h
  · rename_i s hd
    rw [accepts_prefix0 ext raw lim i s hd, incomp_false h hpk]
  · rename_i sig hd
    rw [Bool.and_eq_true] at h
    rw [accepts_zipContains ext raw lim i sig true hd,
      zipContains_mso_first_name raw sig n hl hpk hn h.1 (by rw [skipB_eq]; exact h.2)]
    rfl
  · rename_i k s hd
    rw [accepts_at30 ext raw lim i k s hd hl, incomp_false h hn, Bool.and_false]
  · cases h

/-- to a leaf below zip: the child `c` of zip is a leaf and accepts, every detector consulted
    before it either rejects by shape or is shown not to accept: the chain is `c`, zip, root -/
theorem child_reported (ext : Ext) {raw : Bytes} (n : Bytes) (c : String)
    (hpk : hasPrefix raw pk34 = true) (hl : 30 ≤ raw.length) (hn : hasPrefix (raw.drop 30) n = true)
    (hf : (zipNode.children.find? (isNamed c)).isSome = true)
    (hleaf : (zipChild c).children = [])
    (hacc : accepts ext raw 0 (zipChild c).info = true)
    (hriv : ∀ d ∈ rivals (zipPath c) Gen.builtin, rejN n d.info.det = false →
      accepts ext raw 0 d.info = false) :
    (detect ext Gen.builtin raw 0).chain = [(zipChild c).info, zipNode.info, Gen.builtin.info] := by
  obtain ⟨hdesc, hnodes⟩ := descend_zipPath c hf
  have hpath : ∀ x ∈ pathNodes (zipPath c) Gen.builtin, accepts ext raw 0 x.info = true := by
    rw [hnodes]
    exact List.forall_mem_cons.mpr ⟨zip_accepts' ext raw 0 hpk, List.forall_mem_singleton.mpr hacc⟩
  rw [detect_path ext Gen.builtin raw (zipPath c) (zipChild c) hdesc hpath (by rw [hleaf]; simp) ?_, hnodes]
  · rfl
  · intro d hd
    cases hr : rejN n d.info.det with
    | false => exact hriv d hd hr
    | true => exact rejN_sound ext raw n 0 d.info hpk hl hn hr

/-- the detector `zipContains(raw, sig, mso)` as the extractor renders it -/
def zcDet (sig : Bytes) (mso : Bool) : Det := .expr (.prim (.zipContains sig mso))

/-- format, marker, markers of the OOXML siblings consulted before it -/
def ooxmlTable : List (String × Bytes × List Bytes) :=
  [("xlsx", xlB, []), ("docx", wordB, [xlB]), ("pptx", pptB, [xlB, wordB])]

/-- the regenerated facts used for an OOXML format: it is a child of zip and a leaf, its check is
    the zip walk for its marker with the first-entry rule; every detector consulted before it
    either rejects by shape an archive that starts with `[Content_Types].xml`, or is the walk for
    an earlier sibling's marker; those markers are not comparable with `[Content_Types].xml` nor
    with the format's own marker -/
def ooxmlOK (t : String × Bytes × List Bytes) : Bool :=
  (zipNode.children.find? (isNamed t.1)).isSome &&
  ((zipChild t.1).info.det == zcDet t.2.1 true) &&
  (zipChild t.1).children.isEmpty &&
  (rivals (zipPath t.1) Gen.builtin).all (fun d => rejN ctB d.info.det ||
    t.2.2.any (fun s => d.info.det == zcDet s true)) &&
  t.2.2.all (fun s => incomp ctB s && incomp t.2.1 s)

theorem ooxml_ok : ooxmlTable.all ooxmlOK = true := by decide +kernel

/-- the sibling-priority hypothesis for one earlier marker (docx) and, below, for two (pptx) -/
theorem prio_one {l : List Entry} {a : Bytes} (h : ∀ e ∈ l, incomp e.name a = true) :
    ∀ e ∈ l, ∀ s ∈ [a], incomp e.name s = true :=
  fun e he _ hs => List.mem_singleton.mp hs ▸ h e he

theorem prio_two {l : List Entry} {a b : Bytes}
    (h : ∀ e ∈ l, incomp e.name a = true ∧ incomp e.name b = true) :
    ∀ e ∈ l, ∀ s ∈ [a, b], incomp e.name s = true := by
  intro e he s hs
  rcases List.mem_cons.mp hs with rfl | hs
  · exact (h e he).1
  · exact List.mem_singleton.mp hs ▸ (h e he).2

/-- in front of jar: everything but apk rejects an archive that starts with `META-INF/MANIFEST.MF` -/
theorem jar_rivals_shape :
    (rivals (zipPath "jar") Gen.builtin).all (fun d => rejN mfB d.info.det || d.info.det == Gen.d_APK) = true := by
  decide +kernel

/-- in front of apk: everything rejects -/
theorem apk_rivals_shape :
    (rivals (zipPath "apk") Gen.builtin).all (fun d => rejN mfB d.info.det) = true := by decide +kernel

theorem prim_total (raw sig : Bytes) (mso : Bool) :
    ∃ v, (BExp.prim (.zipContains sig mso)).eval raw = some v := by
  simp only [BExp.eval, Prim.eval]; exact zipContains_total raw sig mso

theorem bor_false {a b : BExp} {raw : Bytes} (ha : a.eval raw = some false) (hb : b.eval raw = some false) :
    (BExp.or a b).eval raw = some false := by simp [BExp.eval, ha, hb]

theorem bor_accepts {a b : BExp} {raw : Bytes} (ha : ∃ v, a.eval raw = some v) :
    ((BExp.or a b).eval raw == some true) = ((a.eval raw == some true) || (b.eval raw == some true)) := by
  obtain ⟨v, hv⟩ := ha
  cases v <;> simp [BExp.eval, hv]

/-- the APK check accepts iff one of its five marker names is found -/
theorem apk_accepts_eq (ext : Ext) (raw : Bytes) (lim : Nat) :
    accepts ext raw lim (zipChild "apk").info = apkMarkers.any (fun s => zipContains raw s false == some true) := by
  unfold accepts Cust.detEval
  rw [apk_det]
  simp only [Gen.d_APK, Det.evalWith]
  rw [bor_accepts (prim_total _ _ _), bor_accepts (prim_total _ _ _), bor_accepts (prim_total _ _ _),
    bor_accepts (prim_total _ _ _)]
  simp only [apkMarkers, List.any_cons, List.any_nil, Bool.or_false]
  rfl

theorem apk_accepts (ext : Ext) {raw : Bytes} (lim : Nat) (s : Bytes) (hs : s ∈ apkMarkers)
    (h : zipContains raw s false = some true) : accepts ext raw lim (zipChild "apk").info = true := by
  rw [apk_accepts_eq, List.any_eq_true]
  exact ⟨s, hs, by rw [h]; rfl⟩

theorem apk_not_accepts (ext : Ext) {raw : Bytes} (lim : Nat)
    (h : ∀ s ∈ apkMarkers, zipContains raw s false = some false) :
    accepts ext raw lim (zipChild "apk").info = false := by
  rw [apk_accepts_eq, List.any_eq_false]
  intro s hs
  rw [h s hs]
  exact Bool.false_ne_true

theorem marker_absent {es : List Entry} (tail sig : Bytes) (mso : Bool)
    (hwf : ∀ e ∈ es, e.WF) (hclean : ∀ e ∈ es, e.Clean) (htail : CleanTail tail)
    (hno : ∀ e ∈ es, incomp e.name sig = true) :
    zipContains (archive es tail) sig mso = some false :=
  no_marker_plain_zip' es tail sig mso hwf hclean htail (fun e he => incomp_self_prefix (hno e he))

/-- the loop over entries whose names are not comparable with the marker: the cursor is at
    the name of `m`; the next `fuel` entries (as far as there are any) are well-formed with names
    not comparable with the marker, the entries hopped over (`m` and the first `fuel - 1` after
    it) are clean and of realistic length; if the archive ends within reach, its tail is clean -/
theorem zipLoop_absent (sig tail : Bytes) : ∀ (fuel : Nat) (win : List Entry) (m : Entry),
    m.WF → (∀ e ∈ (m :: win).take fuel, e.Clean ∧ e.Realistic) →
    (∀ e ∈ win.take fuel, e.WF ∧ incomp e.name sig = true) →
    (fuel ≤ win.length ∨ CleanTail tail) →
    zipLoop sig fuel ((archive (m :: win) tail).drop 30) = false := by
  intro fuel
  induction fuel with
  | zero => intro _ _ _ _ _ _; rfl
  | succ f ih =>
    intro win m hmwf hcr hwn hend
    have hm := hcr m (by simp)
    cases win with
    | nil =>
      -- the archive ends here: no further signature
      have htl : CleanTail tail := hend.resolve_left (by simp)
      rw [C19Base.zipLoop_succ, indexOf_last_entry m tail hm.1 htl (by omega)]
    | cons w ws =>
      have hw := hwn w (by simp)
      rw [zipLoop_layout sig f m w ws tail hmwf hm.1 hm.2 hw.1,
        incomp_false hw.2 (archive_name_at_30 w ws tail hw.1), Bool.false_or]
      refine ih ws w hw.1 (fun x hx => hcr x ?_) (fun x hx => hwn x ?_) ?_
      · rw [List.take_succ_cons]; exact List.mem_cons_of_mem _ hx
      · rw [List.take_succ_cons]; exact List.mem_cons_of_mem _ hx
      · exact hend.imp_left (fun h => by rw [List.length_cons] at h; omega)

/-- the walk sees only the first six entries: none of their names comparable with the marker, the
    entries hopped over clean and of realistic length, a clean tail if the archive ends earlier -/
theorem window_absent (e1 : Entry) (es : List Entry) (tail sig : Bytes) (mso : Bool)
    (hwf : ∀ e ∈ e1 :: es.take 5, e.WF)
    (hclean : ∀ e ∈ e1 :: es.take 4, e.Clean) (hreal : ∀ e ∈ es.take 4, e.Realistic)
    (hfirst : e1.csizeField + 49 ≤ 30 + e1.name.length + e1.extra.length + e1.data.length + e1.desc.length)
    (hnowrap : e1.csizeField + 49 < 4294967296)
    (hend : 5 ≤ es.length ∨ CleanTail tail)
    (hno : ∀ e ∈ e1 :: es.take 5, incomp e.name sig = true) :
    zipContains (archive (e1 :: es) tail) sig mso = some false := by
  have hwf1 : e1.WF := hwf e1 (by simp)
  have hc1 : e1.Clean := hclean e1 (by simp)
  have hl := archive_length_30 e1 es tail hwf1
  have hn0 : hasPrefix ((archive (e1 :: es) tail).drop 30) sig = false :=
    incomp_false (hno e1 (by simp)) (archive_name_at_30 e1 es tail hwf1)
  rw [zipContains_of_header _ sig mso hl (archive_hasPrefix_pk34 e1 es tail)]
  cases es with
  | nil =>
    have htl : CleanTail tail := hend.resolve_left (by simp)
    have hcs : u32le (archive [e1] tail) 18 = e1.csizeField := by
      rw [archive_cons]; exact u32le_image e1 _ hwf1.1
    rw [C19Base.zipWalk_eq _ sig mso hl, hn0, hcs, indexOf_last_entry e1 tail hc1 htl (by omega)]
    simp only [Bool.false_eq_true, ↓reduceIte, ite_self]
  | cons w ws =>
    have hw : w.WF := hwf w (by simp)
    rw [zipWalk_layout sig mso e1 w ws tail hwf1 hc1 hw ⟨hfirst, hnowrap⟩, hn0,
      incomp_false (hno w (by simp)) (archive_name_at_30 w ws tail hw),
      zipLoop_absent sig tail 4 ws w hw (fun x hx => ⟨hclean x (List.mem_cons_of_mem _ hx), hreal x hx⟩)
        (fun x hx => ?_) (hend.imp_left (fun h => by rw [List.length_cons] at h; omega))]
    · simp only [Bool.false_eq_true, ↓reduceIte, Bool.or_self, ite_self]
    · have hx' : x ∈ (w :: ws).take 5 := by rw [List.take_succ_cons]; exact List.mem_cons_of_mem _ hx
      exact ⟨hwf x (List.mem_cons_of_mem _ hx'), hno x (List.mem_cons_of_mem _ hx')⟩

/-- OOXML, from verdicts of the walk: first entry `[Content_Types].xml`; the format's marker
    is found, the markers of the OOXML siblings consulted before it are not -/
theorem ooxml_core (ext : Ext) (t : String × Bytes × List Bytes) (ht : t ∈ ooxmlTable)
    (e1 : Entry) (es : List Entry) (tail : Bytes) (hwf1 : e1.WF)
    (hname : e1.name = ofString "[Content_Types].xml")
    (hfound : zipContains (archive (e1 :: es) tail) t.2.1 true = some true)
    (hearlier : ∀ s ∈ t.2.2, zipContains (archive (e1 :: es) tail) s true = some false) :
    (detect ext Gen.builtin (archive (e1 :: es) tail) 0).chain =
      [(zipChild t.1).info, zipNode.info, Gen.builtin.info] := by
  have hok := List.all_eq_true.mp ooxml_ok t ht
  simp only [ooxmlOK, Bool.and_eq_true, beq_iff_eq, List.isEmpty_iff] at hok
  obtain ⟨⟨⟨⟨hf, hdet⟩, hleaf⟩, hriv⟩, _⟩ := hok
  have hn := archive_name_at_30 e1 es tail hwf1
  rw [hname, ctB_eq] at hn
  refine child_reported ext ctB t.1 (archive_hasPrefix_pk34 e1 es tail)
    (archive_length_30 e1 es tail hwf1) hn hf hleaf ?_ ?_
  · rw [accepts_zipContains ext _ 0 _ t.2.1 true hdet, hfound]; rfl
  · intro d hd hr
    have := List.all_eq_true.mp hriv d hd
    rw [hr, Bool.false_or, List.any_eq_true] at this
    obtain ⟨s, hs, hds⟩ := this
    rw [accepts_zipContains ext _ 0 _ s true (by simpa [zcDet] using hds), hearlier s hs]
    rfl

/-- OOXML from the layout and verdicts on the earlier siblings: `[Content_Types].xml` first, the
    first hop inside entry 1, the marker entry among entries 2..6 behind clean entries of
    realistic length -/
theorem ooxml_found (ext : Ext) (t : String × Bytes × List Bytes) (ht : t ∈ ooxmlTable)
    (e1 : Entry) (mid : List Entry) (em : Entry) (rest : List Entry) (tail : Bytes)
    (hwf : ∀ e ∈ e1 :: mid ++ [em], e.WF) (hclean : ∀ e ∈ e1 :: mid, e.Clean)
    (hreal : ∀ e ∈ mid, e.Realistic) (hmid : mid.length ≤ 4)
    (hname : e1.name = ofString "[Content_Types].xml")
    (hhop : FirstHop e1)
    (hmark : hasPrefix em.name t.2.1 = true)
    (hearlier : ∀ s ∈ t.2.2, zipContains (archive (e1 :: mid ++ em :: rest) tail) s true = some false) :
    (detect ext Gen.builtin (archive (e1 :: mid ++ em :: rest) tail) 0).chain =
      [(zipChild t.1).info, zipNode.info, Gen.builtin.info] :=
  ooxml_core ext t ht e1 (mid ++ em :: rest) tail (hwf e1 (by simp)) hname
    (layout_forward_core e1 mid em rest tail t.2.1 true hwf hclean hreal hmid hhop
      (fun _ => by rw [hname]; exact ct_skip) hmark) hearlier

/-- the first hop of a package: `[Content_Types].xml` has 19 bytes -/
theorem ct_first_hop (e1 : Entry) (es : List Entry) (tail : Bytes) (hwf1 : e1.WF)
    (hname : e1.name = ofString "[Content_Types].xml")
    (hcsize : e1.csizeField = e1.data.length ∨ e1.csizeField = 0)
    (hsmall : e1.csizeField ≠ 0 → (archive (e1 :: es) tail).length < 4294967296) : FirstHop e1 :=
  first_hop e1 es tail hwf1 (by rw [hname, ctB_eq]; decide) hcsize hsmall

/-- no name among `[Content_Types].xml`, `mid`, the marker entry and `R` is comparable with the
    marker `s` of an earlier sibling, when none in `mid` and `R` is -/
theorem names_incomp (t : String × Bytes × List Bytes) (ht : t ∈ ooxmlTable)
    (e1 : Entry) (mid : List Entry) (em : Entry) (R : List Entry)
    (hname : e1.name = ofString "[Content_Types].xml") (hmark : hasPrefix em.name t.2.1 = true)
    (hprio : ∀ e ∈ mid ++ R, ∀ s ∈ t.2.2, incomp e.name s = true) (s : Bytes) (hs : s ∈ t.2.2) :
    ∀ e ∈ e1 :: mid ++ em :: R, incomp e.name s = true := by
  have hok := List.all_eq_true.mp ooxml_ok t ht
  simp only [ooxmlOK, Bool.and_eq_true, List.all_eq_true] at hok
  obtain ⟨_, hinc⟩ := hok
  intro e he
  simp only [List.cons_append, List.mem_cons, List.mem_append] at he
  rcases he with rfl | he | rfl | he
  · rw [hname, ctB_eq]; exact (hinc s hs).1
  · exact hprio e (List.mem_append_left _ he) s hs
  · exact incomp_of_prefix hmark (hinc s hs).2
  · exact hprio e (List.mem_append_right _ he) s hs

/-- the entries up to the marker entry are among all entries -/
theorem front_of_all {P : Entry → Prop} {e1 : Entry} {mid : List Entry} {em : Entry} {rest : List Entry}
    (h : ∀ e ∈ e1 :: mid ++ em :: rest, P e) : (∀ e ∈ e1 :: mid ++ [em], P e) ∧ (∀ e ∈ e1 :: mid, P e) :=
  ⟨fun e he => h e (by
      rw [List.mem_append] at he ⊢
      exact he.imp_right fun h1 => by rw [List.mem_singleton.mp h1]; exact List.mem_cons_self ..),
    fun e he => h e (List.mem_append_left _ he)⟩

/-- OOXML from the layout, whole archive clean: sizes in the local header (`Or.inl`) or
    streamed (`Or.inr`) -/
theorem ooxml_reported (ext : Ext) (t : String × Bytes × List Bytes) (ht : t ∈ ooxmlTable)
    (e1 : Entry) (mid : List Entry) (em : Entry) (rest : List Entry) (tail : Bytes)
    (hwf : ∀ e ∈ e1 :: mid ++ em :: rest, e.WF)
    (hclean : ∀ e ∈ e1 :: mid ++ em :: rest, e.Clean) (htail : CleanTail tail)
    (hreal : ∀ e ∈ mid, e.Realistic) (hmid : mid.length ≤ 4)
    (hname : e1.name = ofString "[Content_Types].xml")
    (hcsize : e1.csizeField = e1.data.length ∨ e1.csizeField = 0)
    (hsmall : e1.csizeField ≠ 0 → (archive (e1 :: mid ++ em :: rest) tail).length < 4294967296)
    (hmark : hasPrefix em.name t.2.1 = true)
    (hprio : ∀ e ∈ mid ++ rest, ∀ s ∈ t.2.2, incomp e.name s = true) :
    (detect ext Gen.builtin (archive (e1 :: mid ++ em :: rest) tail) 0).chain =
      [(zipChild t.1).info, zipNode.info, Gen.builtin.info] := by
  have hhop := ct_first_hop e1 (mid ++ em :: rest) tail (hwf e1 (by simp)) hname hcsize hsmall
  have hearlier : ∀ s ∈ t.2.2, zipContains (archive (e1 :: mid ++ em :: rest) tail) s true = some false :=
    fun s hs => marker_absent tail s true hwf hclean htail
      (names_incomp t ht e1 mid em rest hname hmark hprio s hs)
  exact ooxml_found ext t ht e1 mid em rest tail (front_of_all hwf).1 (front_of_all hclean).2 hreal hmid hname
    hhop hmark hearlier

theorem take5_split {α : Type} (mid rest : List α) (em : α) (h : mid.length ≤ 4) :
    (mid ++ em :: rest).take 5 = mid ++ em :: rest.take (4 - mid.length) := by
  rw [List.take_append, List.take_of_length_le (by omega)]
  have : 5 - mid.length = (4 - mid.length) + 1 := by omega
  rw [this, List.take_succ_cons]

theorem window_forward_hyps (e1 : Entry) (mid : List Entry) (em : Entry) (rest : List Entry)
    (hwf : ∀ e ∈ e1 :: (mid ++ em :: rest).take 5, e.WF)
    (hclean : ∀ e ∈ e1 :: (mid ++ em :: rest).take 4, e.Clean)
    (hreal : ∀ e ∈ (mid ++ em :: rest).take 4, e.Realistic) (hmid : mid.length ≤ 4) :
    (∀ e ∈ e1 :: mid ++ [em], e.WF) ∧ (∀ e ∈ e1 :: mid, e.Clean) ∧ (∀ e ∈ mid, e.Realistic) := by
  have h4 : (mid ++ em :: rest).take 4 = mid ++ (em :: rest).take (4 - mid.length) := by
    rw [List.take_append, List.take_of_length_le hmid]
  rw [take5_split mid rest em hmid] at hwf
  rw [h4] at hclean hreal
  exact ⟨(front_of_all (e1 := e1) (mid := mid) (em := em) (rest := rest.take (4 - mid.length)) hwf).1,
    fun e he => hclean e (List.mem_append_left _ he), fun e he => hreal e (List.mem_append_left _ he)⟩

/-- OOXML from the layout; only the first six entries matter: sizes in the local header
    (`Or.inl`) or streamed (`Or.inr`) -/
theorem ooxml_reported_window (ext : Ext) (t : String × Bytes × List Bytes) (ht : t ∈ ooxmlTable)
    (e1 : Entry) (mid : List Entry) (em : Entry) (rest : List Entry) (tail : Bytes)
    (hwf : ∀ e ∈ e1 :: (mid ++ em :: rest).take 5, e.WF)
    (hclean : ∀ e ∈ e1 :: (mid ++ em :: rest).take 4, e.Clean)
    (hreal : ∀ e ∈ (mid ++ em :: rest).take 4, e.Realistic) (hmid : mid.length ≤ 4)
    (hend : 5 ≤ (mid ++ em :: rest).length ∨ CleanTail tail)
    (hname : e1.name = ofString "[Content_Types].xml")
    (hcsize : e1.csizeField = e1.data.length ∨ e1.csizeField = 0)
    (hsmall : e1.csizeField ≠ 0 → (archive (e1 :: mid ++ em :: rest) tail).length < 4294967296)
    (hmark : hasPrefix em.name t.2.1 = true)
    (hprio : ∀ e ∈ mid ++ rest.take (4 - mid.length), ∀ s ∈ t.2.2, incomp e.name s = true) :
    (detect ext Gen.builtin (archive (e1 :: mid ++ em :: rest) tail) 0).chain =
      [(zipChild t.1).info, zipNode.info, Gen.builtin.info] := by
  obtain ⟨hwf', hclean', hreal'⟩ := window_forward_hyps e1 mid em rest hwf hclean hreal hmid
  have hhop := ct_first_hop e1 (mid ++ em :: rest) tail (hwf e1 (by simp)) hname hcsize hsmall
  exact ooxml_found ext t ht e1 mid em rest tail hwf' hclean' hreal' hmid hname hhop hmark
    fun s hs => window_absent e1 (mid ++ em :: rest) tail s true hwf hclean hreal hhop.1 hhop.2 hend (by
      rw [take5_split mid rest em hmid]
      exact names_incomp t ht e1 mid em _ hname hmark hprio s hs)

/-- JAR, from verdicts of the walk: first entry `META-INF/MANIFEST.MF`, none of the APK
    markers found (apk is the one detector in front of jar that does not reject by shape) -/
theorem jar_core (ext : Ext) (e1 : Entry) (es : List Entry) (tail : Bytes) (hwf1 : e1.WF)
    (hname : e1.name = ofString "META-INF/MANIFEST.MF")
    (habsent : ∀ s ∈ apkMarkers, zipContains (archive (e1 :: es) tail) s false = some false) :
    (detect ext Gen.builtin (archive (e1 :: es) tail) 0).chain =
      [(zipChild "jar").info, zipNode.info, Gen.builtin.info] := by
  have hpk := archive_hasPrefix_pk34 e1 es tail
  have hl := archive_length_30 e1 es tail hwf1
  have hn := archive_name_at_30 e1 es tail hwf1
  rw [hname, mfB_eq] at hn
  obtain ⟨_, _, _, _, _, _, hjar, hleaf⟩ := child_facts
  refine child_reported ext mfB "jar" hpk hl hn (by decide) hleaf ?_ ?_
  · rw [accepts_zipContains ext _ 0 _ mfB false hjar,
      C19Base.first_entry_marker _ mfB false hl hpk hn]
    rfl
  · intro d hd hr
    have := List.all_eq_true.mp jar_rivals_shape d hd
    rw [hr, Bool.false_or, beq_iff_eq] at this
    rw [accepts_congr ext _ 0 d.info (zipChild "apk").info (this.trans apk_det.symm)]
    exact apk_not_accepts ext 0 habsent

/-- the first hop of an archive that starts with the manifest (20 bytes of name) -/
theorem mf_first_hop (e1 : Entry) (es : List Entry) (tail : Bytes) (hwf1 : e1.WF)
    (hname : e1.name = ofString "META-INF/MANIFEST.MF")
    (hcsize : e1.csizeField = e1.data.length ∨ e1.csizeField = 0)
    (hsmall : e1.csizeField ≠ 0 → (archive (e1 :: es) tail).length < 4294967296) : FirstHop e1 :=
  first_hop e1 es tail hwf1 (by rw [hname, mfB_eq]; decide) hcsize hsmall

theorem mf_apk_incomp (e1 : Entry) (hname : e1.name = ofString "META-INF/MANIFEST.MF") :
    ∀ s ∈ apkMarkers, incomp e1.name s = true := by
  rw [hname, mfB_eq]
  exact List.all_eq_true.mp (by decide)

theorem jar_reported (ext : Ext) (e1 : Entry) (es : List Entry) (tail : Bytes)
    (hname : e1.name = ofString "META-INF/MANIFEST.MF")
    (hwf : ∀ e ∈ e1 :: es, e.WF) (hclean : ∀ e ∈ e1 :: es, e.Clean) (htail : CleanTail tail)
    (hapk : ∀ e ∈ es, ∀ s ∈ apkMarkers, incomp e.name s = true) :
    (detect ext Gen.builtin (archive (e1 :: es) tail) 0).chain =
      [(zipChild "jar").info, zipNode.info, Gen.builtin.info] :=
  jar_core ext e1 es tail (hwf e1 (by simp)) hname fun s hs =>
    marker_absent tail s false hwf hclean htail
      (List.forall_mem_cons.mpr ⟨mf_apk_incomp e1 hname s hs, fun e he => hapk e he s hs⟩)

/-- APK, from a verdict of the walk: first entry `META-INF/MANIFEST.MF`, an APK marker found -/
theorem apk_core (ext : Ext) (e1 : Entry) (es : List Entry) (tail s : Bytes) (hs : s ∈ apkMarkers)
    (hwf1 : e1.WF) (hname : e1.name = ofString "META-INF/MANIFEST.MF")
    (hfound : zipContains (archive (e1 :: es) tail) s false = some true) :
    (detect ext Gen.builtin (archive (e1 :: es) tail) 0).chain =
      [(zipChild "apk").info, zipNode.info, Gen.builtin.info] := by
  have hn := archive_name_at_30 e1 es tail hwf1
  rw [hname, mfB_eq] at hn
  refine child_reported ext mfB "apk" (archive_hasPrefix_pk34 e1 es tail)
    (archive_length_30 e1 es tail hwf1) hn (by decide) (by decide) (apk_accepts ext 0 s hs hfound) ?_
  intro d hd hr
  rw [List.all_eq_true.mp apk_rivals_shape d hd] at hr
  cases hr

/-- APK from the layout: manifest first, its size field the stored size (`Or.inl`) or 0
    (`Or.inr`, streamed), an APK marker name among entries 2..6 -/
theorem apk_found (ext : Ext) (e1 : Entry) (mid : List Entry) (em : Entry) (rest : List Entry)
    (tail s : Bytes) (hs : s ∈ apkMarkers)
    (hwf : ∀ e ∈ e1 :: mid ++ [em], e.WF) (hclean : ∀ e ∈ e1 :: mid, e.Clean)
    (hreal : ∀ e ∈ mid, e.Realistic) (hmid : mid.length ≤ 4)
    (hname : e1.name = ofString "META-INF/MANIFEST.MF")
    (hcsize : e1.csizeField = e1.data.length ∨ e1.csizeField = 0)
    (hsmall : e1.csizeField ≠ 0 → (archive (e1 :: mid ++ em :: rest) tail).length < 4294967296)
    (hmark : hasPrefix em.name s = true) :
    (detect ext Gen.builtin (archive (e1 :: mid ++ em :: rest) tail) 0).chain =
      [(zipChild "apk").info, zipNode.info, Gen.builtin.info] := by
  have hwf1 := hwf e1 (by simp)
  exact apk_core ext e1 (mid ++ em :: rest) tail s hs hwf1 hname
    (layout_forward_core e1 mid em rest tail s false hwf hclean hreal hmid
      (mf_first_hop e1 (mid ++ em :: rest) tail hwf1 hname hcsize hsmall) (fun h => by cases h) hmark)

theorem apk_reported (ext : Ext) (e1 : Entry) (mid : List Entry) (em : Entry) (rest : List Entry)
    (tail s : Bytes) (hs : s ∈ apkMarkers)
    (hwf : ∀ e ∈ e1 :: mid ++ [em], e.WF) (hclean : ∀ e ∈ e1 :: mid, e.Clean)
    (hreal : ∀ e ∈ mid, e.Realistic) (hmid : mid.length ≤ 4)
    (hname : e1.name = ofString "META-INF/MANIFEST.MF") (hcsize : e1.csizeField = e1.data.length)
    (hsmall : (archive (e1 :: mid ++ em :: rest) tail).length < 4294967296)
    (hmark : hasPrefix em.name s = true) :
    (detect ext Gen.builtin (archive (e1 :: mid ++ em :: rest) tail) 0).chain =
      [(zipChild "apk").info, zipNode.info, Gen.builtin.info] :=
  apk_found ext e1 mid em rest tail s hs hwf hclean hreal hmid hname (Or.inl hcsize) (fun _ => hsmall) hmark

end Mime.C19Rep
