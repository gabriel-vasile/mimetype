import MimeModel.Model.Charset
import MimeModel.Spec.Utf8
import MimeModel.Lemmas.Bytes
/-
  The table-driven model of Go's `utf8.Valid` (second-byte ranges per lead byte) accepts
  exactly the RFC 3629 well-formed sequences of Spec/Utf8.lean (decode the scalar value,
  require the shortest form, no surrogates, at most U+10FFFF).  Both are compared with one
  character decoded through the model's tables `leadSize` and `secondOk`.
-/
namespace Mime.Utf8
open Mime Mime.Charset Mime.Spec

theorem cont_eq (b : Nat) : U.cont b = isCont b := rfl

theorem isCont_iff (b : Nat) : isCont b = true ↔ 0x80 ≤ b ∧ b ≤ 0xBF := by
  simp only [isCont, Bool.and_eq_true, decide_eq_true_eq]

theorem leadSize_spec (a : Nat) :
    leadSize a = 1 ∧ (a < 0xC2 ∨ 0xF5 ≤ a) ∨ leadSize a = 2 ∧ 0xC2 ≤ a ∧ a ≤ 0xDF ∨
    leadSize a = 3 ∧ 0xE0 ≤ a ∧ a ≤ 0xEF ∨ leadSize a = 4 ∧ 0xF0 ≤ a ∧ a ≤ 0xF4 := by
  simp only [leadSize, Bool.and_eq_true, decide_eq_true_eq]
  split
  · omega
  split
  · omega
  split
  · omega
  split
  · omega
  · omega

theorem secondOk_iff (a b : Nat) : secondOk a b = true ↔
    0x80 ≤ b ∧ b ≤ 0xBF ∧ (a = 0xE0 → 0xA0 ≤ b) ∧ (a = 0xED → b ≤ 0x9F) ∧
    (a = 0xF0 → 0x90 ≤ b) ∧ (a = 0xF4 → b ≤ 0x8F) := by
  simp only [secondOk, isCont, beq_iff_eq]
  split
  · subst a
    simp only [Bool.and_eq_true, decide_eq_true_eq, Nat.reduceEqDiff, false_imp_iff, true_imp_iff, and_true]
    omega
  split
  · subst a
    simp only [Bool.and_eq_true, decide_eq_true_eq, Nat.reduceEqDiff, false_imp_iff, true_imp_iff, and_true, true_and]
    omega
  split
  · subst a
    simp only [Bool.and_eq_true, decide_eq_true_eq, Nat.reduceEqDiff, false_imp_iff, true_imp_iff, and_true, true_and]
    omega
  split
  · subst a
    simp only [Bool.and_eq_true, decide_eq_true_eq, Nat.reduceEqDiff, false_imp_iff, true_imp_iff, true_and]
    omega
  · rename_i h1 h2 h3 h4
    simp only [Bool.and_eq_true, decide_eq_true_eq, h1, h2, h3, h4, false_imp_iff, and_true]

def tailOk (a : Nat) : Nat → Bytes → Bool
  | 2, b :: _ => secondOk a b
  | 3, b :: c :: _ => secondOk a b && isCont c
  | 4, b :: c :: d :: _ => secondOk a b && isCont c && isCont d
  | _, _ => false

/-- one character at the head of the input, decoded the way Go does it: the lead byte gives
    the length (`first`) and the range of the second byte (`acceptRanges`) -/
def mlen : Bytes → Option Nat
  | [] => none
  | a :: rest =>
    if a < 0x80 then some 1 else if tailOk a (leadSize a) rest then some (leadSize a) else none

theorem secondOk_plain (a b : Nat) (h : a ≠ 0xE0 ∧ a ≠ 0xED ∧ a ≠ 0xF0 ∧ a ≠ 0xF4) :
    secondOk a b = isCont b := by
  simp only [secondOk, beq_false_of_ne h.1, beq_false_of_ne h.2.1, beq_false_of_ne h.2.2.1, beq_false_of_ne h.2.2.2,
    Bool.false_eq_true, if_false]

theorem leadSize_two (a : Nat) (h1 : 0xC2 ≤ a) (h2 : a ≤ 0xDF) : leadSize a = 2 := by
  have := leadSize_spec a; omega

theorem leadSize_three (a : Nat) (h1 : 0xE0 ≤ a) (h2 : a ≤ 0xEF) : leadSize a = 3 := by
  have := leadSize_spec a; omega

theorem leadSize_four (a : Nat) (h1 : 0xF0 ≤ a) (h2 : a ≤ 0xF4) : leadSize a = 4 := by
  have := leadSize_spec a; omega

theorem leadSize_bad (a : Nat) (h : a < 0xC2 ∨ 0xF5 ≤ a) : leadSize a = 1 := by
  have := leadSize_spec a; omega

theorem and_step (p : Bool) (k : Nat) (l : Bytes) :
    (p && utf8Valid (l.drop k)) = (if p then some k else none : Option Nat).any fun k => utf8Valid (l.drop k) := by
  cases p <;> rfl

theorem valid_mlen (a : Nat) (rest : Bytes) :
    utf8Valid (a :: rest) = (mlen (a :: rest)).any fun k => utf8Valid ((a :: rest).drop k) := by
  rw [utf8Valid.eq_def]
  dsimp only
  apply ite_cases <;> intro h80
  · rw [mlen, if_pos h80]; rfl
  rw [mlen, if_neg h80]
  apply ite_cases <;> intro h2
  · simp only [Bool.and_eq_true, decide_eq_true_eq] at h2
    rw [leadSize_two a (by omega) (by omega)]
    match rest with
    | [] => rfl
    | b :: r =>
      simp only [tailOk, secondOk_plain a b (by omega)]; exact and_step _ 2 (a :: b :: r)
  apply ite_cases <;> intro h3
  · cases eq_of_beq h3
    match rest with
    | [] | [_] => rfl
    | b :: c :: r => exact and_step _ 3 (_ :: b :: c :: r)
  apply ite_cases <;> intro h4
  · simp only [Bool.and_eq_true, Bool.or_eq_true, decide_eq_true_eq, beq_iff_eq] at h4
    rw [leadSize_three a (by omega) (by omega)]
    match rest with
    | [] | [_] => rfl
    | b :: c :: r =>
      simp only [tailOk, secondOk_plain a b (by omega)]; exact and_step _ 3 (a :: b :: c :: r)
  apply ite_cases <;> intro h5
  · cases eq_of_beq h5
    match rest with
    | [] | [_] => rfl
    | b :: c :: r => exact and_step _ 3 (_ :: b :: c :: r)
  apply ite_cases <;> intro h6
  · cases eq_of_beq h6
    match rest with
    | [] | [_] | [_, _] => rfl
    | b :: c :: d :: r => exact and_step _ 4 (_ :: b :: c :: d :: r)
  apply ite_cases <;> intro h7
  · simp only [Bool.and_eq_true, decide_eq_true_eq] at h7
    rw [leadSize_four a (by omega) (by omega)]
    match rest with
    | [] | [_] | [_, _] => rfl
    | b :: c :: d :: r =>
      simp only [tailOk, secondOk_plain a b (by omega)]; exact and_step _ 4 (a :: b :: c :: d :: r)
  apply ite_cases <;> intro h8
  · cases eq_of_beq h8
    match rest with
    | [] | [_] | [_, _] => rfl
    | b :: c :: d :: r => exact and_step _ 4 (_ :: b :: c :: d :: r)
  simp only [Bool.and_eq_true, Bool.or_eq_true, decide_eq_true_eq, beq_iff_eq] at h2 h3 h4 h5 h6 h7 h8
  rw [leadSize_bad a (by omega)]
  rfl

theorem two_ok (a b : Nat) (h1 : 0xC0 ≤ a) (h2 : a ≤ 0xDF) :
    (U.cont b && decide ((a % 32) * 64 + b % 64 ≥ 0x80)) = (decide (0xC2 ≤ a) && secondOk a b) := by
  rw [secondOk_plain a b (by omega), Bool.eq_iff_iff]
  simp only [U.cont, isCont, Bool.and_eq_true, decide_eq_true_eq]
  omega

theorem three_ok (a b c : Nat) (h1 : 0xE0 ≤ a) (h2 : a ≤ 0xEF) :
    (let cp := ((a % 16) * 64 + b % 64) * 64 + c % 64
     U.cont b && U.cont c && decide (cp ≥ 0x800) && !(decide (0xD800 ≤ cp) && decide (cp ≤ 0xDFFF))) =
    (secondOk a b && isCont c) := by
  have n1 : ¬ a = 0xF0 := by omega
  have n2 : ¬ a = 0xF4 := by omega
  rw [Bool.eq_iff_iff]
  simp only [U.cont, isCont, Bool.and_eq_true, decide_eq_true_eq, secondOk_iff, Bool.not_eq_true', Bool.and_eq_false_iff,
    decide_eq_false_iff_not, n1, n2, false_imp_iff, and_true]
  omega

theorem four_ok (a b c d : Nat) (h1 : 0xF0 ≤ a) (h2 : a ≤ 0xF7) :
    (let cp := (((a % 8) * 64 + b % 64) * 64 + c % 64) * 64 + d % 64
     U.cont b && U.cont c && U.cont d && decide (cp ≥ 0x10000) && decide (cp ≤ 0x10FFFF)) =
    (decide (a ≤ 0xF4) && (secondOk a b && isCont c && isCont d)) := by
  have n1 : ¬ a = 0xE0 := by omega
  have n2 : ¬ a = 0xED := by omega
  rw [Bool.eq_iff_iff]
  simp only [U.cont, isCont, Bool.and_eq_true, decide_eq_true_eq, secondOk_iff, n1, n2, false_imp_iff, true_and]
  omega

theorem mlen_lead (a n : Nat) (rest : Bytes) (h80 : ¬ a < 0x80) (hn : leadSize a = n) :
    mlen (a :: rest) = if tailOk a n rest then some n else none := by
  rw [mlen, if_neg h80, hn]

theorem charLen_eq (l : Bytes) : U.charLen l = mlen l := by
  match l with
  | [] => rfl
  | a :: rest =>
    rw [U.charLen.eq_def]
    dsimp only
    apply ite_cases <;> intro h80
    · rw [mlen, if_pos h80]
    apply ite_cases <;> intro h2
    · simp only [Bool.and_eq_true, decide_eq_true_eq] at h2
      by_cases hc : 0xC2 ≤ a
      · rw [mlen_lead a 2 rest h80 (leadSize_two a (by omega) (by omega))]
        match rest with
        | [] => rfl
        | b :: r => dsimp only; rw [two_ok a b h2.1 h2.2, decide_eq_true hc]; rfl
      · rw [mlen_lead a 1 rest h80 (leadSize_bad a (by omega))]
        match rest with
        | [] => rfl
        | b :: r => dsimp only; rw [two_ok a b h2.1 h2.2, decide_eq_false hc]; rfl
    apply ite_cases <;> intro h3
    · simp only [Bool.and_eq_true, decide_eq_true_eq] at h3
      rw [mlen_lead a 3 rest h80 (leadSize_three a (by omega) (by omega))]
      match rest with
      | [] | [_] => rfl
      | b :: c :: r => exact congrArg (fun p : Bool => if p then some 3 else none) (three_ok a b c h3.1 h3.2)
    apply ite_cases <;> intro h4
    · simp only [Bool.and_eq_true, decide_eq_true_eq] at h4
      by_cases hc : a ≤ 0xF4
      · rw [mlen_lead a 4 rest h80 (leadSize_four a (by omega) (by omega))]
        match rest with
        | [] | [_] | [_, _] => rfl
        | b :: c :: d :: r =>
          refine (congrArg (fun p : Bool => if p then some 4 else none) (four_ok a b c d h4.1 h4.2)).trans ?_
          rw [decide_eq_true hc]; rfl
      · rw [mlen_lead a 1 rest h80 (leadSize_bad a (by omega))]
        match rest with
        | [] | [_] | [_, _] => rfl
        | b :: c :: d :: r =>
          refine (congrArg (fun p : Bool => if p then some 4 else none) (four_ok a b c d h4.1 h4.2)).trans ?_
          rw [decide_eq_false hc]; rfl
    simp only [Bool.and_eq_true, decide_eq_true_eq] at h2 h3 h4
    rw [mlen_lead a 1 rest h80 (leadSize_bad a (by omega))]
    rfl

theorem secondOk_cont (a b : Nat) (h : secondOk a b = true) : isCont b = true := by
  rw [secondOk_iff] at h; rw [isCont_iff]; omega

theorem tailOk_spec (a n : Nat) (rest : Bytes) (h : tailOk a n rest = true) :
    2 ≤ n ∧ n ≤ rest.length + 1 ∧ ∀ c ∈ rest.take (n - 1), isCont c = true := by
  unfold tailOk at h
  split at h
  · refine ⟨by omega, by simp only [List.length_cons]; omega, ?_⟩
    simp only [Nat.add_one_sub_one, List.take_succ_cons, List.take_zero, List.forall_mem_cons, secondOk_cont a _ h,
      List.not_mem_nil, false_imp_iff, implies_true, and_self]
  · simp only [Bool.and_eq_true] at h
    refine ⟨by omega, by simp only [List.length_cons]; omega, ?_⟩
    simp only [Nat.add_one_sub_one, List.take_succ_cons, List.take_zero, List.forall_mem_cons, secondOk_cont a _ h.1, h.2,
      List.not_mem_nil, false_imp_iff, implies_true, and_self]
  · simp only [Bool.and_eq_true] at h
    refine ⟨by omega, by simp only [List.length_cons]; omega, ?_⟩
    simp only [Nat.add_one_sub_one, List.take_succ_cons, List.take_zero, List.forall_mem_cons, secondOk_cont a _ h.1.1, h.1.2, h.2,
      List.not_mem_nil, false_imp_iff, implies_true, and_self]
  · cases h

theorem mlen_some (a k : Nat) (rest : Bytes) (h : mlen (a :: rest) = some k) :
    a < 0x80 ∧ k = 1 ∨ k = leadSize a ∧ tailOk a k rest = true := by
  rw [mlen] at h
  split at h
  · cases h; exact Or.inl ⟨‹_›, rfl⟩
  · split at h
    · cases h; exact Or.inr ⟨rfl, ‹_›⟩
    · cases h

theorem valid_cons_inv (a : Nat) (rest : Bytes) (h : utf8Valid (a :: rest) = true) :
    ∃ k, (a < 0x80 ∨ k + 1 = leadSize a) ∧ k ≤ rest.length ∧ (∀ c ∈ rest.take k, isCont c = true) ∧
      utf8Valid (rest.drop k) = true := by
  rw [valid_mlen, Option.any_eq_true] at h
  obtain ⟨k, hk, hv⟩ := h
  rcases mlen_some a k rest hk with ⟨h80, rfl⟩ | ⟨hl, ht⟩
  · exact ⟨0, Or.inl h80, Nat.zero_le _, fun _ hc => (List.not_mem_nil hc).elim, hv⟩
  · have := tailOk_spec a k rest ht
    obtain ⟨k, rfl⟩ : ∃ j, k = j + 1 := ⟨k - 1, by omega⟩
    exact ⟨k, Or.inr hl, by omega, this.2.2, hv⟩

theorem cont_lt (a : Nat) (h : isCont a = true) : a < 0xC0 := by
  rw [isCont_iff] at h; omega

/-- in a valid sequence, a lead byte `n` positions from the end announces at most `n` bytes -/
theorem lead_fits : ∀ (n : Nat) (q t : Bytes), q.length = n → utf8Valid (q ++ t) = true →
    ∀ a t', t = a :: t' → 0xC0 ≤ a → leadSize a ≤ t.length := by
  intro n
  induction n using Nat.strongRecOn with
  | _ n ih =>
    intro q t hq hv a t' ht ha
    subst ht
    cases q with
    | nil =>
      obtain ⟨k, hk, hl, _⟩ := valid_cons_inv a t' hv
      simp only [List.length_cons]
      omega
    | cons c q' =>
      obtain ⟨k, _, _, hc, hd⟩ := valid_cons_inv c (q' ++ a :: t') hv
      by_cases hkq : k ≤ q'.length
      · rw [List.drop_append_of_le_length hkq] at hd
        exact ih (q'.drop k).length (by simp only [List.length_drop, ← hq, List.length_cons]; omega) _ _ rfl hd a t' rfl ha
      · have := cont_lt a (hc a (by
          rw [List.take_append, show k - q'.length = (k - q'.length - 1) + 1 by omega, List.take_succ_cons]
          exact List.mem_append_right _ (List.mem_cons_self ..)))
        omega

theorem charLen_pos {b : Bytes} {k : Nat} (h : U.charLen b = some k) : 1 ≤ k := by
  rw [charLen_eq] at h
  match b with
  | [] => cases h
  | a :: rest =>
    rcases mlen_some a k rest h with ⟨_, rfl⟩ | ⟨_, ht⟩
    · omega
    · have := tailOk_spec a k rest ht; omega

theorem valid_eq : ∀ (fuel : Nat) (b : Bytes), b.length < fuel → U.valid fuel b = utf8Valid b := by
  intro fuel
  induction fuel with
  | zero => intro b h; omega
  | succ fuel ih =>
    intro b h
    cases b with
    | nil => simp [U.valid, utf8Valid]
    | cons a rest =>
      rw [valid_mlen, ← charLen_eq, U.valid]
      · cases hk : U.charLen (a :: rest) with
        | none => rfl
        | some k =>
          have := charLen_pos hk
          exact ih _ (by simp only [List.length_drop, List.length_cons] at h ⊢; omega)
      · intro hne; cases hne

/-- **`utf8.Valid` = RFC 3629** -/
theorem utf8Valid_eq_spec (b : Bytes) : utf8Valid b = U.validUtf8 b :=
  (valid_eq (b.length + 1) b (by omega)).symm

theorem lead3_cases (b0 : Nat) (h1 : 0xE0 ≤ b0) (h2 : b0 ≤ 0xF4) :
    b0 = 0xE0 ∨ (0xE1 ≤ b0 ∧ b0 ≤ 0xEC) ∨ b0 = 0xED ∨ b0 = 0xEE ∨ b0 = 0xEF ∨ b0 = 0xF0 ∨
    (0xF1 ≤ b0 ∧ b0 ≤ 0xF3) ∨ b0 = 0xF4 := by omega

theorem trunc2_of (b0 b1 : Nat) (h1 : 0xE0 ≤ b0) (h2 : b0 ≤ 0xF4) (h : secondOk b0 b1 = true) :
    U.truncSeq [b0, b1] = true := by
  have hc : U.cont b1 = true := secondOk_cont _ _ h
  obtain ⟨_, _, e0, ed, f0, f4⟩ := (secondOk_iff b0 b1).1 h
  simp only [U.truncSeq, hc, Bool.true_and, Bool.or_eq_true, Bool.and_eq_true, decide_eq_true_eq, beq_iff_eq, ge_iff_le]
  rcases lead3_cases b0 h1 h2 with rfl | h | rfl | rfl | rfl | rfl | h | rfl
  · simp only [e0 rfl, and_self, true_or]
  · simp only [h, and_self, true_or, or_true]
  · simp only [ed rfl, and_self, true_or, or_true]
  · simp only [true_or, or_true]
  · simp only [true_or, or_true]
  · simp only [f0 rfl, and_self, true_or, or_true]
  · simp only [h, and_self, true_or, or_true]
  · simp only [f4 rfl, and_self, or_true]

theorem trunc3_of (b0 b1 b2 : Nat) (h1 : 0xF0 ≤ b0) (h2 : b0 ≤ 0xF4) (h : secondOk b0 b1 = true)
    (hc2 : isCont b2 = true) : U.truncSeq [b0, b1, b2] = true := by
  have hc : U.cont b1 = true := secondOk_cont _ _ h
  have hc2 : U.cont b2 = true := hc2
  obtain ⟨_, _, _, _, f0, f4⟩ := (secondOk_iff b0 b1).1 h
  simp only [U.truncSeq, hc, hc2, Bool.true_and, Bool.or_eq_true, Bool.and_eq_true, decide_eq_true_eq, beq_iff_eq, ge_iff_le]
  rcases (by omega : b0 = 0xF0 ∨ (0xF1 ≤ b0 ∧ b0 ≤ 0xF3) ∨ b0 = 0xF4) with rfl | h | rfl
  · simp only [f0 rfl, and_self, true_or]
  · simp only [h, and_self, true_or, or_true]
  · simp only [f4 rfl, and_self, or_true]

theorem trunc2_inv (b0 b1 : Nat) (h : U.truncSeq [b0, b1] = true) :
    0xE0 ≤ b0 ∧ b0 ≤ 0xF4 ∧ secondOk b0 b1 = true := by
  simp only [U.truncSeq, U.cont, Bool.and_eq_true, Bool.or_eq_true, decide_eq_true_eq, beq_iff_eq] at h
  rw [secondOk_iff]
  omega

theorem trunc3_inv (b0 b1 b2 : Nat) (h : U.truncSeq [b0, b1, b2] = true) :
    0xF0 ≤ b0 ∧ b0 ≤ 0xF4 ∧ secondOk b0 b1 = true ∧ isCont b2 = true := by
  simp only [U.truncSeq, U.cont, Bool.and_eq_true, Bool.or_eq_true, decide_eq_true_eq, beq_iff_eq] at h
  rw [secondOk_iff, isCont_iff]
  omega

theorem cont_facts (b : Nat) (h : isCont b = true) : ¬ b < 0x80 ∧ runeStart b = false := by
  refine ⟨?_, by rw [runeStart, h]; rfl⟩
  rw [isCont_iff] at h; omega

theorem lead_facts (b : Nat) (h : 0xC0 ≤ b) : ¬ b < 0x80 ∧ runeStart b = true := by
  refine ⟨by omega, ?_⟩
  simp only [runeStart, isCont, Bool.not_eq_true', Bool.and_eq_false_iff, decide_eq_false_iff_not]
  omega

theorem trunc_of_cut (b0 : Nat) (t : Bytes) (hl : t.length ≤ 2) (hf : fullRune (b0 :: t) = false) :
    U.truncSeq (b0 :: t) = true := by
  have L := leadSize_spec b0
  match t, hl with
  | [], _ =>
    simp only [fullRune, decide_eq_false_iff_not] at hf
    simp only [U.truncSeq, Bool.and_eq_true, decide_eq_true_eq]
    omega
  | [b1], _ =>
    simp only [fullRune, Bool.or_eq_false_iff, decide_eq_false_iff_not, Bool.not_eq_false'] at hf
    exact trunc2_of b0 b1 (by omega) (by omega) hf.2
  | [b1, b2], _ =>
    simp only [fullRune, List.length_nil, Bool.or_eq_false_iff, decide_eq_false_iff_not, Bool.not_eq_false'] at hf
    exact trunc3_of b0 b1 b2 (by omega) (by omega) hf.1.2 hf.2

/-- `y` is `x`, or `x` without the cut-off start of a character at its end -/
def Cut (x y : Bytes) : Prop := y = x ∨ ∃ s, x = y ++ s ∧ U.truncSeq s = true

/-- one round of the loop of `FromPlain`, at byte `b` with the continuation bytes `suf` after it -/
theorem strip_level (x p suf next : Bytes) (b : Nat) (hx : x = p ++ b :: suf) (hl : suf.length ≤ 2)
    (hn : isCont b = true → Cut x next) :
    Cut x (if b < 0x80 then x else if runeStart b then (if fullRune (b :: suf) then x else p) else next) := by
  by_cases h1 : b < 0x80
  · rw [if_pos h1]; exact Or.inl rfl
  rw [if_neg h1]
  by_cases h2 : runeStart b = true
  · rw [if_pos h2]
    by_cases h3 : fullRune (b :: suf) = true
    · rw [if_pos h3]; exact Or.inl rfl
    · rw [if_neg h3]; exact Or.inr ⟨b :: suf, hx, trunc_of_cut b suf hl (by simpa using h3)⟩
  · rw [if_neg h2]
    exact hn (by simpa [runeStart] using h2)

/-- when `FromPlain` strips, what it strips is the start of a well-formed multi-byte character -/
theorem strip_spec (x : Bytes) : stripPartial x = x ∨ ∃ s, x = stripPartial x ++ s ∧ U.truncSeq s = true := by
  show Cut x (stripPartial x)
  unfold stripPartial
  generalize hr : x.reverse = r
  match r, hr with
  | [], _ => exact Or.inl rfl
  | b1 :: r1, hr =>
    refine strip_level x r1.reverse [] _ b1 (of_reverse_cons x b1 r1 hr) (Nat.zero_le 2) fun _ => ?_
    match r1, hr with
    | [], _ => exact Or.inl rfl
    | b2 :: r2, hr =>
      have e2 : x = r2.reverse ++ [b2, b1] := by rw [of_reverse_cons x b1 _ hr]; simp
      refine strip_level x r2.reverse [b1] _ b2 e2 (Nat.le_succ 1) fun _ => ?_
      match r2, e2 with
      | [], _ => exact Or.inl rfl
      | b3 :: r3, e3 =>
        refine strip_level x r3.reverse [b2, b1] x b3 (by rw [e3]; simp) (Nat.le_refl 2) fun _ => Or.inl rfl

theorem cut_of_trunc (b0 : Nat) (t : Bytes) (h : U.truncSeq (b0 :: t) = true) :
    0xC2 ≤ b0 ∧ t.length + 1 < leadSize b0 ∧ fullRune (b0 :: t) = false ∧ ∀ c ∈ t, isCont c = true := by
  have L := leadSize_spec b0
  match t, h with
  | [], h =>
    simp only [U.truncSeq, Bool.and_eq_true, decide_eq_true_eq] at h
    simp only [fullRune, decide_eq_false_iff_not, List.length_nil, List.not_mem_nil, false_imp_iff, implies_true, and_true]
    omega
  | [b1], h =>
    obtain ⟨l1, l2, hs⟩ := trunc2_inv b0 b1 h
    simp only [fullRune, hs, Bool.not_true, Bool.or_false, decide_eq_false_iff_not, List.length_cons, List.length_nil,
      List.mem_cons, List.not_mem_nil, or_false, forall_eq, secondOk_cont b0 b1 hs, and_true]
    omega
  | [b1, b2], h =>
    obtain ⟨l1, l2, hs, hc⟩ := trunc3_inv b0 b1 b2 h
    simp only [fullRune, hs, hc, Bool.not_true, Bool.or_false, decide_eq_false_iff_not, List.length_cons, List.length_nil,
      List.mem_cons, List.not_mem_nil, or_false, forall_eq_or_imp, forall_eq, secondOk_cont b0 b1 hs, and_true]
    omega

/-- `FromPlain` strips nothing from valid UTF-8 -/
theorem valid_strip (p : Bytes) (hv : utf8Valid p = true) : stripPartial p = p := by
  rcases strip_spec p with e | ⟨s, e, hs⟩
  · exact e
  · rw [e] at hv
    match s, hs with
    | b0 :: t, hs =>
      obtain ⟨h0, hlt, _⟩ := cut_of_trunc b0 t hs
      have := lead_fits _ (stripPartial p) (b0 :: t) rfl hv b0 t rfl (by omega)
      simp only [List.length_cons] at this
      omega

/-- the cut-off start of a character at the very end is exactly what `FromPlain` strips -/
theorem strip_trunc (p s : Bytes) (h : U.truncSeq s = true) : stripPartial (p ++ s) = p := by
  match s, h with
  | [b0], h =>
    obtain ⟨h0, _, h3, _⟩ := cut_of_trunc b0 [] h
    obtain ⟨h1, h2⟩ := lead_facts b0 (by omega)
    simp [stripPartial, h1, h2, h3]
  | [b0, b1], h =>
    obtain ⟨h0, _, h3, hc⟩ := cut_of_trunc b0 [b1] h
    obtain ⟨h1, h2⟩ := lead_facts b0 (by omega)
    obtain ⟨g1, g2⟩ := cont_facts b1 (hc b1 (List.mem_cons_self ..))
    simp [stripPartial, g1, g2, h1, h2, h3]
  | [b0, b1, b2], h =>
    obtain ⟨h0, _, h3, hc⟩ := cut_of_trunc b0 [b1, b2] h
    obtain ⟨h1, h2⟩ := lead_facts b0 (by omega)
    obtain ⟨g1, g2⟩ := cont_facts b1 (hc b1 (List.mem_cons_self ..))
    obtain ⟨f1, f2⟩ := cont_facts b2 (hc b2 (List.mem_cons_of_mem _ (List.mem_cons_self ..)))
    simp [stripPartial, f1, f2, g1, g2, h1, h2, h3]

theorem ascii_valid (x : Bytes) (h : ∀ b ∈ x, b < 0x80) : utf8Valid x = true := by
  induction x with
  | nil => rfl
  | cons a r ih =>
    have ha := h a (List.mem_cons_self ..)
    rw [utf8Valid.eq_def]
    simp only [ha, ↓reduceIte]
    exact ih (fun b hb => h b (List.mem_cons_of_mem _ hb))

end Mime.Utf8
