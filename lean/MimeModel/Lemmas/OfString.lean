import MimeModel.Basic
/-
  `ofString` on a string literal, for evaluation by the kernel.

  `ofString s = s.toUTF8.toList.map (·.toNat)`, and `ByteArray.toList` is a loop by well-founded recursion
  that reads the array by index: for the kernel that is quadratic, and the dearest part by far of every
  `decide +kernel` that meets a literal.  A literal `"abc"` unfolds to `String.ofList ['a', 'b', 'c']`, and
  `ofString_ofList` gives its bytes as a `flatMap` over the characters, in `Nat` arithmetic.
  Use: `repeat rw [ofString_ofList]` in front of `decide +kernel` (`rw` unifies a literal with
  `String.ofList _`; `simp only` does not find it).
-/
namespace Mime

theorem byteArray_toList_loop (bs : ByteArray) (i : Nat) (r : List UInt8) :
    ByteArray.toList.loop bs i r = r.reverse ++ bs.data.toList.drop i := by
  fun_induction ByteArray.toList.loop bs i r with
  | case1 i r h ih =>
    rw [ih, List.reverse_cons, List.append_assoc]
    congr 1
    have h' : i < bs.data.toList.length := by simpa using h
    rw [List.drop_eq_getElem_cons h']
    simp [ByteArray.get!, h]
  | case2 i r h =>
    have : bs.data.toList.length ≤ i := by simpa using Nat.le_of_not_lt h
    rw [List.drop_eq_nil_of_le this, List.append_nil]

theorem ofString_ofList (cs : List Char) :
    ofString (String.ofList cs) = (cs.flatMap String.utf8EncodeChar).map (·.toNat) := by
  unfold ofString
  rw [String.toUTF8_eq_toByteArray, String.bytes_ofList, List.utf8Encode, ByteArray.toList, byteArray_toList_loop]
  simp

end Mime
