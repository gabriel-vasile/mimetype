import MimeModel.Model.Csv
import MimeModel.Lemmas.Lines
import MimeModel.Lemmas.C13Base
/-
  Theorems about the model of `encoding/csv` as used by the CSV/TSV detectors
  (`MimeModel/Model/Csv.lean`).  On input without `"` the reader is a plain line/delimiter counter
  (`records_quoteFree`); `sv_iff` says what the `for { r.Read() }` loop and the final test compute.
  From these: a `"`-free input is reported only if it is a table; tables of plain cells, and RFC 4180
  tables with quoted cells, are reported, whole or cut by the limit.
-/
namespace Mime.CsvLemmas
open Mime Mime.Cust Mime.Csv Mime.C13Base
open Mime.LinesLemmas

/-! ### specification side (independent of the model) -/

def PlainCell (comma : Nat) (c : Bytes) : Prop := ∀ x ∈ c, x ≠ comma ∧ x ≠ 0x22 ∧ x ≠ 0x0A ∧ x ≠ 0x0D

def row (comma : Nat) : List Bytes → Bytes
  | [] => []
  | [c] => c
  | c :: c2 :: cs => c ++ comma :: row comma (c2 :: cs)

/-- a row of a table: at least one cell, all cells plain, the text of the row is not empty and
    does not start with `#` -/
def PlainRow (comma : Nat) (cells : List Bytes) : Prop :=
  cells ≠ [] ∧ (∀ c ∈ cells, PlainCell comma c) ∧ row comma cells ≠ [] ∧ (row comma cells).head? ≠ some 0x23

/-- rows separated by LF (`C13Base.joinLF`: no LF after the last one) -/
def table (comma : Nat) (rows : List (List Bytes)) : Bytes := joinLF (rows.map (row comma))

/-- rows separated by CR LF; the last row ends with CR -/
def tableCRLF (comma : Nat) (rows : List (List Bytes)) : Bytes :=
  joinLF (rows.map (fun r => row comma r ++ [0x0D]))

/-- split at every LF (the LF removed); `n` LFs give `n + 1` pieces -/
def splitLF : Bytes → List Bytes
  | [] => [[]]
  | c :: cs =>
    if c == 0x0A then [] :: splitLF cs
    else match splitLF cs with
      | [] => [[c]]
      | l :: ls => (c :: l) :: ls

/-- a line that yields a record: not empty, not a `#` comment -/
def isRecordLine : Bytes → Bool
  | [] => false
  | c :: _ => c != 0x23

def countsOf (comma : Nat) (ls : List Bytes) : List Nat :=
  (ls.filter isRecordLine).map (fun l => l.count comma + 1)

/-- the reference for `"`-free input: the lines (split at LF, one trailing CR removed from each,
    the last piece included — Go's `readLine`), those that are neither empty nor comments, and
    for each the number of delimiter bytes + 1 -/
def specCounts (comma : Nat) (b : Bytes) : List Nat := countsOf comma ((splitLF b).map dropCR)

theorem splitLF_lf (cs : Bytes) : splitLF (0x0A :: cs) = [] :: splitLF cs := by
  simp [splitLF]

theorem splitLF_cons (c : Nat) (cs : Bytes) (hc : (c == 0x0A) = false) :
    splitLF (c :: cs) = (c :: (splitLF cs).headD []) :: (splitLF cs).tail := by
  rw [splitLF, hc, if_neg Bool.false_ne_true]
  cases splitLF cs <;> rfl

theorem dropCR_nil : dropCR [] = [] := rfl

theorem norm_mem : ∀ (b : Bytes) (x : Nat), x ∈ norm b → x ∈ b := by
  intro b
  induction b with
  | nil => intro x h; simp [norm] at h
  | cons c cs ih =>
    intro x h
    unfold norm at h
    split at h
    · split at h
      · simp at h
      · split at h
        · exact List.mem_cons_of_mem _ (ih x h)
        · rcases List.mem_cons.mp h with rfl | h
          · exact List.mem_cons_self ..
          · exact List.mem_cons_of_mem _ (ih x h)
    · rcases List.mem_cons.mp h with rfl | h
      · exact List.mem_cons_self ..
      · exact List.mem_cons_of_mem _ (ih x h)

theorem headD_map_dropCR (ls : List Bytes) : (ls.map dropCR).headD [] = dropCR (ls.headD []) := by
  cases ls <;> rfl

theorem splitLF_norm (b : Bytes) : splitLF (norm b) = (splitLF b).map dropCR := by
  induction b with
  | nil => rfl
  | cons c cs ih =>
    by_cases hlf : (c == 0x0A) = true
    · obtain rfl : c = 0x0A := eq_of_beq hlf
      rw [show norm (0x0A :: cs) = 0x0A :: norm cs from rfl, splitLF_lf, splitLF_lf, ih]
      rfl
    have hlf' : (c == 0x0A) = false := Bool.eq_false_iff.mpr hlf
    by_cases hcr : (c == 0x0D) = true
    · obtain rfl : c = 0x0D := eq_of_beq hcr
      match cs, ih with
      | [], _ => rfl
      | d :: ds, ih =>
        by_cases hd : (d == 0x0A) = true
        · obtain rfl : d = 0x0A := eq_of_beq hd
          rw [show norm (0x0D :: 0x0A :: ds) = norm (0x0A :: ds) from rfl, ih, splitLF_cons _ _ hlf', splitLF_lf]
          rfl
        · have hd' : (d == 0x0A) = false := Bool.eq_false_iff.mpr hd
          have hn : norm (0x0D :: d :: ds) = 0x0D :: norm (d :: ds) := by simp [norm, hd']
          rw [hn, splitLF_cons _ _ hlf', ih, splitLF_cons _ (d :: ds) hlf', splitLF_cons d ds hd']
          simp only [List.map_cons, List.headD_cons, List.tail_cons, dropCR_cons_cons]
    · have hcr' : (c == 0x0D) = false := Bool.eq_false_iff.mpr hcr
      have hn : norm (c :: cs) = c :: norm cs := by simp [norm, hcr']
      rw [hn, splitLF_cons _ _ hlf', ih, splitLF_cons _ cs hlf', headD_map_dropCR]
      simp only [List.map_cons, List.map_tail, dropCR_cons_ne c _ hcr']

theorem countsOf_nil_cons (comma : Nat) (ls : List Bytes) : countsOf comma ([] :: ls) = countsOf comma ls := by
  simp [countsOf, isRecordLine]

theorem countsOf_cons (comma : Nat) (l : Bytes) (ls : List Bytes) :
    countsOf comma (l :: ls) = if isRecordLine l then (l.count comma + 1) :: countsOf comma ls else countsOf comma ls := by
  cases h : isRecordLine l <;> simp [countsOf, h]

/-- one invariant for the four modes a `"`-free stream can reach; they hand over to each other at
    every LF and delimiter, so the induction on the stream has to carry all four -/

theorem run_quoteFree (comma : Nat) (hl : comma ≠ 0x0A) : ∀ (s : Bytes), 0x22 ∉ s →
    run comma .lineStart s = countsOf comma (splitLF s) ∧
    run comma .comment s = countsOf comma (splitLF s).tail ∧
    (∀ k, run comma (.fieldStart k) s = (k + ((splitLF s).headD []).count comma + 1) :: countsOf comma (splitLF s).tail) ∧
    (∀ k, run comma (.unq k) s = (k + ((splitLF s).headD []).count comma + 1) :: countsOf comma (splitLF s).tail) := by
  intro s
  induction s with
  | nil => intro _; simp [run, atEnd, splitLF, countsOf, isRecordLine]
  | cons c cs ih =>
    intro hq
    have hcq : (c == 0x22) = false := beq_eq_false_iff_ne.mpr fun e => hq (e ▸ List.mem_cons_self ..)
    obtain ⟨i1, i2, i3, i4⟩ := ih fun e => hq (List.mem_cons_of_mem _ e)
    have hF : ∀ k, run comma (.fieldStart k) (c :: cs) = run comma (.unq k) (c :: cs) := by
      intro k; simp only [run, step, stepField, hcq, Bool.false_eq_true, ↓reduceIte]
    by_cases hlf : (c == 0x0A) = true
    · obtain rfl : c = 0x0A := eq_of_beq hlf
      have hcomma : ((0x0A : Nat) == comma) = false := beq_eq_false_iff_ne.mpr fun e => hl e.symm
      have hU : ∀ k, run comma (.unq k) (0x0A :: cs) = (k + 1) :: countsOf comma (splitLF cs) := by
        intro k; simp only [run, step, stepUnq, hcomma, Bool.false_eq_true, ↓reduceIte, beq_self_eq_true, i1]
      simp only [hF, hU, splitLF_lf, List.headD_cons, List.tail_cons, List.count_nil, Nat.add_zero, countsOf_nil_cons]
      simp only [run, step, beq_self_eq_true, ↓reduceIte, i1, Nat.reduceBEq, Bool.false_eq_true, and_self, implies_true]
    · have hlf' : (c == 0x0A) = false := Bool.eq_false_iff.mpr hlf
      rw [splitLF_cons c cs hlf']
      have hU : ∀ k, run comma (.unq k) (c :: cs) =
          (k + (c :: (splitLF cs).headD []).count comma + 1) :: countsOf comma (splitLF cs).tail := by
        intro k
        by_cases hcm : (c == comma) = true
        · simp only [run, step, stepUnq, hcm, ↓reduceIte, i3, List.count_cons, List.cons.injEq, and_true]; omega
        · simp only [run, step, stepUnq, hcm, hlf', Bool.false_eq_true, ↓reduceIte, i4, List.count_cons, Nat.add_zero]
      refine ⟨?_, ?_, fun k => (hF k).trans (hU k), hU⟩
      · rw [countsOf_cons]
        by_cases hh : (c == 0x23) = true
        · obtain rfl : c = 0x23 := eq_of_beq hh
          simp [run, step, i2, isRecordLine]
        · have := (hF 0).trans (hU 0)
          simp only [run, step] at this
          have hne : c ≠ 0x23 := fun e => hh (beq_iff_eq.mpr e)
          simp [run, step, hh, hlf', isRecordLine, this, hne]
      · simp only [run, step, hlf', Bool.false_eq_true, ↓reduceIte, i2, List.tail_cons]

/-- **`"`-free input**: the records `csv.Reader` returns are exactly the non-empty, non-comment
    lines, and each has (number of delimiter bytes + 1) fields -/

theorem records_quoteFree (comma : Nat) (b : Bytes) (hl : comma ≠ 0x0A) (hq : 0x22 ∉ b) :
    records comma b = specCounts comma b := by
  unfold records specCounts
  rw [(run_quoteFree comma hl (norm b) (fun e => hq (norm_mem b _ e))).1, splitLF_norm]

theorem stepUnq_emit {comma k c j : Nat} (h : stepUnq comma k c = .emit j) : j = k + 1 := by
  unfold stepUnq at h
  split at h
  · cases h
  · split at h <;> cases h
    rfl

theorem stepField_emit {comma k c j : Nat} (h : stepField comma k c = .emit j) : j = k + 1 := by
  unfold stepField at h
  split at h
  · cases h
  · exact stepUnq_emit h

/-- a record is closed only by the LF that ends its last field -/
theorem step_emit_pos (comma : Nat) (m : Mode) (c : Nat) {k : Nat} (h : step comma m c = .emit k) : 0 < k := by
  cases m with
  | lineStart =>
    simp only [step] at h
    split at h
    · cases h
    · split at h
      · cases h
      · rw [stepField_emit h]; exact Nat.succ_pos _
  | comment => simp only [step] at h; split at h <;> cases h
  | fieldStart j => simp only [step] at h; rw [stepField_emit h]; exact Nat.succ_pos _
  | unq j => simp only [step] at h; rw [stepUnq_emit h]; exact Nat.succ_pos _
  | quoted j => simp only [step] at h; split at h <;> cases h
  | afterQ j =>
    simp only [step] at h
    split at h
    · cases h
    · split at h
      · cases h
      · split at h <;> cases h
        exact Nat.succ_pos _

theorem run_pos (comma : Nat) : ∀ (s : Bytes) (m : Mode), ∀ k ∈ run comma m s, 0 < k := by
  intro s
  induction s with
  | nil => intro m k hk; cases m <;> simp [run, atEnd] at hk <;> omega
  | cons c cs ih =>
    intro m k hk
    rw [run] at hk
    split at hk
    · exact ih _ k hk
    · rename_i j hj
      rcases List.mem_cons.mp hk with rfl | hk
      · exact step_emit_pos comma m c hj
      · exact ih _ k hk

theorem loop_pos_iff (fpr : Nat) (hp : 0 < fpr) : ∀ (ks : List Nat) (n f' n' : Nat),
    loop fpr n ks = some (f', n') ↔ f' = fpr ∧ n' = n + ks.length ∧ ∀ c ∈ ks, c = fpr := by
  have h0 : (fpr == 0) = false := beq_eq_false_iff_ne.mpr (Nat.pos_iff_ne_zero.mp hp)
  intro ks
  induction ks with
  | nil => intro n f' n'; simp [loop, eq_comm]
  | cons k ks ih =>
    intro n f' n'
    rw [loop, h0, if_neg Bool.false_ne_true]
    by_cases hk : k = fpr
    · subst hk
      rw [beq_self_eq_true, if_pos rfl, ih]
      simp only [List.length_cons, List.forall_mem_cons, true_and]
      constructor <;> rintro ⟨a, b, c⟩ <;> exact ⟨a, by omega, c⟩
    · rw [beq_eq_false_iff_ne.mpr hk, if_neg Bool.false_ne_true]
      simp [hk]

theorem svOn_iff (comma : Nat) (b : Bytes) :
    svOn comma b = true ↔
      validComma comma = true ∧ ∃ k, 2 ≤ k ∧ 2 ≤ (records comma b).length ∧ ∀ c ∈ records comma b, c = k := by
  unfold svOn
  by_cases hv : validComma comma = true
  case neg => simp [hv]
  rw [if_pos hv]
  have hpos : ∀ k ∈ records comma b, 0 < k := run_pos comma (norm b) .lineStart
  generalize records comma b = rs at hpos ⊢
  cases rs with
  | nil => simp [loop, hv]
  | cons k0 rest =>
    have hk0 := hpos k0 (List.mem_cons_self ..)
    change (match loop k0 (0 + 1) rest with
      | none => false
      | some (fpr, lines) => decide (fpr > 1) && decide (lines > 1)) = true ↔ _
    cases hl : loop k0 (0 + 1) rest with
    | none =>
      simp only [hv, true_and, Bool.false_eq_true, false_iff, not_exists, not_and]
      intro k _ _ hall
      have hk : k0 = k := hall k0 (List.mem_cons_self ..)
      have := (loop_pos_iff k0 hk0 rest (0 + 1) k0 _).mpr
        ⟨rfl, rfl, fun c hc => (hall c (List.mem_cons_of_mem _ hc)).trans hk.symm⟩
      rw [hl] at this; cases this
    | some p =>
      obtain ⟨f', n'⟩ := p
      obtain ⟨rfl, rfl, hall⟩ := (loop_pos_iff k0 hk0 rest _ _ _).mp hl
      simp only [hv, true_and, Bool.and_eq_true, decide_eq_true_eq, List.length_cons, List.forall_mem_cons]
      constructor
      · intro h; exact ⟨f', by omega, by omega, rfl, hall⟩
      · rintro ⟨k, h1, h2, rfl, _⟩; omega

/-- what `sv` computes: the delimiter is valid, `Read` returns at least two records, all with
    the same number (at least two) of fields -/

theorem sv_iff (raw : Bytes) (lim comma : Nat) :
    sv raw lim comma = true ↔
      validComma comma = true ∧ ∃ k, 2 ≤ k ∧ 2 ≤ (records comma (dropLastLine raw lim)).length ∧
        ∀ c ∈ records comma (dropLastLine raw lim), c = k :=
  svOn_iff comma _

theorem validComma_ne (comma : Nat) (h : validComma comma = true) :
    comma ≠ 0x22 ∧ comma ≠ 0x0D ∧ comma ≠ 0x0A ∧ comma ≠ 0x23 := by
  simp only [validComma, Bool.and_eq_true, bne_iff_ne, ne_eq, decide_eq_true_eq] at h
  exact ⟨h.1.1.1.1.2, h.1.1.1.2, h.1.1.2, h.1.2⟩

/-- **converse, `"`-free input**: CSV/TSV is reported only if the examined bytes (the cut-off
    last line dropped in truncated mode) have at least two record lines, all with the same number
    `k - 1 ≥ 1` of delimiters -/

theorem sv_converse_quoteFree (raw : Bytes) (lim comma : Nat) (hq : 0x22 ∉ raw) (h : sv raw lim comma = true) :
    let cs := specCounts comma (dropLastLine raw lim)
    2 ≤ cs.length ∧ ∃ k, 2 ≤ k ∧ ∀ c ∈ cs, c = k := by
  obtain ⟨hv, k, hk, hlen, hall⟩ := (sv_iff raw lim comma).mp h
  have hq' : 0x22 ∉ dropLastLine raw lim := fun e => hq ((dropLastLine_prefix raw lim).subset e)
  rw [records_quoteFree comma _ (validComma_ne comma hv).2.2.1 hq'] at hlen hall
  exact ⟨hlen, k, hk, hall⟩

theorem splitLF_noLF (l : Bytes) (h : NoLF l) : splitLF l = [l] := by
  induction l with
  | nil => rfl
  | cons c cs ih =>
    have hc : (c == 0x0A) = false := by simpa using h c (List.mem_cons_self ..)
    rw [splitLF_cons c cs hc, ih (fun x hx => h x (List.mem_cons_of_mem _ hx))]
    rfl

theorem splitLF_line (l r : Bytes) (h : NoLF l) : splitLF (l ++ 0x0A :: r) = l :: splitLF r := by
  induction l with
  | nil => exact splitLF_lf r
  | cons c cs ih =>
    have hc : (c == 0x0A) = false := by simpa using h c (List.mem_cons_self ..)
    rw [List.cons_append, splitLF_cons c _ hc, ih (fun x hx => h x (List.mem_cons_of_mem _ hx))]
    rfl

theorem splitLF_join (tail : Bytes) (T : List Bytes) (hT : ∀ l, NoLF l → splitLF (l ++ tail) = l :: T) :
    ∀ (ls : List Bytes), ls ≠ [] → (∀ l ∈ ls, NoLF l) → splitLF (joinLF ls ++ tail) = ls ++ T := by
  intro ls
  induction ls with
  | nil => intro h; exact absurd rfl h
  | cons l rest ih =>
    intro _ hall
    cases rest with
    | nil => simpa [joinLF] using hT l (hall l (List.mem_cons_self ..))
    | cons l2 rest2 =>
      have := ih (by simp) (fun x hx => hall x (List.mem_cons_of_mem _ hx))
      simp only [joinLF, List.append_assoc, List.cons_append]
      rw [splitLF_line l _ (hall l (List.mem_cons_self ..)), this]
      rfl

theorem countsOf_append_nil (comma : Nat) (ls : List Bytes) : countsOf comma (ls ++ [[]]) = countsOf comma ls := by
  simp [countsOf, isRecordLine]

theorem specCounts_join (comma : Nat) (ls : List Bytes) (hne : ls ≠ []) (hall : ∀ l ∈ ls, NoLF l)
    (tail : Bytes) (ht : tail = [] ∨ tail = [0x0A]) :
    specCounts comma (joinLF ls ++ tail) = countsOf comma (ls.map dropCR) := by
  unfold specCounts
  rcases ht with rfl | rfl
  · rw [splitLF_join [] [] (fun l hl => by simpa using splitLF_noLF l hl) ls hne hall]
    simp
  · rw [splitLF_join [0x0A] [[]] (fun l hl => by rw [splitLF_line l [] hl]; rfl) ls hne hall]
    simp only [List.map_append, List.map_cons, List.map_nil, dropCR_nil]
    exact countsOf_append_nil comma _

theorem row_mem (comma : Nat) : ∀ (cells : List Bytes) (x : Nat), x ∈ row comma cells → x = comma ∨ ∃ c ∈ cells, x ∈ c := by
  intro cells
  induction cells with
  | nil => intro x h; simp [row] at h
  | cons c rest ih =>
    intro x h
    cases rest with
    | nil => exact Or.inr ⟨c, List.mem_cons_self .., by simpa [row] using h⟩
    | cons c2 rest2 =>
      simp only [row, List.mem_append, List.mem_cons] at h
      rcases h with h | h | h
      · exact Or.inr ⟨c, List.mem_cons_self .., h⟩
      · exact Or.inl h
      · rcases ih x h with e | ⟨c', hc', hx⟩
        · exact Or.inl e
        · exact Or.inr ⟨c', List.mem_cons_of_mem _ hc', hx⟩

/-- `joinLF` is `row` with LF as the separator -/
theorem joinLF_eq_row : ∀ (ls : List Bytes), joinLF ls = row 0x0A ls
  | [] => rfl
  | [_] => rfl
  | l :: l2 :: rest => by rw [joinLF, row, joinLF_eq_row (l2 :: rest)]

theorem joinLF_mem (ls : List Bytes) {x : Nat} (h : x ∈ joinLF ls) : x = 0x0A ∨ ∃ l ∈ ls, x ∈ l :=
  row_mem 0x0A ls x (joinLF_eq_row ls ▸ h)

theorem sv_lines (comma : Nat) (hv : validComma comma = true) (ls : List Bytes) (k : Nat)
    (h2 : 2 ≤ ls.length) (hk : 2 ≤ k)
    (hall : ∀ l ∈ ls, NoLF l ∧ 0x22 ∉ l ∧ isRecordLine (dropCR l) = true ∧ (dropCR l).count comma + 1 = k) :
    SurvivesCut (fun raw lim => sv raw lim comma) (joinLF ls) := by
  have hne : ls ≠ [] := by intro e; subst e; simp at h2
  have hcounts : countsOf comma (ls.map dropCR) = ls.map (fun _ => k) := by
    unfold countsOf
    rw [List.filter_eq_self.mpr (by
      intro l hl
      obtain ⟨l0, hl0, rfl⟩ := List.mem_map.mp hl
      exact (hall l0 hl0).2.2.1)]
    rw [List.map_map]
    apply List.map_congr_left
    intro l hl
    exact (hall l hl).2.2.2
  have hrun : ∀ tail, (tail = [] ∨ tail = [0x0A]) → svOn comma (joinLF ls ++ tail) = true := by
    intro tail ht
    have hq : 0x22 ∉ joinLF ls ++ tail := by
      intro e
      rcases List.mem_append.mp e with e | e
      · rcases joinLF_mem ls e with e | ⟨l, hl, hx⟩
        · cases e
        · exact (hall l hl).2.1 hx
      · rcases ht with rfl | rfl <;> simp at e
    rw [svOn_iff]
    refine ⟨hv, k, hk, ?_⟩
    rw [records_quoteFree comma _ (validComma_ne comma hv).2.2.1 hq,
      specCounts_join comma ls hne (fun l hl => (hall l hl).1) tail ht, hcounts]
    refine ⟨by simpa using h2, ?_⟩
    intro c hc
    obtain ⟨_, _, rfl⟩ := List.mem_map.mp hc
    rfl
  have hjne : joinLF ls ≠ [] := by
    match ls, h2 with
    | l :: l2 :: rest, _ => exact joinLF_ne_nil l l2 rest
  exact whole_and_cut (f := fun raw lim => sv raw lim comma) (g := svOn comma) (fun _ _ => rfl) (joinLF ls) hjne hrun

theorem row_count (comma : Nat) : ∀ (cells : List Bytes), cells ≠ [] → (∀ c ∈ cells, PlainCell comma c) →
    (row comma cells).count comma + 1 = cells.length := by
  intro cells
  induction cells with
  | nil => intro h; exact absurd rfl h
  | cons c rest ih =>
    intro _ hall
    have hc0 : c.count comma = 0 :=
      List.count_eq_zero.mpr (fun hm => (hall c (List.mem_cons_self ..) comma hm).1 rfl)
    cases rest with
    | nil => simp [row, hc0]
    | cons c2 rest2 =>
      have := ih (by simp) (fun x hx => hall x (List.mem_cons_of_mem _ hx))
      simp only [row, List.count_append, List.count_cons_self, hc0, List.length_cons] at this ⊢
      omega

theorem plainRow_line (comma : Nat) (hv : validComma comma = true) (r : List Bytes) (h : PlainRow comma r) :
    NoLF (row comma r) ∧ 0x22 ∉ row comma r ∧ 0x0D ∉ row comma r ∧ isRecordLine (row comma r) = true ∧
      (row comma r).count comma + 1 = r.length := by
  obtain ⟨hne, hcells, htext, hhash⟩ := h
  obtain ⟨c1, c2, c3, _⟩ := validComma_ne comma hv
  have hmem : ∀ x ∈ row comma r, x ≠ 0x22 ∧ x ≠ 0x0A ∧ x ≠ 0x0D := by
    intro x hx
    rcases row_mem comma r x hx with rfl | ⟨c, hc, hxc⟩
    · exact ⟨c1, c3, c2⟩
    · exact (hcells c hc x hxc).2
  refine ⟨fun x hx => (hmem x hx).2.1, fun e => (hmem _ e).1 rfl, fun e => (hmem _ e).2.2 rfl, ?_, row_count comma r hne hcells⟩
  cases hr : row comma r with
  | nil => exact absurd hr htext
  | cons x xs =>
    rw [hr] at hhash
    have : x ≠ 0x23 := by simpa using hhash
    simp [isRecordLine, this]

/-- **forward**: a table of at least two rows of plain cells, all rows with the same number
    `k ≥ 2` of cells, one row per LF-terminated line, is reported (`comma` = `,` for `Csv`, TAB
    for `Tsv`): when examined whole (with or without a final newline), and when the limit cuts it
    anywhere after these lines — `part` is the incomplete last line (arbitrary bytes: quotes,
    delimiters, …), which is ignored -/

theorem sv_forward (comma : Nat) (hv : validComma comma = true) (rows : List (List Bytes)) (k : Nat)
    (h2 : 2 ≤ rows.length) (hk : 2 ≤ k) (hall : ∀ r ∈ rows, PlainRow comma r ∧ r.length = k) :
    (∀ tail lim, (tail = [] ∨ tail = [0x0A]) → (lim = 0 ∨ (table comma rows ++ tail).length < lim) →
      sv (table comma rows ++ tail) lim comma = true) ∧
    (∀ part lim, NoLF part → lim ≠ 0 → lim ≤ (table comma rows ++ 0x0A :: part).length →
      sv (table comma rows ++ 0x0A :: part) lim comma = true) := by
  unfold table
  apply sv_lines comma hv (rows.map (row comma)) k (by simpa using h2) hk
  intro l hl
  obtain ⟨r, hr, rfl⟩ := List.mem_map.mp hl
  obtain ⟨hrow, hlen⟩ := hall r hr
  obtain ⟨p1, p2, p3, p4, p5⟩ := plainRow_line comma hv r hrow
  rw [dropCR_noCR p3]
  exact ⟨p1, p2, p4, by omega⟩

/-- **forward, CRLF**: the same with CR LF line ends (the last complete row ends with CR, with or
    without its LF) -/

theorem sv_forward_crlf (comma : Nat) (hv : validComma comma = true) (rows : List (List Bytes)) (k : Nat)
    (h2 : 2 ≤ rows.length) (hk : 2 ≤ k) (hall : ∀ r ∈ rows, PlainRow comma r ∧ r.length = k) :
    (∀ tail lim, (tail = [] ∨ tail = [0x0A]) → (lim = 0 ∨ (tableCRLF comma rows ++ tail).length < lim) →
      sv (tableCRLF comma rows ++ tail) lim comma = true) ∧
    (∀ part lim, NoLF part → lim ≠ 0 → lim ≤ (tableCRLF comma rows ++ 0x0A :: part).length →
      sv (tableCRLF comma rows ++ 0x0A :: part) lim comma = true) := by
  unfold tableCRLF
  apply sv_lines comma hv (rows.map (fun r => row comma r ++ [0x0D])) k (by simpa using h2) hk
  intro l hl
  obtain ⟨r, hr, rfl⟩ := List.mem_map.mp hl
  obtain ⟨hrow, hlen⟩ := hall r hr
  obtain ⟨p1, p2, p3, p4, p5⟩ := plainRow_line comma hv r hrow
  rw [dropCR_concat]
  refine ⟨?_, ?_, p4, by omega⟩
  · intro x hx
    rcases List.mem_append.mp hx with hx | hx
    · exact p1 x hx
    · have : x = 0x0D := by simpa using hx
      subst this; decide
  · intro e
    rcases List.mem_append.mp e with e | e
    · exact p2 e
    · simp at e

theorem validComma_csv : validComma 0x2C = true := by decide
theorem validComma_tsv : validComma 0x09 = true := by decide

/-- a cell as written in the file: bare text, or a body between quotes with every `"` doubled -/
inductive Cell where
  | plain (text : Bytes)
  | quoted (body : Bytes)

def esc : Bytes → Bytes
  | [] => []
  | c :: cs => if c == 0x22 then 0x22 :: 0x22 :: esc cs else c :: esc cs

def Cell.text : Cell → Bytes
  | .plain t => t
  | .quoted b => 0x22 :: (esc b ++ [0x22])

/-- plain text as in `PlainCell`; a quoted body may hold anything (delimiters, LF, `"`, `#`) but CR -/
def Cell.OK (comma : Nat) : Cell → Prop
  | .plain t => PlainCell comma t
  | .quoted b => 0x0D ∉ b

def qrow (comma : Nat) (cells : List Cell) : Bytes := row comma (cells.map Cell.text)

def QRow (comma : Nat) (cells : List Cell) : Prop :=
  cells ≠ [] ∧ (∀ c ∈ cells, c.OK comma) ∧ qrow comma cells ≠ [] ∧ (qrow comma cells).head? ≠ some 0x23

def qtable (comma : Nat) (rows : List (List Cell)) : Bytes := joinLF (rows.map (qrow comma))

theorem norm_noCR : ∀ (b : Bytes), 0x0D ∉ b → norm b = b := by
  intro b
  induction b with
  | nil => intro _; rfl
  | cons c cs ih =>
    intro h
    have hc : (c == 0x0D) = false := by
      have : c ≠ 0x0D := fun e => h (by rw [e]; exact List.mem_cons_self ..)
      simpa using this
    simp only [norm, hc, Bool.false_eq_true, ↓reduceIte, List.cons.injEq, true_and]
    exact ih (fun e => h (List.mem_cons_of_mem _ e))

theorem esc_mem : ∀ (b : Bytes) (x : Nat), x ∈ esc b → x = 0x22 ∨ x ∈ b := by
  intro b
  induction b with
  | nil => intro x h; simp [esc] at h
  | cons c cs ih =>
    intro x h
    unfold esc at h
    split at h
    · simp only [List.mem_cons] at h
      rcases h with h | h | h
      · exact Or.inl h
      · exact Or.inl h
      · rcases ih x h with e | e
        · exact Or.inl e
        · exact Or.inr (List.mem_cons_of_mem _ e)
    · rcases List.mem_cons.mp h with rfl | h
      · exact Or.inr (List.mem_cons_self ..)
      · rcases ih x h with e | e
        · exact Or.inl e
        · exact Or.inr (List.mem_cons_of_mem _ e)

def CellEnd (comma : Nat) (X : Bytes) : Prop := X = [] ∨ ∃ c r, X = c :: r ∧ (c = comma ∨ c = 0x0A)

theorem cellEnd_notQuote (comma : Nat) (hv : validComma comma = true) (c : Nat) (h : c = comma ∨ c = 0x0A) :
    (c == 0x22) = false := by
  obtain ⟨c1, _, _, _⟩ := validComma_ne comma hv
  rcases h with rfl | rfl
  · simpa using c1
  · decide

theorem run_fieldStart_end (comma : Nat) (hv : validComma comma = true) (k : Nat) (X : Bytes) (hX : CellEnd comma X) :
    run comma (.fieldStart k) X = run comma (.unq k) X := by
  rcases hX with rfl | ⟨c, r, rfl, hc⟩
  · rfl
  · simp [run, step, stepField, cellEnd_notQuote comma hv c hc]

theorem run_afterQ_end (comma : Nat) (hv : validComma comma = true) (k : Nat) (X : Bytes) (hX : CellEnd comma X) :
    run comma (.afterQ k) X = run comma (.unq k) X := by
  rcases hX with rfl | ⟨c, r, rfl, hc⟩
  · rfl
  · have hq := cellEnd_notQuote comma hv c hc
    by_cases hcm : (c == comma) = true
    · simp [run, step, stepUnq, hq, hcm]
    · have hcm' : (c == comma) = false := by simpa using hcm
      have hlf : c = 0x0A := by
        rcases hc with rfl | rfl
        · simp at hcm
        · rfl
      subst hlf
      simp [run, step, stepUnq, hcm']

theorem run_unq_plain (comma : Nat) (k : Nat) (X : Bytes) : ∀ (t : Bytes), PlainCell comma t →
    run comma (.unq k) (t ++ X) = run comma (.unq k) X := by
  intro t
  induction t with
  | nil => intro _; rfl
  | cons c cs ih =>
    intro h
    obtain ⟨h1, _, h3, _⟩ := h c (List.mem_cons_self ..)
    have e1 : (c == comma) = false := by simpa using h1
    have e3 : (c == 0x0A) = false := by simpa using h3
    simp only [List.cons_append, run, step, stepUnq, e1, e3, Bool.false_eq_true, ↓reduceIte]
    exact ih (fun x hx => h x (List.mem_cons_of_mem _ hx))

theorem run_quoted_esc (comma : Nat) (k : Nat) (X : Bytes) : ∀ (b : Bytes),
    run comma (.quoted k) (esc b ++ 0x22 :: X) = run comma (.afterQ k) X := by
  intro b
  induction b with
  | nil => simp [esc, run, step]
  | cons c cs ih =>
    by_cases hc : (c == 0x22) = true
    · simp only [esc, hc, ↓reduceIte, List.cons_append, run, step]
      simpa using ih
    · have hc' : (c == 0x22) = false := by simpa using hc
      simp only [esc, hc', Bool.false_eq_true, ↓reduceIte, List.cons_append, run, step]
      exact ih

theorem run_cell (comma : Nat) (hv : validComma comma = true) (k : Nat) (X : Bytes) (hX : CellEnd comma X)
    (c : Cell) (hc : c.OK comma) :
    run comma (.fieldStart k) (c.text ++ X) = run comma (.unq k) X := by
  cases c with
  | plain t =>
    simp only [Cell.text]
    cases t with
    | nil => exact run_fieldStart_end comma hv k X hX
    | cons x xs =>
      have hp : PlainCell comma (x :: xs) := hc
      obtain ⟨_, h2, _, _⟩ := hp x (List.mem_cons_self ..)
      have e2 : (x == 0x22) = false := by simpa using h2
      have := run_unq_plain comma k X (x :: xs) hp
      simp only [List.cons_append, run, step] at this
      simp only [List.cons_append, run, step, stepField, e2, Bool.false_eq_true, ↓reduceIte]
      exact this
  | quoted b =>
    simp only [Cell.text, List.cons_append, List.append_assoc, List.nil_append, run, step, stepField]
    simp only [beq_self_eq_true, ↓reduceIte]
    rw [run_quoted_esc, run_afterQ_end comma hv k X hX]

theorem run_unq_comma (comma k : Nat) (r : Bytes) : run comma (.unq k) (comma :: r) = run comma (.fieldStart (k + 1)) r := by
  simp [run, step, stepUnq]

theorem run_unq_lf (comma : Nat) (hv : validComma comma = true) (k : Nat) (r : Bytes) :
    run comma (.unq k) (0x0A :: r) = (k + 1) :: run comma .lineStart r := by
  obtain ⟨_, _, c3, _⟩ := validComma_ne comma hv
  have : ((0x0A : Nat) == comma) = false := by simpa using fun e : 0x0A = comma => c3 e.symm
  simp [run, step, stepUnq, this]

theorem run_row (comma : Nat) (hv : validComma comma = true) (X : Bytes) (hX : X = [] ∨ ∃ r, X = 0x0A :: r) :
    ∀ (cs : List Cell) (c : Cell) (k : Nat), (∀ x ∈ c :: cs, x.OK comma) →
      run comma (.fieldStart k) (qrow comma (c :: cs) ++ X) = run comma (.unq (k + cs.length)) X := by
  have hX' : CellEnd comma X := by
    rcases hX with rfl | ⟨r, rfl⟩
    · exact Or.inl rfl
    · exact Or.inr ⟨_, r, rfl, Or.inr rfl⟩
  intro cs
  induction cs with
  | nil =>
    intro c k hok
    simpa [qrow, row] using run_cell comma hv k X hX' c (hok c (List.mem_cons_self ..))
  | cons c2 cs ih =>
    intro c k hok
    have hstep := run_cell comma hv k (comma :: (qrow comma (c2 :: cs) ++ X)) (Or.inr ⟨_, _, rfl, Or.inl rfl⟩) c
      (hok c (List.mem_cons_self ..))
    have : qrow comma (c :: c2 :: cs) ++ X = c.text ++ comma :: (qrow comma (c2 :: cs) ++ X) := by
      simp [qrow, row]
    rw [this, hstep, run_unq_comma, ih c2 (k + 1) (fun x hx => hok x (List.mem_cons_of_mem _ hx))]
    simp only [List.length_cons]
    congr 2
    omega

theorem qrow_head (comma : Nat) (hv : validComma comma = true) {cells : List Cell} (hok : ∀ x ∈ cells, x.OK comma)
    (x : Nat) (xs : Bytes) (h : qrow comma cells = x :: xs) : x ≠ 0x0A := by
  obtain ⟨_, _, c3, _⟩ := validComma_ne comma hv
  have key : ∀ (c : Cell) (R : Bytes), c.OK comma → (R = [] ∨ ∃ r, R = comma :: r) → c.text ++ R = x :: xs → x ≠ 0x0A := by
    intro c R hc hR e
    cases c with
    | quoted b =>
      simp only [Cell.text, List.cons_append, List.cons.injEq] at e
      rw [← e.1]; decide
    | plain t =>
      cases t with
      | cons y ys =>
        simp only [Cell.text, List.cons_append, List.cons.injEq] at e
        have hp : PlainCell comma (y :: ys) := hc
        rw [← e.1]
        exact (hp y (List.mem_cons_self ..)).2.2.1
      | nil =>
        rcases hR with rfl | ⟨r, rfl⟩
        · simp [Cell.text] at e
        · simp only [Cell.text, List.nil_append, List.cons.injEq] at e
          rw [← e.1]; exact c3
  match cells, hok, h with
  | [], _, h => simp [qrow, row] at h
  | [c], hok, h =>
    exact key c [] (hok c (List.mem_cons_self ..)) (Or.inl rfl) (by simpa [qrow, row] using h)
  | c :: c2 :: cs, hok, h =>
    exact key c _ (hok c (List.mem_cons_self ..)) (Or.inr ⟨_, rfl⟩) (by simpa [qrow, row] using h)

theorem run_line (comma : Nat) (hv : validComma comma = true) (cells : List Cell) (h : QRow comma cells)
    (X : Bytes) (hX : X = [] ∨ ∃ r, X = 0x0A :: r) :
    run comma .lineStart (qrow comma cells ++ X) = run comma (.unq (cells.length - 1)) X := by
  obtain ⟨hne, hok, htext, hhash⟩ := h
  match cells, hne, hok, htext, hhash with
  | c :: cs, _, hok, htext, hhash =>
    have hrow := run_row comma hv X hX cs c 0 hok
    cases hq : qrow comma (c :: cs) with
    | nil => exact absurd hq htext
    | cons x xs =>
      have h1 : (x == 0x0A) = false := by simpa using qrow_head comma hv hok x xs hq
      have h2 : (x == 0x23) = false := by
        rw [hq] at hhash
        simpa using hhash
      rw [hq] at hrow
      simp only [List.cons_append, run, step] at hrow
      simp only [List.cons_append, run, step, h1, h2, Bool.false_eq_true, ↓reduceIte]
      rw [hrow]
      simp

/-- **RFC 4180 tables**: the reader returns one record per row, with one field per cell — also
    when quoted cells hold delimiters, line breaks, `#` and doubled quotes -/

theorem run_qtable (comma : Nat) (hv : validComma comma = true) :
    ∀ (rows : List (List Cell)), rows ≠ [] → (∀ r ∈ rows, QRow comma r) →
    ∀ tail, (tail = [] ∨ tail = [0x0A]) →
      run comma .lineStart (qtable comma rows ++ tail) = rows.map List.length := by
  intro rows
  induction rows with
  | nil => intro h; exact absurd rfl h
  | cons r rest ih =>
    intro _ hall tail ht
    have hr := hall r (List.mem_cons_self ..)
    have hlen : 0 < r.length := List.length_pos_iff.mpr hr.1
    cases rest with
    | nil =>
      simp only [qtable, List.map_cons, List.map_nil, joinLF]
      rcases ht with rfl | rfl
      · rw [run_line comma hv r hr [] (Or.inl rfl)]
        simp only [run, atEnd, List.cons.injEq, and_true]; omega
      · rw [run_line comma hv r hr [0x0A] (Or.inr ⟨[], rfl⟩), run_unq_lf comma hv]
        simp only [run, atEnd, List.cons.injEq, and_true]; omega
    | cons r2 rest2 =>
      have := ih (by simp) (fun x hx => hall x (List.mem_cons_of_mem _ hx)) tail ht
      simp only [qtable, List.map_cons, joinLF, List.append_assoc, List.cons_append] at this ⊢
      rw [run_line comma hv r hr _ (Or.inr ⟨_, rfl⟩), run_unq_lf comma hv, this]
      simp only [List.cons.injEq, and_true]; omega

theorem qtable_noCR (comma : Nat) (hv : validComma comma = true) (rows : List (List Cell))
    (hall : ∀ r ∈ rows, QRow comma r) : 0x0D ∉ qtable comma rows := by
  obtain ⟨_, c2, _, _⟩ := validComma_ne comma hv
  intro e
  rcases joinLF_mem _ e with e | ⟨l, hl, hx⟩
  · cases e
  · obtain ⟨r, hr, rfl⟩ := List.mem_map.mp hl
    rcases row_mem comma _ _ hx with e | ⟨t, ht, hxt⟩
    · exact c2 e.symm
    · obtain ⟨c, hc, rfl⟩ := List.mem_map.mp ht
      have hok := (hall r hr).2.1 c hc
      cases c with
      | plain t => exact (hok _ hxt).2.2.2 rfl
      | quoted b =>
        simp only [Cell.text, List.mem_cons, List.mem_append, List.not_mem_nil, or_false] at hxt
        rcases hxt with e | e | e
        · cases e
        · rcases esc_mem b _ e with e | e
          · cases e
          · exact hok e
        · cases e

theorem records_rfc4180 (comma : Nat) (hv : validComma comma = true) (rows : List (List Cell)) (hne : rows ≠ [])
    (hall : ∀ r ∈ rows, QRow comma r) (tail : Bytes) (ht : tail = [] ∨ tail = [0x0A]) :
    records comma (qtable comma rows ++ tail) = rows.map List.length := by
  unfold records
  rw [norm_noCR, run_qtable comma hv rows hne hall tail ht]
  intro e
  rcases List.mem_append.mp e with e | e
  · exact qtable_noCR comma hv rows hall e
  · rcases ht with rfl | rfl <;> simp at e

/-- **forward, RFC 4180**: `sv_forward` for tables whose cells may be quoted.  `part`, the
    incomplete last line, must still start after an LF that ends a row: a cut inside a quoted cell
    that spans lines is NOT covered (and such input can be refused, see the examples below) -/

theorem sv_forward_rfc4180 (comma : Nat) (hv : validComma comma = true) (rows : List (List Cell)) (k : Nat)
    (h2 : 2 ≤ rows.length) (hk : 2 ≤ k) (hall : ∀ r ∈ rows, QRow comma r ∧ r.length = k) :
    (∀ tail lim, (tail = [] ∨ tail = [0x0A]) → (lim = 0 ∨ (qtable comma rows ++ tail).length < lim) →
      sv (qtable comma rows ++ tail) lim comma = true) ∧
    (∀ part lim, NoLF part → lim ≠ 0 → lim ≤ (qtable comma rows ++ 0x0A :: part).length →
      sv (qtable comma rows ++ 0x0A :: part) lim comma = true) := by
  have hne : rows ≠ [] := by intro e; subst e; simp at h2
  have hrun : ∀ tail, (tail = [] ∨ tail = [0x0A]) → svOn comma (qtable comma rows ++ tail) = true := by
    intro tail ht
    rw [svOn_iff, records_rfc4180 comma hv rows hne (fun r hr => (hall r hr).1) tail ht]
    refine ⟨hv, k, hk, by simpa using h2, ?_⟩
    intro c hc
    obtain ⟨r, hr, rfl⟩ := List.mem_map.mp hc
    exact (hall r hr).2
  have hjne : qtable comma rows ≠ [] := by
    match rows, h2 with
    | r :: r2 :: rest, _ => exact joinLF_ne_nil _ _ _
  exact whole_and_cut (f := fun raw lim => sv raw lim comma) (g := svOn comma) (fun _ _ => rfl) (qtable comma rows) hjne hrun

/-- `a,b` LF `c,d` -/
example : csv [0x61, 0x2C, 0x62, 0x0A, 0x63, 0x2C, 0x64] 0 = true := by decide +kernel
/-- the same bytes are not TSV -/
example : tsv [0x61, 0x2C, 0x62, 0x0A, 0x63, 0x2C, 0x64] 0 = false := by decide +kernel
/-- `a,b` LF `c,d` is the `table` of the theorem -/
example : table 0x2C [[[0x61], [0x62]], [[0x63], [0x64]]] = [0x61, 0x2C, 0x62, 0x0A, 0x63, 0x2C, 0x64] := by decide +kernel
example : PlainRow 0x2C [[0x61], [0x62]] := by
  refine ⟨by decide, ?_, by decide, by decide⟩
  intro c hc x hx
  simp only [List.mem_cons, List.not_mem_nil, or_false] at hc
  rcases hc with rfl | rfl <;> simp only [List.mem_cons, List.not_mem_nil, or_false] at hx <;> subst hx <;> decide
/-- ragged: `a,b` LF `c` is refused (`ErrFieldCount`) -/
example : csv [0x61, 0x2C, 0x62, 0x0A, 0x63] 0 = false := by decide +kernel
example : records 0x2C [0x61, 0x2C, 0x62, 0x0A, 0x63] = [2, 1] := by decide +kernel
/-- a quoted cell holding a delimiter and a line break: `a,"b` LF `,c"` LF `d,e` LF is two records of two fields -/
example : records 0x2C [0x61, 0x2C, 0x22, 0x62, 0x0A, 0x2C, 0x63, 0x22, 0x0A, 0x64, 0x2C, 0x65, 0x0A] = [2, 2] := by decide +kernel
example : csv [0x61, 0x2C, 0x22, 0x62, 0x0A, 0x2C, 0x63, 0x22, 0x0A, 0x64, 0x2C, 0x65, 0x0A] 0 = true := by decide +kernel
/-- lazy quotes: `a"b,c` LF `"d"e",f` LF -/
example : records 0x2C [0x61, 0x22, 0x62, 0x2C, 0x63, 0x0A, 0x22, 0x64, 0x22, 0x65, 0x22, 0x2C, 0x66, 0x0A] = [2, 2] := by decide +kernel
/-- an unterminated quote swallows the rest of the input: `a,b` LF `c,"d` LF `e,f` LF is two records -/
example : records 0x2C [0x61, 0x2C, 0x62, 0x0A, 0x63, 0x2C, 0x22, 0x64, 0x0A, 0x65, 0x2C, 0x66, 0x0A] = [2, 2] := by decide +kernel
/-- comment and empty lines are skipped, CR LF and a final CR are removed: `#x` CRLF `a,b` CRLF CRLF `c,d` CR -/
example : records 0x2C [0x23, 0x78, 0x0D, 0x0A, 0x61, 0x2C, 0x62, 0x0D, 0x0A, 0x0D, 0x0A, 0x63, 0x2C, 0x64, 0x0D] = [2, 2] := by decide +kernel
/-- truncated mode: the cut-off last line `c,d,` … is dropped, leaving one record: refused -/
example : csv [0x61, 0x2C, 0x62, 0x0A, 0x63, 0x2C, 0x64, 0x2C] 8 = false := by decide +kernel
example : csv [0x61, 0x2C, 0x62, 0x0A, 0x63, 0x2C, 0x64, 0x0A, 0x65, 0x2C] 10 = true := by decide +kernel

/-- `a,b,c` LF `d,"e` LF `f",g` LF : whole, it is a table of two rows of three cells -/
example : qtable 0x2C [[.plain [0x61], .plain [0x62], .plain [0x63]], [.plain [0x64], .quoted [0x65, 0x0A, 0x66], .plain [0x67]]] ++ [0x0A]
    = [0x61, 0x2C, 0x62, 0x2C, 0x63, 0x0A, 0x64, 0x2C, 0x22, 0x65, 0x0A, 0x66, 0x22, 0x2C, 0x67, 0x0A] := by decide +kernel
example : csv [0x61, 0x2C, 0x62, 0x2C, 0x63, 0x0A, 0x64, 0x2C, 0x22, 0x65, 0x0A, 0x66, 0x22, 0x2C, 0x67, 0x0A] 0 = true := by decide +kernel
/-- … but cut by the limit inside the quoted cell (`a,b,c` LF `d,"e` LF `f`, limit = length), the
    "last line" that is dropped starts inside the quotes, the unterminated record `d,"e` has two
    fields, and the input is refused -/
example : csv [0x61, 0x2C, 0x62, 0x2C, 0x63, 0x0A, 0x64, 0x2C, 0x22, 0x65, 0x0A, 0x66] 12 = false := by decide +kernel
example : records 0x2C (dropLastLine [0x61, 0x2C, 0x62, 0x2C, 0x63, 0x0A, 0x64, 0x2C, 0x22, 0x65, 0x0A, 0x66] 12) = [3, 2] := by decide +kernel

end Mime.CsvLemmas
