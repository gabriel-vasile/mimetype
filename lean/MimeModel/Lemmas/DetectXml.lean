import MimeModel.Props.C12_Detect
/-
  A static rejection analysis for the rivals of the `xml` node (C12 through `Detect`, XML clause).

  What is known about the examined header `raw` of a document `lead <?xml version=q1.0q S encoding=q…`
  (`XmlLike raw`):
    * after the white space that `trimLWS` strips it starts with `<?`;
    * each of its first 29 bytes is white space or one of the bytes of `<?xml version="1.0"'encoding=`
      (the label and what follows it start at offset 29 at the earliest);
    * it contains no binary-data byte (text/plain accepted it).
  `rejD d = true` is a syntactic check on a detector descriptor that makes a positive verdict on
  such a header impossible (`rejD_sound`); it is evaluated on the regenerated tree by `decide`.
-/
namespace Mime.DetectXml
open Mime Mime.Cust

/-- possible first bytes: white space or `<` -/
def isF (c : Nat) : Bool := isWS c || c == 0x3C
/-- not a binary-data byte -/
def okB (c : Nat) : Bool := !binaryByte c
/-- white space and the bytes of `<?xml version="1.0"'encoding=` -/
def aSet : List Nat :=
  [0x09, 0x0A, 0x0C, 0x0D, 0x20,
   60, 63, 120, 109, 108, 118, 101, 114, 115, 105, 111, 110, 61, 49, 46, 48, 34, 39, 99, 100, 103]
def inA (c : Nat) : Bool := aSet.contains c

/-- the window in which every byte is in `aSet` -/
def win : Nat := 29

structure XmlLike (raw : Bytes) : Prop where
  trim : ∃ r, trimLWS raw = 0x3C :: 0x3F :: r
  window : ∀ i c, i < win → raw[i]? = some c → inA c = true
  txt : ∀ c ∈ raw, okB c = true

/-- `sig` cannot stand at offset `o` -/
def badAt : Nat → Bytes → Bool
  | _, [] => false
  | o, s :: ss => !okB s || (decide (o < win) && !inA s) || (o == 0 && !isF s) || badAt (o + 1) ss

/-- the first byte of `sig` after white space is not `<` -/
def badLead (sig : Bytes) : Bool :=
  match trimLWS sig with
  | x :: _ => x != 0x3C
  | [] => false

/-- upper bound of an integer expression at the start of the header: 60 is the largest possible first byte
    (`<`, see `isF`), 120 the largest byte of `aSet` (`x`) -/
def ubI : IExp → Option Nat
  | .lit n => some n
  | .byte i => if i = 0 then some 60 else if i < win then some 120 else none
  | .u16be o _ => if o = 0 then some (60 * 256 + 120) else none
  | .u16le _ _ => none
  | .u32be o _ => if o = 0 then some (((60 * 256 + 120) * 256 + 120) * 256 + 120) else none
  | .u32le o _ => if o = 0 then some (60 + 256 * (120 + 256 * (120 + 256 * 120))) else none
  | .band a _ => ubI a

def ltUb (a : IExp) (n : Nat) : Bool :=
  match ubI a with
  | some u => u < n
  | none => false

/-- `a` cannot have the value `n` -/
def eqVal : IExp → Nat → Bool
  | .byte i, n => !okB n || (decide (i < win) && !inA n) || (i == 0 && !isF n)
  | .u32be o _, n => o == 0 && !isF (n / 16777216)
  | .u32le o _, n => o == 0 && !isF (n % 256)
  | .u16be o _, n => o == 0 && !isF (n / 256)
  | _, _ => false

/-- the value of a literal -/
def litOf : IExp → Option Nat
  | .lit n => some n
  | _ => none

/-- the comparison `a op b` cannot hold: one side is a literal that the other cannot equal (`eqVal`) or
    reach (`ltUb`) -/
def rejCmp (op : Cmp) (a b : IExp) : Bool :=
  match op with
  | .eq =>
    (match litOf b with | some n => eqVal a n || ltUb a n | none => false) ||
    (match litOf a with | some n => eqVal b n || ltUb b n | none => false)
  | .le => (match litOf a with | some n => ltUb b n | none => false)
  | _ => false

/-- `lo ≤ u32le(raw[0:4]) ≤ hi` with a top byte that cannot stand at offset 3 -/
def rangeRej : BExp → BExp → Bool
  | .cmp .le (.lit lo) (.u32le o _), .cmp .le (.u32le o' _) (.lit hi) =>
    o == 0 && o' == 0 && lo / 16777216 == hi / 16777216 && !inA (lo / 16777216)
  | _, _ => false

/-- `rej p e = true`: `e` cannot evaluate to `p` on an `XmlLike` header -/
def rej : Bool → BExp → Bool
  | p, .const b => p != b
  | true, .cmp op a b => rejCmp op a b
  | false, .cmp op a b => (match op with | .ne => rejCmp .eq a b | _ => false)
  | true, .prefixAt off sig => badAt off sig || (off == 0 && badLead sig)
  | true, .equalAt lo _ sig => badAt lo sig
  | true, .prim p => (match p with | .zipContains _ _ => true | _ => false)
  | true, .and a b => rej true a || rej true b || rangeRej a b
  | false, .and a b => rej false a && (rej false b || rej true a)
  | true, .or a b => rej true a && rej true b
  | false, .or a b => rej false a || rej false b
  | p, .not a => rej (!p) a
  | true, .ite _ t e => rej true t && rej true e
  | _, _ => false

/-- a markup signature whose second byte is not `?` cannot match a header that starts with `<?` -/
def sigRej : Bytes → Bool
  | _ :: b :: _ => b != 0x3F
  | _ => false

/-- the descriptor cannot accept an `XmlLike` header -/
def rejD : Det → Bool
  | .expr e => rej true e
  | .markup sigs => sigs.all sigRej
  | .custom c => (match c with | .crx => true | .webm => true | .mkv => true | _ => false)
  | _ => false

theorem isF_le {c : Nat} (h : isF c = true) : c ≤ 60 := by
  simp [isF, isWS] at h; omega

theorem inA_le {c : Nat} (h : inA c = true) : c ≤ 120 :=
  of_decide_eq_true (List.all_eq_true.mp (by decide : aSet.all (fun x => decide (x ≤ 120)) = true) c
    (List.contains_iff_mem.mp h))

theorem head_of_trim {raw r : Bytes} (hr : trimLWS raw = 0x3C :: r) :
    ∃ c tl, raw = c :: tl ∧ isF c = true := by
  cases raw with
  | nil => simp [trimLWS] at hr
  | cons c tl =>
    refine ⟨c, tl, rfl, ?_⟩
    unfold trimLWS at hr
    by_cases hw : isWS c = true
    · simp [isF, hw]
    · simp only [hw, Bool.false_eq_true, ↓reduceIte, List.cons.injEq] at hr
      simp [isF, hr.1]

theorem head_isF {raw : Bytes} (h : XmlLike raw) : ∃ c tl, raw = c :: tl ∧ isF c = true := by
  obtain ⟨r, hr⟩ := h.trim
  exact head_of_trim hr

theorem hasPrefix_first_of_trim {raw r : Bytes} (hr : trimLWS raw = 0x3C :: r) (s : Nat) (ss : Bytes)
    (hs : isF s = false) : hasPrefix raw (s :: ss) = false := by
  obtain ⟨c, tl, rfl, hc⟩ := head_of_trim hr
  cases hp : hasPrefix (c :: tl) (s :: ss) with
  | false => rfl
  | true =>
    simp only [hasPrefix, List.isPrefixOf, Bool.and_eq_true, beq_iff_eq] at hp
    rw [hp.1, hc] at hs; cases hs

theorem getD_get {raw : Bytes} {i : Nat} (h : i < raw.length) : raw[i]? = some (raw.getD i 0) := by
  simp [List.getD_eq_getElem?_getD, List.getElem?_eq_getElem h]

theorem getD_mem {raw : Bytes} {i : Nat} (h : i < raw.length) : raw.getD i 0 ∈ raw :=
  List.mem_of_getElem? (getD_get h)

theorem getD_inA {raw : Bytes} (hx : XmlLike raw) {i : Nat} (hi : i < win) (h : i < raw.length) :
    inA (raw.getD i 0) = true := hx.window i _ hi (getD_get h)

theorem getD0_isF {raw : Bytes} (hx : XmlLike raw) : isF (raw.getD 0 0) = true := by
  obtain ⟨c, tl, rfl, hc⟩ := head_isF hx
  simpa using hc

theorem hasPrefix_first {raw : Bytes} (hx : XmlLike raw) (s : Nat) (ss : Bytes) (hs : isF s = false) :
    hasPrefix raw (s :: ss) = false := by
  obtain ⟨r, hr⟩ := hx.trim
  exact hasPrefix_first_of_trim hr s ss hs

theorem slice_prefix (raw : Bytes) (lo hi : Nat) : hasPrefix (raw.drop lo) (slice raw lo hi) = true := by
  rw [hasPrefix_iff]
  unfold slice
  rw [List.drop_take]
  exact List.take_prefix _ _

theorem trimLWS_append {sig : Bytes} {x : Nat} {s' : Bytes} (t : Bytes) (h : trimLWS sig = x :: s') :
    trimLWS (sig ++ t) = x :: s' ++ t := by
  induction sig with
  | nil => simp [trimLWS] at h
  | cons a as ih =>
    unfold trimLWS at h
    simp only [List.cons_append]
    unfold trimLWS
    by_cases hw : isWS a = true
    · simp only [hw, ↓reduceIte] at h ⊢
      exact ih h
    · simp only [hw, Bool.false_eq_true, ↓reduceIte, List.cons.injEq] at h ⊢
      exact ⟨h.1, by rw [h.2]⟩

theorem badLead_false {raw : Bytes} (hx : XmlLike raw) (sig : Bytes) (hp : hasPrefix raw sig = true) :
    badLead sig = false := by
  rw [hasPrefix_iff] at hp
  obtain ⟨t, ht⟩ := hp
  unfold badLead
  cases hs : trimLWS sig with
  | nil => rfl
  | cons x s' =>
    obtain ⟨r, hr⟩ := hx.trim
    rw [← ht, trimLWS_append t hs] at hr
    simp only [List.cons_append, List.cons.injEq] at hr
    simp [hr.1]

/-- how the partial operations of `IExp.eval` / `BExp.eval` are read: defined means in range -/
theorem of_ite_some {α : Type} {c : Prop} [Decidable c] {a v : α}
    (h : (if c then some a else none) = some v) : c ∧ a = v := by
  split at h
  · exact ⟨‹c›, Option.some.inj h⟩
  · cases h

theorem getD_le {raw : Bytes} (hx : XmlLike raw) {i : Nat} (hi : i < win) (h : i < raw.length) :
    raw.getD i 0 ≤ 120 := inA_le (getD_inA hx hi h)

theorem getD0_le {raw : Bytes} (hx : XmlLike raw) : raw.getD 0 0 ≤ 60 := isF_le (getD0_isF hx)

theorem u16_head {raw : Bytes} (hx : XmlLike raw) (h : 2 ≤ raw.length) :
    Mime.u16be raw 0 / 256 = raw.getD 0 0 ∧ Mime.u16be raw 0 ≤ 60 * 256 + 120 := by
  have h0 := getD0_le hx
  have h1 := getD_le hx (i := 1) (by decide) (by omega)
  simp only [Mime.u16be, Nat.zero_add]
  constructor <;> omega

theorem u32_head {raw : Bytes} (hx : XmlLike raw) (h : 4 ≤ raw.length) :
    Mime.u32be raw 0 / 16777216 = raw.getD 0 0 ∧
    Mime.u32be raw 0 ≤ ((60 * 256 + 120) * 256 + 120) * 256 + 120 ∧
    Mime.u32le raw 0 % 256 = raw.getD 0 0 ∧
    Mime.u32le raw 0 ≤ 60 + 256 * (120 + 256 * (120 + 256 * 120)) := by
  have h0 := getD0_le hx
  have h1 := getD_le hx (i := 1) (by decide) (by omega)
  have h2 := getD_le hx (i := 2) (by decide) (by omega)
  have h3 := getD_le hx (i := 3) (by decide) (by omega)
  simp only [Mime.u32be, Mime.u32le, Nat.zero_add]
  refine ⟨?_, ?_, ?_, ?_⟩ <;> omega

theorem iexp_sound {raw : Bytes} (hx : XmlLike raw) : ∀ (a : IExp) (v : Nat), a.eval raw = some v →
    eqVal a v = false ∧ ∀ u, ubI a = some u → v ≤ u := by
  intro a
  induction a with
  | lit n =>
    intro v hv
    refine ⟨rfl, fun u hu => ?_⟩
    rw [← Option.some.inj hv, ← Option.some.inj hu]
    exact Nat.le_refl _
  | byte i =>
    intro v hv
    obtain ⟨hlen, rfl⟩ := of_ite_some hv
    have h1 : okB (raw.getD i 0) = true := hx.txt _ (getD_mem hlen)
    have h2 : (decide (i < win) && !inA (raw.getD i 0)) = false := by
      by_cases hi : i < win
      · rw [getD_inA hx hi hlen, Bool.not_true, Bool.and_false]
      · rw [decide_eq_false hi, Bool.false_and]
    cases i with
    | zero =>
      refine ⟨by rw [eqVal, h1, h2, getD0_isF hx]; rfl, fun u hu => ?_⟩
      rw [← Option.some.inj hu]
      exact getD0_le hx
    | succ i =>
      refine ⟨by rw [eqVal, h1, h2]; rfl, fun u hu => ?_⟩
      obtain ⟨hw, rfl⟩ := of_ite_some hu
      exact getD_le hx hw hlen
  | u16be o need =>
    intro v hv
    cases o with
    | succ o => exact ⟨rfl, fun u hu => by cases hu⟩
    | zero =>
      obtain ⟨hlen, rfl⟩ := of_ite_some hv
      obtain ⟨hd, hb⟩ := u16_head hx (by omega)
      refine ⟨by rw [eqVal, hd, getD0_isF hx]; rfl, fun u hu => ?_⟩
      rw [← Option.some.inj hu]
      exact hb
  | u16le o need => intro v _; exact ⟨rfl, fun u hu => by cases hu⟩
  | u32be o need =>
    intro v hv
    cases o with
    | succ o => exact ⟨rfl, fun u hu => by cases hu⟩
    | zero =>
      obtain ⟨hlen, rfl⟩ := of_ite_some hv
      obtain ⟨hd, hb, _, _⟩ := u32_head hx (by omega)
      refine ⟨by rw [eqVal, hd, getD0_isF hx]; rfl, fun u hu => ?_⟩
      rw [← Option.some.inj hu]
      exact hb
  | u32le o need =>
    intro v hv
    cases o with
    | succ o => exact ⟨rfl, fun u hu => by cases hu⟩
    | zero =>
      obtain ⟨hlen, rfl⟩ := of_ite_some hv
      obtain ⟨_, _, hd, hb⟩ := u32_head hx (by omega)
      refine ⟨by rw [eqVal, hd, getD0_isF hx]; rfl, fun u hu => ?_⟩
      rw [← Option.some.inj hu]
      exact hb
  | band a m ih =>
    intro v hv
    refine ⟨rfl, fun u hu => ?_⟩
    cases ha : a.eval raw with
    | none => rw [IExp.eval, ha] at hv; cases hv
    | some w =>
      rw [IExp.eval, ha] at hv
      rw [← Option.some.inj hv]
      exact Nat.le_trans Nat.and_le_left ((ih w ha).2 u hu)

theorem ltUb_sound {raw : Bytes} (hx : XmlLike raw) (a : IExp) (n v : Nat)
    (hv : a.eval raw = some v) (h : ltUb a n = true) : v < n := by
  unfold ltUb at h
  cases hu : ubI a with
  | none => rw [hu] at h; cases h
  | some u =>
    rw [hu] at h
    exact Nat.lt_of_le_of_lt ((iexp_sound hx a v hv).2 u hu) (of_decide_eq_true h)

theorem badAt_false {raw : Bytes} (hx : XmlLike raw) : ∀ (sig : Bytes) (o : Nat),
    hasPrefix (raw.drop o) sig = true → badAt o sig = false := by
  intro sig
  induction sig with
  | nil => intro o _; rfl
  | cons s ss ih =>
    intro o hp
    obtain ⟨t, ht⟩ := hasPrefix_iff.mp hp
    have hget : raw[o]? = some s := by
      have := congrArg (·[0]?) ht
      simpa [List.getElem?_drop] using this.symm
    have hv : (IExp.byte o).eval raw = some s := by
      rw [IExp.eval, if_pos (List.getElem?_eq_some_iff.mp hget).1, List.getD_eq_getElem?_getD, hget]
      rfl
    have hss : hasPrefix (raw.drop (o + 1)) ss = true := by
      have := congrArg (List.drop 1) ht
      rw [hasPrefix_iff]
      exact ⟨t, by simpa [List.drop_drop, Nat.add_comm] using this⟩
    -- `badAt` asks of each byte of the signature what `eqVal` asks of the value of `raw[i]`
    show (eqVal (.byte o) s || badAt (o + 1) ss) = false
    rw [(iexp_sound hx _ _ hv).1, ih (o + 1) hss]
    rfl

theorem lit_ne {raw : Bytes} (hx : XmlLike raw) (a : IExp) (n v : Nat) (hv : a.eval raw = some v)
    (h : (eqVal a n || ltUb a n) = true) : v ≠ n := by
  intro e
  subst e
  rcases (Bool.or_eq_true _ _).mp h with h | h
  · rw [(iexp_sound hx a v hv).1] at h; cases h
  · exact Nat.lt_irrefl _ (ltUb_sound hx a v v hv h)

theorem of_litOf {b : IExp} {f : Nat → Bool}
    (h : (match litOf b with | some n => f n | none => false) = true) : ∃ n, b = .lit n ∧ f n = true := by
  cases b with
  | lit n => exact ⟨n, rfl, h⟩
  | _ => cases h

theorem cmp_eval {raw : Bytes} {op : Cmp} {a b : IExp} {p : Bool}
    (h : (BExp.cmp op a b).eval raw = some p) :
    ∃ x y, a.eval raw = some x ∧ b.eval raw = some y ∧ op.eval x y = p := by
  simp only [BExp.eval] at h
  cases ha : a.eval raw with
  | none => rw [ha] at h; cases h
  | some x =>
    cases hb : b.eval raw with
    | none => rw [ha, hb] at h; cases h
    | some y =>
      rw [ha, hb] at h
      exact ⟨x, y, rfl, rfl, Option.some.inj h⟩

theorem rejCmp_sound {raw : Bytes} (hx : XmlLike raw) (op : Cmp) (a b : IExp)
    (h : rejCmp op a b = true) : (BExp.cmp op a b).eval raw ≠ some true := by
  intro he
  obtain ⟨x, y, hax, hby, hop⟩ := cmp_eval he
  cases op with
  | lt => cases h
  | ne => cases h
  | eq =>
    have hxy : x = y := beq_iff_eq.mp hop
    rcases (Bool.or_eq_true _ _).mp h with h | h
    · obtain ⟨n, rfl, h⟩ := of_litOf h
      exact lit_ne hx a n x hax h (hxy.trans (Option.some.inj hby).symm)
    · obtain ⟨n, rfl, h⟩ := of_litOf h
      exact lit_ne hx b n y hby h (hxy.symm.trans (Option.some.inj hax).symm)
  | le =>
    obtain ⟨n, rfl, h⟩ := of_litOf h
    have hle : x ≤ y := of_decide_eq_true hop
    rw [← Option.some.inj hax] at hle
    exact Nat.lt_irrefl _ (Nat.lt_of_le_of_lt hle (ltUb_sound hx b n y hby h))

theorem rangeRej_sound {raw : Bytes} (hx : XmlLike raw) (a b : BExp) (h : rangeRej a b = true)
    (ha : a.eval raw = some true) (hb : b.eval raw = some true) : False := by
  unfold rangeRej at h
  split at h
  · rename_i lo o n1 o' n2 hi
    simp only [Bool.and_eq_true, beq_iff_eq, Bool.not_eq_true'] at h
    obtain ⟨⟨⟨rfl, rfl⟩, hdiv⟩, hnot⟩ := h
    obtain ⟨x, y, hax, hay, hop⟩ := cmp_eval ha
    obtain ⟨x', y', hbx, hby, hop'⟩ := cmp_eval hb
    obtain ⟨hlen, rfl⟩ := of_ite_some hay
    obtain ⟨_, rfl⟩ := of_ite_some hbx
    have hlo : x ≤ Mime.u32le raw 0 := of_decide_eq_true hop
    have hhi : Mime.u32le raw 0 ≤ y' := of_decide_eq_true hop'
    rw [← Option.some.inj hax] at hlo
    rw [← Option.some.inj hby] at hhi
    have h0 := getD_le hx (i := 0) (by decide) (by omega)
    have h1 := getD_le hx (i := 1) (by decide) (by omega)
    have h2 := getD_le hx (i := 2) (by decide) (by omega)
    have h3 := getD_inA hx (i := 3) (by decide) (by omega)
    have : raw.getD 3 0 = lo / 16777216 := by
      simp only [Mime.u32le, Nat.zero_add] at hlo hhi; omega
    rw [this, hnot] at h3; cases h3
  · cases h

/-- `ite` is the general connective: `and` and `or` are instances of it -/
theorem eval_ite {raw : Bytes} {c t e : BExp} {v : Bool} (h : (BExp.ite c t e).eval raw = some v) :
    (c.eval raw = some true ∧ t.eval raw = some v) ∨ (c.eval raw = some false ∧ e.eval raw = some v) := by
  rw [BExp.eval] at h
  cases hc : c.eval raw with
  | none => rw [hc] at h; cases h
  | some b =>
    rw [hc] at h
    cases b
    · exact Or.inr ⟨rfl, h⟩
    · exact Or.inl ⟨rfl, h⟩

theorem eval_and (raw : Bytes) (a b : BExp) :
    (BExp.and a b).eval raw = (BExp.ite a b (.const false)).eval raw := by
  simp only [BExp.eval]
  cases a.eval raw with
  | none => rfl
  | some v => cases v <;> rfl

theorem eval_or (raw : Bytes) (a b : BExp) :
    (BExp.or a b).eval raw = (BExp.ite a (.const true) b).eval raw := by
  simp only [BExp.eval]

theorem eval_not {raw : Bytes} {a : BExp} {p : Bool} (h : (BExp.not a).eval raw = some p) :
    a.eval raw = some (!p) := by
  rw [BExp.eval] at h
  cases ha : a.eval raw with
  | none => rw [ha] at h; cases h
  | some v =>
    rw [ha] at h
    rw [← Option.some.inj h, Bool.not_not]

theorem rej_sound {raw : Bytes} (hx : XmlLike raw) (e : BExp) (p : Bool) :
    rej p e = true → e.eval raw ≠ some p := by
  fun_induction rej p e with
  | case1 p b =>   -- _, .const
    intro h he
    rw [← Option.some.inj he, bne_self_eq_false] at h
    cases h
  | case2 op a b =>   -- true, .cmp
    exact rejCmp_sound hx op a b
  | case3 a b =>   -- false, .cmp .ne
    intro h he
    obtain ⟨x, y, hax, hby, hop⟩ := cmp_eval he
    refine rejCmp_sound hx .eq a b h ?_
    rw [BExp.eval, hax, hby, bne_eq_false_iff_eq.mp hop]
    exact congrArg some (beq_self_eq_true y)
  | case4 op a b _ =>   -- false, .cmp (other operators)
    intro h; cases h
  | case5 off sig =>   -- true, .prefixAt
    intro h he
    obtain ⟨_, hp⟩ := of_ite_some he
    rw [badAt_false hx sig off hp, Bool.false_or, Bool.and_eq_true, beq_iff_eq] at h
    obtain ⟨rfl, hl⟩ := h
    rw [badLead_false hx sig hp] at hl
    cases hl
  | case6 lo hi sig =>   -- true, .equalAt
    intro h he
    obtain ⟨_, hs⟩ := of_ite_some he
    rw [badAt_false hx sig lo (of_decide_eq_true hs ▸ slice_prefix raw lo hi)] at h
    cases h
  | case7 sig mso =>   -- true, .prim (.zipContains ..)
    intro _ he
    have := (zipContains_true raw sig mso he).2.1
    rw [pk34, hasPrefix_first hx 0x50 _ (by decide)] at this
    cases this
  | case8 p _ =>   -- true, .prim (others)
    intro h; cases h
  | case9 a b iha ihb =>   -- true, .and
    intro h he
    rw [eval_and] at he
    rcases eval_ite he with ⟨ha, hb⟩ | ⟨_, hb⟩
    · rcases (Bool.or_eq_true _ _).mp h with h | h
      · rcases (Bool.or_eq_true _ _).mp h with h | h
        · exact iha h ha
        · exact ihb h hb
      · exact rangeRej_sound hx a b h ha hb
    · cases hb
  | case10 a b iha ihb iha' =>   -- false, .and
    intro h he
    obtain ⟨h1, h2⟩ := (Bool.and_eq_true _ _).mp h
    rw [eval_and] at he
    rcases eval_ite he with ⟨ha, hb⟩ | ⟨ha, _⟩
    · rcases (Bool.or_eq_true _ _).mp h2 with h2 | h2
      · exact ihb h2 hb
      · exact iha' h2 ha
    · exact iha h1 ha
  | case11 a b iha ihb =>   -- true, .or
    intro h he
    obtain ⟨h1, h2⟩ := (Bool.and_eq_true _ _).mp h
    rw [eval_or] at he
    rcases eval_ite he with ⟨ha, _⟩ | ⟨_, hb⟩
    · exact iha h1 ha
    · exact ihb h2 hb
  | case12 a b iha ihb =>   -- false, .or
    intro h he
    rw [eval_or] at he
    rcases eval_ite he with ⟨_, hb⟩ | ⟨ha, hb⟩
    · cases hb
    · rcases (Bool.or_eq_true _ _).mp h with h | h
      · exact iha h ha
      · exact ihb h hb
  | case13 p a ih =>   -- _, .not
    exact fun h he => ih h (eval_not he)
  | case14 c t e iht ihe =>   -- true, .ite
    intro h he
    obtain ⟨h1, h2⟩ := (Bool.and_eq_true _ _).mp h
    rcases eval_ite he with ⟨_, ht⟩ | ⟨_, he'⟩
    · exact iht h1 ht
    · exact ihe h2 he'
  | case15 =>   -- everything else: `rej` says no
    intro h; cases h

theorem anyG_some_true {α} (f : α → Option Bool) : ∀ (l : List α), anyG f l = some true →
    ∃ a ∈ l, f a = some true := by
  intro l
  induction l with
  | nil => intro h; simp [anyG] at h
  | cons x xs ih =>
    intro h
    simp only [anyG] at h
    cases hx : f x with
    | none => rw [hx] at h; cases h
    | some v => cases v with
      | true => exact ⟨x, by simp, hx⟩
      | false =>
        rw [hx] at h
        obtain ⟨a, ha, hfa⟩ := ih h
        exact ⟨a, by simp [ha], hfa⟩

theorem ciMatch_true_cons {b d : Nat} {bs ds : Bytes} (h : ciMatch (b :: bs) (d :: ds) = some true) :
    (if 0x41 ≤ b ∧ b ≤ 0x5A then d &&& 0xDF else d) = b ∧ ciMatch bs ds = some true := by
  simp only [ciMatch] at h
  generalize (if 0x41 ≤ b ∧ b ≤ 0x5A then d &&& 0xDF else d) = db at h ⊢
  split at h
  · cases h
  · rename_i hb
    exact ⟨(bne_eq_false_iff_eq.mp (Bool.eq_false_iff.mpr hb)).symm, h⟩

theorem markupCheck_sigRej (sig : Bytes) (x : Nat) (r : Bytes) (h : sigRej sig = true) :
    markupCheck sig (x :: 0x3F :: r) ≠ some true := by
  intro hm
  have hc : ciMatch sig (x :: 0x3F :: r) = some true := by
    unfold markupCheck at hm
    split at hm
    · cases hm
    · split at hm
      · cases hm
      · cases hm
      · assumption
  match sig, h with
  | a :: b :: bs, h =>
    -- the second byte of the signature would have to match `?`
    obtain ⟨hb, _⟩ := ciMatch_true_cons (ciMatch_true_cons hc).2
    split at hb
    · rw [show (0x3F : Nat) &&& 0xDF = 0x1F from rfl] at hb; omega
    · exact bne_iff_ne.mp h hb.symm

theorem rejD_sound {raw : Bytes} (hx : XmlLike raw) (ext : Custom → Bytes → Nat → Bool) (d : Det) (lim : Nat)
    (h : rejD d = true) : detEval ext d raw lim ≠ some true := by
  cases d with
  | expr e =>
    simp only [detEval, Det.evalWith]
    exact rej_sound hx e true (by simpa [rejD] using h)
  | ciPrefix sigs => cases h
  | xml sigs => cases h
  | shebang sigs => cases h
  | markup sigs =>
    obtain ⟨r, hr⟩ := hx.trim
    have hbom : hasPrefix raw utf8BOM = false := hasPrefix_first hx 0xEF _ (by decide)
    simp only [detEval, Det.evalWith, hbom, Bool.false_eq_true, ↓reduceIte, hr, List.isEmpty_cons]
    intro he
    obtain ⟨s, hs, hm⟩ := anyG_some_true _ sigs he
    have hrej : sigRej s = true := by
      simp only [rejD, List.all_eq_true] at h
      exact h s hs
    exact markupCheck_sigRej s _ r hrej hm
  | custom c =>
    -- the three custom checks that start with a fixed byte which is neither white space nor `<`
    simp only [rejD] at h
    split at h
    · simp only [detEval, Det.evalWith, custEval, customModel, Cust.crx]
      rw [hasPrefix_first hx 0x43 _ (by decide)]
      simp
    · simp only [detEval, Det.evalWith, custEval, customModel, matroska]
      rw [hasPrefix_first hx 0x1A _ (by decide)]
      simp
    · simp only [detEval, Det.evalWith, custEval, customModel, matroska]
      rw [hasPrefix_first hx 0x1A _ (by decide)]
      simp
    · cases h

end Mime.DetectXml
