import MimeModel.Model.Detect
import MimeModel.Lemmas.DetectTie
import MimeModel.Gen.Tree
import MimeModel.Lemmas.JsonQuery
import MimeModel.Props.C08
import MimeModel.Lemmas.OfString
/-
  The three sub-type queries of parser.go, evaluated on a syntax tree, are `isGeo` / `isHar` / `isGltf`
  (Spec/Json.lean); and `jsonHelper` on a whole RFC 8259 document computes its queries on the tree.
-/
namespace Mime.C10Base
open Mime Mime.Json Mime.Gen.Json Mime.Spec Mime.JsonQuery Mime.JsonLeaf Mime.JsonForward

/-- regenerated facts: the sub-types are the children of `json` in the priority order
    geojson, har, gltf, with the detectors GeoJSON, HAR, GLTF -/
theorem tree_facts :
    (Gen.builtin.flatten.filter (fun i => i.name == "geoJSON" || i.name == "har" || i.name == "gltf")).map
      (fun i => (i.name, i.det)) = [("geoJSON", .custom .geojson), ("har", .custom .har), ("gltf", .custom .gltf)] := by
  decide +kernel

/-- regenerated facts: the queries of parser.go are the ones the property names -/
theorem query_facts :
    q_geo.map (·.path) = [[[116, 121, 112, 101]]] ∧ (q_geo.map (fun q => q.vals.length)) = [9] ∧
    q_har.map (·.path) = [[[108, 111, 103], [118, 101, 114, 115, 105, 111, 110]],
                          [[108, 111, 103], [99, 114, 101, 97, 116, 111, 114]],
                          [[108, 111, 103], [101, 110, 116, 114, 105, 101, 115]]] ∧
    q_har.all (fun q => q.vals.isEmpty) = true ∧
    q_gltf = [{ path := [[97, 115, 115, 101, 116], [118, 101, 114, 115, 105, 111, 110]],
                vals := [[34, 49, 46, 48, 34], [34, 50, 46, 48, 34]] }] := by
  decide +kernel

section
abbrev Query := Mime.Gen.Json.Query

theorem matchHere_long (qs : List Query) (n : Nat) (h : ∀ q ∈ qs, q.path.length ≤ n) (p : List Bytes) (hp : n < p.length)
    (v : J.JVal) : matchHere qs p v = false := by
  induction qs with
  | nil => rfl
  | cons q rest ih =>
    have hq := h q (List.mem_cons_self ..)
    rw [matchHere_cons, if_neg (fun e => by rw [e] at hp; omega), ih (fun x hx => h x (List.mem_cons_of_mem _ hx))]

mutual
theorem deepV (qs : List Query) (n : Nat) (h : ∀ q ∈ qs, q.path.length ≤ n) :
    ∀ (v : J.JVal) (p : List Bytes), n ≤ p.length → qsatV qs p v = false
  | .obj ms, p, hp => by rw [qsatV]; exact deepM qs n h ms p hp
  | .arr xs, p, hp => by rw [qsatV]; exact deepL qs n h xs _ (by simp; omega)
  | .null, _, _ => by simp [qsatV]
  | .bool _, _, _ => by simp [qsatV]
  | .num, _, _ => by simp [qsatV]
  | .str _, _, _ => by simp [qsatV]
theorem deepM (qs : List Query) (n : Nat) (h : ∀ q ∈ qs, q.path.length ≤ n) :
    ∀ (ms : List (Bytes × J.JVal)) (p : List Bytes), n ≤ p.length → qsatM qs p ms = false
  | [], _, _ => by rw [qsatM]
  | (k, v) :: ms, p, hp => by
    rw [qsatM, deepV qs n h v (p ++ [k]) (by simp; omega), matchHere_long qs n h (p ++ [k]) (by simp; omega), deepM qs n h ms p hp]
    rfl
theorem deepL (qs : List Query) (n : Nat) (h : ∀ q ∈ qs, q.path.length ≤ n) :
    ∀ (xs : List J.JVal) (p : List Bytes), n ≤ p.length → qsatL qs p xs = false
  | [], _, _ => by rw [qsatL]
  | x :: xs, p, hp => by
    rw [qsatL, deepV qs n h x p hp, deepL qs n h xs p hp]
    rfl
end

theorem qsatM_any (qs : List Query) (p : List Bytes) (ms : List (Bytes × J.JVal)) :
    qsatM qs p ms = ms.any fun m => qsatV qs (p ++ [m.1]) m.2 || matchHere qs (p ++ [m.1]) m.2 := by
  induction ms with
  | nil => rw [qsatM]; rfl
  | cons m rest ih => obtain ⟨k, v⟩ := m; rw [qsatM, ih]; rfl

theorem qsatL_any (qs : List Query) (p : List Bytes) (xs : List J.JVal) : qsatL qs p xs = xs.any (qsatV qs p) := by
  induction xs with
  | nil => rw [qsatL]; rfl
  | cons x rest ih => rw [qsatL, ih]; rfl

theorem member_any (ms : List (Bytes × J.JVal)) (name : String) (g : J.JVal → Bool) :
    (J.member? ms name).any g = ms.any fun m => m.1 == ofString name && g m.2 := by
  simp only [J.member?, List.any_map, List.any_filter]
  rfl

theorem any_or {α : Type} (l : List α) (p q : α → Bool) : (l.any fun a => p a || q a) = (l.any p || l.any q) := by
  induction l with
  | nil => rfl
  | cons a l ih => simp only [List.any_cons, ih]; cases p a <;> cases q a <;> simp

theorem any_and_left {α : Type} (l : List α) (c : Bool) (p : α → Bool) : (l.any fun a => c && p a) = (c && l.any p) := by
  cases c <;> simp

theorem geo_len : ∀ q ∈ q_geo, q.path.length ≤ 1 := by decide
theorem har_len : ∀ q ∈ q_har, q.path.length ≤ 2 := by decide
theorem gltf_len : ∀ q ∈ q_gltf, q.path.length ≤ 2 := by decide

def kType : Bytes := [116, 121, 112, 101]
def geoQ : Query := { path := [kType], vals := J.geoNames.map quote }

theorem q_geo_eq : q_geo = [geoQ] := by
  unfold geoQ J.geoNames
  simp only [List.map]
  repeat rw [ofString_ofList]
  decide +kernel
theorem kType_eq : ofString "type" = kType := by rw [ofString_ofList]; decide +kernel

theorem quote_inj {a b : Bytes} (h : quote a = quote b) : a = b := by
  unfold quote at h
  have h2 := List.cons.inj h
  exact List.append_cancel_right h2.2

theorem geo_vals (s : Bytes) : (geoQ.vals.any fun x => decide (x = quote s)) = J.geoNames.contains s := by
  simp only [geoQ, List.any_map]
  rw [List.contains_eq_any_beq]
  congr 1
  funext n
  simp only [Function.comp]
  by_cases h : n = s
  · subst h; simp
  · have : quote n ≠ quote s := fun e => h (quote_inj e)
    simp [h, this]
    exact fun e => h e.symm

def geoVal (v : J.JVal) : Bool := match v with | .str s => J.geoNames.contains s | _ => false

theorem geo_here (k : Bytes) (v : J.JVal) : matchHere [geoQ] [k] v = (k == kType && geoVal v) := by
  rw [matchHere_cons, matchHere_nil, show geoQ.path = [kType] from rfl]
  by_cases hk : k = kType
  · subst hk
    rw [if_pos rfl, beq_self_eq_true, Bool.true_and]
    cases v with
    | str s =>
      have hne : geoQ.vals.isEmpty = false := rfl
      rw [matchVal, hne, Bool.false_or]
      exact geo_vals s
    | _ => rfl
  · rw [if_neg (fun e => hk (List.cons.inj e).1), beq_eq_false_iff_ne.mpr hk]
    rfl

/-- **GeoJSON**: the query of parser.go, evaluated on the syntax tree, is "a top-level `type`
    member is one of the nine RFC 7946 names" -/
theorem geo_spec (v : J.JVal) : qsatV q_geo [] v = J.isGeo v := by
  cases v with
  | obj ms =>
    rw [qsatV, qsatM_any]
    simp only [J.isGeo, member_any]
    refine List.any_congr rfl fun m => ?_
    rw [deepV q_geo 1 geo_len m.2 _ (by simp), Bool.false_or, q_geo_eq, List.nil_append, geo_here, kType_eq]
    rfl
  | arr xs => rw [qsatV]; exact deepL _ 1 geo_len xs _ (by simp)
  | _ => simp [J.isGeo]

def kLog : Bytes := [108, 111, 103]
def kVersion : Bytes := [118, 101, 114, 115, 105, 111, 110]
def kCreator : Bytes := [99, 114, 101, 97, 116, 111, 114]
def kEntries : Bytes := [101, 110, 116, 114, 105, 101, 115]
def kAsset : Bytes := [97, 115, 115, 101, 116]

def harQs : List Query :=
  [{ path := [kLog, kVersion], vals := [] }, { path := [kLog, kCreator], vals := [] }, { path := [kLog, kEntries], vals := [] }]

theorem q_har_eq : q_har = harQs := by decide
theorem kLog_eq : ofString "log" = kLog := by rw [ofString_ofList]; decide +kernel
theorem kVersion_eq : ofString "version" = kVersion := by rw [ofString_ofList]; decide +kernel
theorem kCreator_eq : ofString "creator" = kCreator := by rw [ofString_ofList]; decide +kernel
theorem kEntries_eq : ofString "entries" = kEntries := by rw [ofString_ofList]; decide +kernel
theorem kAsset_eq : ofString "asset" = kAsset := by rw [ofString_ofList]; decide +kernel

theorem har_here1 (k : Bytes) (v : J.JVal) : matchHere harQs [k] v = false := by
  simp [harQs, matchHere_cons, matchHere_nil]

theorem decide_eq_beq (a b : Bytes) : decide (a = b) = (a == b) := by
  by_cases h : a = b <;> simp [h]

theorem har_here2 (k k2 : Bytes) (v : J.JVal) :
    matchHere harQs [k, k2] v = (k == kLog && (k2 == kVersion || k2 == kCreator || k2 == kEntries)) := by
  simp only [harQs, matchHere_cons, matchHere_nil, matchVal, List.isEmpty_nil, Bool.true_or, List.cons.injEq, and_true]
  by_cases hk : k = kLog <;> simp [hk, decide_eq_beq, Bool.or_assoc]

def harInner (v : J.JVal) : Bool :=
  match v with
  | .obj ls => !(J.member? ls "version").isEmpty || !(J.member? ls "creator").isEmpty || !(J.member? ls "entries").isEmpty
  | _ => false

theorem member_nonempty (ls : List (Bytes × J.JVal)) (name : String) :
    (!(J.member? ls name).isEmpty) = ls.any (fun m => m.1 == ofString name) := by
  induction ls with
  | nil => rfl
  | cons m rest ih =>
    simp only [J.member?, List.filter_cons, List.any_cons] at ih ⊢
    by_cases h : (m.1 == ofString name) = true
    · simp [h]
    · have h' : (m.1 == ofString name) = false := by simpa using h
      simp only [h', Bool.false_eq_true, ↓reduceIte, Bool.false_or]
      exact ih

theorem har_inner (k : Bytes) (v : J.JVal) : qsatV harQs [k] v = (k == kLog && harInner v) := by
  cases v with
  | obj ls =>
    have hpt : ∀ m : Bytes × J.JVal, (qsatV harQs ([k] ++ [m.1]) m.2 || matchHere harQs ([k] ++ [m.1]) m.2) =
        (k == kLog && (m.1 == kVersion || m.1 == kCreator || m.1 == kEntries)) := by
      intro m
      rw [← q_har_eq, deepV q_har 2 har_len m.2 _ (by simp), Bool.false_or, q_har_eq]
      exact har_here2 k m.1 m.2
    rw [qsatV, qsatM_any, List.any_congr rfl hpt, any_and_left]
    simp only [harInner, member_nonempty, kVersion_eq, kCreator_eq, kEntries_eq, any_or]
  | arr xs =>
    rw [qsatV, ← q_har_eq, deepL _ 2 har_len xs ([k] ++ [[0x5B]]) (by simp)]
    simp [harInner]
  | _ => simp [harInner]

/-- **HAR**: the queries of parser.go, on the syntax tree: a top-level `log` object has a
    `version`, `creator` or `entries` member -/
theorem har_spec (v : J.JVal) : qsatV q_har [] v = J.isHar v := by
  rw [q_har_eq]
  cases v with
  | obj ms =>
    rw [qsatV, qsatM_any]
    simp only [J.isHar, member_any]
    refine List.any_congr rfl fun m => ?_
    rw [List.nil_append, har_inner, har_here1, Bool.or_false, kLog_eq]
    rfl
  | arr xs =>
    -- a top-level array: every path starts with the array marker, which is not `log`
    rw [qsatV, qsatL_any]
    simp [har_inner, J.isHar, show (([0x5B] : Bytes) == kLog) = false by decide]
  | _ => simp [J.isHar]

def v10 : Bytes := [49, 46, 48]
def v20 : Bytes := [50, 46, 48]
def gltfQ : Query := { path := [kAsset, kVersion], vals := [quote v10, quote v20] }

theorem q_gltf_eq : q_gltf = [gltfQ] := by decide
theorem v10_eq : ofString "1.0" = v10 := by rw [ofString_ofList]; decide +kernel
theorem v20_eq : ofString "2.0" = v20 := by rw [ofString_ofList]; decide +kernel

def gltfVer (w : J.JVal) : Bool := match w with | .str s => s == v10 || s == v20 | _ => false

theorem gltf_here1 (k : Bytes) (v : J.JVal) : matchHere [gltfQ] [k] v = false := by
  simp [gltfQ, matchHere_cons, matchHere_nil]

theorem gltf_val (w : J.JVal) : matchVal gltfQ w = gltfVer w := by
  unfold matchVal strVal gltfVer
  cases w with
  | str s =>
    simp only [gltfQ, List.isEmpty_cons, Bool.false_or, List.any_cons, List.any_nil, Bool.or_false]
    by_cases h1 : s = v10
    · subst h1; simp
    · by_cases h2 : s = v20
      · subst h2; simp
      · have a1 : quote v10 ≠ quote s := fun e => h1 (quote_inj e).symm
        have a2 : quote v20 ≠ quote s := fun e => h2 (quote_inj e).symm
        simp [a1, a2, h1, h2]
  | _ => simp [gltfQ]

theorem gltf_here2 (k k2 : Bytes) (w : J.JVal) :
    matchHere [gltfQ] [k, k2] w = (k == kAsset && k2 == kVersion && gltfVer w) := by
  simp only [matchHere_cons, matchHere_nil, gltfQ, List.cons.injEq, and_true]
  by_cases hk : k = kAsset <;> by_cases hk2 : k2 = kVersion <;> simp [hk, hk2]
  exact gltf_val w

def gltfInner (v : J.JVal) : Bool :=
  match v with
  | .obj ls => (J.member? ls "version").any gltfVer
  | _ => false

theorem gltf_inner (k : Bytes) (v : J.JVal) : qsatV [gltfQ] [k] v = (k == kAsset && gltfInner v) := by
  cases v with
  | obj ls =>
    have hpt : ∀ m : Bytes × J.JVal, (qsatV [gltfQ] ([k] ++ [m.1]) m.2 || matchHere [gltfQ] ([k] ++ [m.1]) m.2) =
        (k == kAsset && (m.1 == kVersion && gltfVer m.2)) := by
      intro m
      rw [← q_gltf_eq, deepV q_gltf 2 gltf_len m.2 _ (by simp), Bool.false_or, q_gltf_eq]
      exact (gltf_here2 k m.1 m.2).trans (Bool.and_assoc _ _ _)
    rw [qsatV, qsatM_any, List.any_congr rfl hpt, any_and_left]
    simp only [gltfInner, member_any, kVersion_eq]
  | arr xs =>
    rw [qsatV, ← q_gltf_eq, deepL _ 2 gltf_len xs ([k] ++ [[0x5B]]) (by simp)]
    simp [gltfInner]
  | _ => simp [gltfInner]

/-- **glTF**: top-level `asset.version` is the string "1.0" or "2.0" -/
theorem gltf_spec (v : J.JVal) : qsatV q_gltf [] v = J.isGltf v := by
  rw [q_gltf_eq]
  cases v with
  | obj ms =>
    rw [qsatV, qsatM_any]
    simp only [J.isGltf, v10_eq, v20_eq]
    rw [member_any]
    refine List.any_congr rfl fun m => ?_
    rw [List.nil_append, gltf_inner, gltf_here1, Bool.or_false, kAsset_eq]
    rfl
  | arr xs =>
    rw [qsatV, qsatL_any]
    simp [gltf_inner, J.isGltf, show (([0x5B] : Bytes) == kAsset) = false by decide]
  | _ => simp [J.isGltf]

end

theorem quoted_geo : ValsQuoted q_geo := by unfold ValsQuoted; decide
theorem quoted_har : ValsQuoted q_har := by unfold ValsQuoted; decide
theorem quoted_gltf : ValsQuoted q_gltf := by unfold ValsQuoted; decide

theorem finishAny_first (q : Bool) (t : Nat) (res : Option Bytes × PState) : (finishAny q 0 t res).2.firstToken = t := by
  obtain ⟨k, h⟩ := finishAny_snd q 0 t res
  rw [h]; cases q <;> rfl

theorem top_first (qs : List Query) (cap fuel : Nat) (b : Bytes) (s : PState) (c : Nat) (cs : Bytes) (hsk : J.skipWs b = c :: cs)
    (hcap : (cap != 0 && decide (0 > cap)) = false) :
    (consumeAny qs cap (fuel + 1) 0 b s).2.firstToken = (classify c).tok := by
  have hcs := consumeSpace_spec b (s.enter 0)
  rw [hsk] at hcs
  simp only [consumeAny, hcap, Bool.false_eq_true, ↓reduceIte, hcs]
  exact finishAny_first _ _ _

/-- `jsonHelper … tokObject` on input whose first non-space byte is `c` (`{` or `[`), in terms of what
    the top-level call of the scanner returns -/
theorem jsonHelper_run (qs : List Query) (raw : Bytes) (lim c : Nat) (cs : Bytes) (hsk : J.skipWs raw = c :: cs)
    (hc : c = 0x7B ∨ c = 0x5B) {res : Option Bytes × PState}
    (hres : consumeAny qs maxRecursion (fuelFor raw) 0 raw PState.fresh.reset = res) :
    jsonHelper raw lim qs tokObject =
      (res.2.querySatisfied && c == 0x7B &&
        if lim == 0 || raw.length < lim then (match res.1 with | some rest => raw.length - rest.length | none => 0) == raw.length
        else res.2.ib == raw.length && raw.length > 0) := by
  have hfirst := top_first qs maxRecursion (2 * raw.length + 3) raw PState.fresh.reset c cs hsk (by decide)
  rw [show 2 * raw.length + 3 + 1 = fuelFor raw from rfl, hres] at hfirst
  unfold jsonHelper parse parseWith
  simp only [C08.looksLike_of_skipWs raw c cs hsk hc, Bool.not_true, Bool.false_eq_true, ↓reduceIte, hres, hfirst]
  rcases hc with rfl | rfl
  · simp [show ((classify 0x7B).tok &&& tokObject == 0) = false by decide]
    rfl
  · simp [show ((classify 0x5B).tok &&& tokObject == 0) = true by decide]

def isObj : J.JVal → Bool
  | .obj _ => true | _ => false

theorem value_obj {f : Nat} (l : Bytes) (c : Nat) (cs : Bytes) (v : J.JVal) (r : Bytes)
    (hsk : J.skipWs l = c :: cs) (hv : J.value true f l = .ok v r) : isObj v = (c == 0x7B) := by
  cases f with
  | zero => rw [J.value] at hv; cases hv
  | succ f =>
    obtain ⟨c', cs', hsk', hc⟩ := value_case hv
    rw [hsk] at hsk'
    injection hsk' with h1 h2
    subst h1 h2
    cases hc with
    | num r _ _ h3 => exact (beq_eq_false_iff_ne.mpr h3).symm
    | _ => rename_i hc _; subst hc; rfl

/-- **C10 (whole documents)**: on every RFC 8259 object/array document of depth within the cap,
    examined in full, a detector of the JSON family built from queries `qs` (non-empty, values
    quoted) answers: the document is an object and the queries hold on its syntax tree -/
theorem helper_whole (qs : List Query) (hne : qs.isEmpty = false) (hq : ValsQuoted qs) (D : Bytes) (v : J.JVal) (lim : Nat)
    (hdoc : J.doc true D = some v) (hdepth : J.depth v ≤ maxRecursion) (hwhole : lim = 0 ∨ D.length < lim) :
    jsonHelper D lim qs tokObject = (isObj v && qsatV qs [] v) := by
  obtain ⟨c, cs, r, hsk, hc, hval, hr⟩ := C08.doc_inv D v hdoc
  obtain ⟨_, hrun⟩ := valueRun_of (forward_all qs maxRecursion _).1 (query_all' qs hne hq maxRecursion _).1 0 D v r hval
    (delim_of_ws_only r (by simp [hr])) (Or.inr (by omega))
  obtain ⟨s', e', _, q2⟩ := hrun PState.fresh.reset
  have hcond : (lim == 0 || decide (D.length < lim)) = true := by
    rcases hwhole with h | h <;> simp [h]
  rw [jsonHelper_run qs D lim c cs hsk hc e', q2, hr, value_obj D c cs v r hsk hval, hcond]
  simp [PState.reset, PState.fresh, Bool.and_comm]

theorem whole_of_spec (qs : List Query) (hne : qs.isEmpty = false) (hq : ValsQuoted qs) (spec : J.JVal → Bool)
    (hs : ∀ v, qsatV qs [] v = spec v) (hobj : ∀ v, isObj v = false → spec v = false) (D : Bytes) (v : J.JVal) (lim : Nat)
    (hdoc : J.doc true D = some v) (hdepth : J.depth v ≤ maxRecursion) (hwhole : lim = 0 ∨ D.length < lim) :
    jsonHelper D lim qs tokObject = spec v := by
  rw [helper_whole qs hne hq D v lim hdoc hdepth hwhole, hs]
  cases h : isObj v
  · exact (hobj v h).symm
  · rfl

theorem isGeo_obj (v : J.JVal) (h : isObj v = false) : J.isGeo v = false := by
  cases v with
  | obj ms => cases h
  | _ => rfl

theorem isHar_obj (v : J.JVal) (h : isObj v = false) : J.isHar v = false := by
  cases v with
  | obj ms => cases h
  | _ => rfl

theorem isGltf_obj (v : J.JVal) (h : isObj v = false) : J.isGltf v = false := by
  cases v with
  | obj ms => cases h
  | _ => rfl

/-- **C10**: the verdicts of the three sub-type detectors on a whole RFC 8259 document are the
    three specifications evaluated on its syntax tree -/
theorem subtypes_whole (D : Bytes) (v : J.JVal) (lim : Nat)
    (hdoc : J.doc true D = some v) (hdepth : J.depth v ≤ maxRecursion) (hwhole : lim = 0 ∨ D.length < lim) :
    jsonHelper D lim q_geo tokObject = J.isGeo v ∧
    jsonHelper D lim q_har tokObject = J.isHar v ∧
    jsonHelper D lim q_gltf tokObject = J.isGltf v :=
  ⟨whole_of_spec q_geo (by decide) quoted_geo J.isGeo geo_spec isGeo_obj
      D v lim hdoc hdepth hwhole,
   whole_of_spec q_har (by decide) quoted_har J.isHar har_spec isHar_obj
      D v lim hdoc hdepth hwhole,
   whole_of_spec q_gltf (by decide) quoted_gltf J.isGltf gltf_spec isGltf_obj
      D v lim hdoc hdepth hwhole⟩

/-- regenerated tie: `Detect` / `DetectReader` load the limit once, atomically (see Lemmas/DetectTie.lean) -/
theorem tie_single_limit : Mime.DetectTie.SingleLimit := Mime.DetectTie.single_limit

end Mime.C10Base
