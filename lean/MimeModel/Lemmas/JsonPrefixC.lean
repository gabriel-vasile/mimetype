import MimeModel.Lemmas.JsonPrefix
import MimeModel.Lemmas.JsonForward
/-
  Prefix laws for the container scanners (`consumeAny`, `arrayLoop`, `objectLoop`), by
  induction on fuel: every stage scanner is lawful because of what it does with its first
  byte (`lawful_of_head`) or because it is one lawful scanner after another (`Lawful.seq`).
-/
namespace Mime.JsonPrefix
open Mime Mime.Json Mime.Spec Mime.JsonLeaf

variable (qs : List Mime.Gen.Json.Query) (cap : Nat)

theorem consumeConst_some (w : Bytes) : ∀ (b r : Bytes) (s s' : PState),
    consumeConst b w s = (some r, s') → b = w ++ r ∧ s' = s.bump w.length := by
  induction w with
  | nil => intro b r s s' h; simp [consumeConst] at h; simp [h.1, ← h.2]
  | cons x xs ih =>
    intro b r s s' h
    cases b with
    | nil => simp [consumeConst] at h
    | cons c cs =>
      rw [consumeConst] at h
      split at h
      · rename_i hc
        obtain ⟨e1, e2⟩ := ih _ _ _ _ h
        simp only [beq_iff_eq] at hc
        subst hc
        exact ⟨by rw [e1]; rfl, by rw [e2]; simp [Nat.add_comm]⟩
      · cases h

/-- the three container laws at one fuel -/
def PAny (f : Nat) : Prop := ∀ lvl b s r s', consumeAny qs cap f lvl b s = (some r, s') → PrefixLaw (consumeAny qs cap f lvl) b s r s'
def PArr (f : Nat) : Prop := ∀ lvl b s r s', arrayLoop qs cap f lvl b s = (some r, s') → PrefixLaw (arrayLoop qs cap f lvl) b s r s'
def PObj (f : Nat) : Prop := ∀ lvl b s r s', objectLoop qs cap f lvl b s = (some r, s') → PrefixLaw (objectLoop qs cap f lvl) b s r s'

variable {qs cap}
variable {f : Nat}

theorem arrAfter_lawful (hA : PArr qs cap f) (lvl : Nat) : Lawful (arrAfter qs cap f lvl) :=
  lawful_of_head (fun _ => rfl) (fun _ => rfl) fun d s2 => by
    by_cases hd : (d == 0x2C) = true
    · exact .peek (arrayLoop qs cap f lvl) (fun cs r s' => hA lvl cs _ r s') (fun x => by simp only [arrAfter, if_pos hd])
    · by_cases hd2 : (d == 0x5D) = true
      · exact .last s2.bump.pop rfl (fun x => by simp only [arrAfter, if_neg hd, if_pos hd2])
      · exact .fail (fun x => by simp only [arrAfter, if_neg hd, if_neg hd2])

theorem arrHead_lawful (hV : PAny qs cap f) (hA : PArr qs cap f) (lvl : Nat) : Lawful (arrHead qs cap f lvl) :=
  lawful_of_head (fun _ => rfl) (fun _ => rfl) fun c s1 => by
    by_cases hc : (c == 0x5D) = true
    · exact .last s1.bump.pop rfl (fun x => by simp only [arrHead, if_pos hc])
    · exact .same _ (Lawful.seq (hV lvl) (fun _ => arrAfter_lawful hA lvl) (fun _ _ => ⟨rfl, Or.inl rfl⟩))
        (seqScan_nil _ (consumeAny_nil qs cap f lvl s1)) (fun x => arrHead_seq qs cap f lvl hc x s1)

theorem arr_step (hV : PAny qs cap f) (hA : PArr qs cap f) : PArr qs cap (f + 1) := fun lvl _ _ _ _ h =>
  Lawful.congr rfl (fun x => by rw [arrayLoop_eq]; rfl)
    (Lawful.seq lawful_space (fun _ => arrHead_lawful hV hA lvl) (fun _ _ => ⟨rfl, Or.inl rfl⟩)) h

theorem objAfterVal_lawful (hO : PObj qs cap f) (lvl : Nat) (qm : Option Mime.Gen.Json.Query) (tag : Bytes) :
    Lawful (objAfterVal qs cap f lvl qm tag) :=
  lawful_of_head (fun _ => JsonForward.applyQuery_ib ..) (fun _ => rfl) fun g s6 => by
    by_cases hg : (g == 0x2C) = true
    · -- the loop goes on from a state that differs from `s6.bump` in other fields only
      refine .peek (fun x _ => objectLoop qs cap f lvl x (applyQuery qm tag s6).pop.bump) (fun cs r s' h => ?_)
        (fun x => by simp only [objAfterVal, if_pos hg])
      exact law_congr_all _ (objectLoop qs cap f lvl) s6.bump (applyQuery qm tag s6).pop.bump (by simp) cs r s' (fun _ => rfl)
        (hO lvl cs _ r s' h)
    · by_cases hg2 : (g == 0x7D) = true
      · exact .last (applyQuery qm tag s6).pop.bump (by simp) (fun x => by simp only [objAfterVal, if_neg hg, if_pos hg2])
      · exact .fail (fun x => by simp only [objAfterVal, if_neg hg, if_neg hg2])

theorem objValue_lawful (hV : PAny qs cap f) (hO : PObj qs cap f) (lvl : Nat) (qm : Option Mime.Gen.Json.Query) :
    Lawful (objValue qs cap f lvl qm) :=
  lawful_of_head (fun _ => rfl) (fun _ => rfl) fun _ s5 =>
    .same _ (Lawful.seq (hV lvl) (objAfterVal_lawful hO lvl qm) (fun _ _ => ⟨JsonForward.applyQuery_ib .., Or.inl rfl⟩))
      (seqScan_nil _ (consumeAny_nil qs cap f lvl s5)) (fun _ => rfl)

theorem objColon_lawful (hV : PAny qs cap f) (hO : PObj qs cap f) (lvl : Nat) (qm : Option Mime.Gen.Json.Query) :
    Lawful (objColon qs cap f lvl qm) :=
  lawful_of_head (fun _ => rfl) (fun _ => rfl) fun d s4 => by
    by_cases hd : (d != 0x3A) = true
    · exact .fail (fun x => by simp only [objColon, if_pos hd])
    · exact .peek (seqScan spaceScan (fun _ => objValue qs cap f lvl qm))
        (fun cs r s' => Lawful.seq lawful_space (fun _ => objValue_lawful hV hO lvl qm) (fun _ _ => ⟨rfl, Or.inl rfl⟩) cs _ r s')
        (fun x => by simp only [objColon, if_neg hd]; rfl)

theorem objAfterKey_lawful (hV : PAny qs cap f) (hO : PObj qs cap f) (lvl : Nat) (tag : Bytes) :
    Lawful (objAfterKey qs cap f lvl tag) := fun _ s2 _ _ h =>
  Lawful.congr (s0 := s2.push tag.dropLast) rfl (fun _ => rfl)
    (Lawful.seq lawful_space (fun _ => objColon_lawful hV hO lvl _) (fun _ _ => ⟨rfl, Or.inl rfl⟩)) h

theorem consumeString_nil (m : SMode) (s : PState) : consumeString m [] s = (none, s) := by
  cases m <;> rfl

theorem objHead_lawful (hV : PAny qs cap f) (hO : PObj qs cap f) (lvl : Nat) : Lawful (objHead qs cap f lvl) :=
  lawful_of_head (fun _ => rfl) (fun _ => rfl) fun c s1 => by
    by_cases hc : (c == 0x7D) = true
    · exact .last s1.bump rfl (fun x => by simp only [objHead, if_pos hc])
    · by_cases hq : (c != 0x22) = true
      · exact .fail (fun x => by simp only [objHead, if_neg hc, if_pos hq])
      · have hq' : c = 0x22 := by simpa using hq
        subst hq'
        exact .peek (seqScan (consumeString .norm) (objAfterKey qs cap f lvl))
          (fun cs r s' => Lawful.seq (fun b s r s' h => consumeString_prefix b .norm s r s' h) (objAfterKey_lawful hV hO lvl)
            (fun _ _ => ⟨rfl, Or.inl rfl⟩) cs _ r s')
          (fun x => objHead_seq qs cap f lvl x s1)

theorem obj_step (hV : PAny qs cap f) (hO : PObj qs cap f) : PObj qs cap (f + 1) := fun lvl _ _ _ _ h =>
  Lawful.congr rfl (fun x => by rw [objectLoop_eq]; rfl)
    (Lawful.seq lawful_space (fun _ => objHead_lawful hV hO lvl) (fun _ _ => ⟨rfl, Or.inl rfl⟩)) h

theorem lit_lawful (w : Bytes) : Lawful (fun y st => consumeConst y w st) := by
  intro b s r s' h
  obtain ⟨e1, e2⟩ := consumeConst_some w b r s s' h
  rw [e1, e2]; exact consumeConst_prefix w r s

theorem kindScan_lawful (hA : PArr qs cap f) (hO : PObj qs cap f) (lvl : Nat) (k : Kind) : Lawful (kindScan qs cap f lvl k) := by
  cases k with
  | str =>
    exact lawful_of_head (fun _ => rfl) (fun _ => rfl) fun c s1 =>
      .peek (consumeString .norm) (fun cs r s' h => consumeString_prefix cs .norm _ r s' h) (fun _ => rfl)
  | arr =>
    refine lawful_of_head (fun _ => rfl) (fun _ => rfl) fun c s1 =>
      .peek (fun x st => if x.isEmpty then (none, st.push [0x5B]) else arrayLoop qs cap f (lvl + 1) x (st.push [0x5B]))
        (fun cs r s' h => ?_) (fun _ => rfl)
    cases cs with
    | nil => cases h
    | cons d ds =>
      -- on a non-empty cut the `isEmpty` test is passed
      have hcut : ∀ k, 0 < k → (if ((d :: ds).take k).isEmpty then (none, s1.bump.push [0x5B])
          else arrayLoop qs cap f (lvl + 1) ((d :: ds).take k) (s1.bump.push [0x5B])) =
          arrayLoop qs cap f (lvl + 1) ((d :: ds).take k) (s1.bump.push [0x5B]) := by
        intro k hk
        cases k with
        | zero => exact absurd hk (Nat.lt_irrefl 0)
        | succ k => rfl
      exact law_congr _ (arrayLoop qs cap f (lvl + 1)) s1.bump (s1.bump.push [0x5B]) rfl _ r s' hcut
        ⟨rfl, Or.inl rfl⟩ (arrayLoop_nil qs cap f _ _) (hA _ _ _ _ _ h)
  | obj =>
    exact lawful_of_head (fun _ => rfl) (fun _ => rfl) fun c s1 =>
      .peek (objectLoop qs cap f (lvl + 1)) (fun cs r s' h => hO _ cs _ r s' h) (fun _ => rfl)
  | litT => exact lit_lawful wTrue
  | litF => exact lit_lawful wFalse
  | litN => exact lit_lawful wNull
  | num => exact fun b s r s' h => consumeNumber_prefix b .start s r s' h

variable (qs) in
theorem finishScan_law (lvl t : Nat) (G : Scan) (b : Bytes) (s : PState) (r1 : Bytes) (s1 : PState)
    (lG : PrefixLaw G b s r1 s1) :
    PrefixLaw (finishScan qs lvl t G) b s (J.skipWs r1)
      (((s1.setFirst lvl t).setQ qs.isEmpty).bump (r1.length - (J.skipWs r1).length)) := by
  have hib : ∀ x : PState, ((x.setFirst lvl t).setQ qs.isEmpty).ib = x.ib := fun x => setFlags_ib x _ lvl t
  apply seq_law G (fun _ r st => spaceScan r ((st.setFirst lvl t).setQ qs.isEmpty))
    (fun st => (st.setFirst lvl t).setQ qs.isEmpty) _ hib b s r1 s1
  · intro k
    simp only [finishScan, finishAny, spaceScan]
    generalize G (b.take k) s = res
    obtain ⟨o, x⟩ := res
    cases o <;> rfl
  · exact lG
  · exact law_congr_all _ spaceScan _ _ (hib s1) _ _ _ (fun _ => rfl) (spaceScan_law r1 _)
  · intro _ x
    exact ⟨by simp only [spaceScan, consumeSpace]; exact hib x, Or.inr rfl⟩

variable (qs) in
theorem finishScan_val (lvl t : Nat) (G : Scan) (b : Bytes) (s : PState) (r1 : Bytes) (s1 : PState)
    (h : G b s = (some r1, s1)) :
    finishScan qs lvl t G b s = (some (J.skipWs r1), ((s1.setFirst lvl t).setQ qs.isEmpty).bump (r1.length - (J.skipWs r1).length)) := by
  simp only [finishScan, finishAny, h, consumeSpace_spec]

theorem finishScan_lawful (lvl t : Nat) {G : Scan} (hG : Lawful G) : Lawful (finishScan qs lvl t G) := by
  intro b s r s' h
  generalize hres : G b s = res
  obtain ⟨o, s1⟩ := res
  cases o with
  | none => simp [finishScan, finishAny, hres] at h
  | some r1 =>
    rw [finishScan_val qs lvl t G b s r1 s1 hres] at h
    cases h
    exact finishScan_law qs lvl t G b s r1 s1 (hG _ _ _ _ hres)

theorem anyHead_lawful (hA : PArr qs cap f) (hO : PObj qs cap f) (lvl : Nat) : Lawful (anyHead qs cap f lvl) :=
  lawful_of_head (fun _ => rfl) (fun _ => rfl) fun c s1 =>
    .same _ (finishScan_lawful lvl (classify c).tok (kindScan_lawful hA hO lvl (classify c)))
      (by
        have := kindScan_nil qs cap f lvl (classify c) s1
        generalize hz : kindScan qs cap f lvl (classify c) [] s1 = z at this
        obtain ⟨o, x⟩ := z
        cases this
        simp [finishScan, finishAny, hz])
      (fun _ => rfl)

theorem any_step (hA : PArr qs cap f) (hO : PObj qs cap f) : PAny qs cap (f + 1) := by
  intro lvl b s r s' h
  by_cases hcap : (cap != 0 && decide (lvl > cap)) = true
  · rw [consumeAny_eq, if_pos hcap] at h; cases h
  · exact Lawful.congr (F := consumeAny qs cap (f + 1) lvl) (s := s) (s0 := s.enter lvl) rfl
      (fun x => by rw [consumeAny_eq, if_neg hcap]; rfl)
      (Lawful.seq lawful_space (fun _ => anyHead_lawful hA hO lvl) (fun _ _ => ⟨rfl, Or.inl rfl⟩)) h

variable (qs cap)

theorem prefix_all : ∀ f, PAny qs cap f ∧ PArr qs cap f ∧ PObj qs cap f := by
  intro f
  induction f with
  | zero =>
    refine ⟨?_, ?_, ?_⟩
    · intro lvl b s r s' h; rw [consumeAny] at h; cases h
    · intro lvl b s r s' h; rw [arrayLoop] at h; cases h
    · intro lvl b s r s' h; rw [objectLoop] at h; cases h
  | succ f ih =>
    obtain ⟨hV, hA, hO⟩ := ih
    exact ⟨any_step hA hO, arr_step hV hA, obj_step hV hO⟩

end Mime.JsonPrefix
