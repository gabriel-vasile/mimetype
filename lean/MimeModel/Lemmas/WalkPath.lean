import MimeModel.Lemmas.Tree
/-
  From detector verdicts to the result of the walk, generically: if every node along a path
  of the tree (selected level by level by predicates on the children) accepts the header, the
  walk goes through the path's end — unless, at some level, a sibling *in front of* the
  selected child accepts too (the "higher-priority signature" of the properties).
  `Lemmas/DetectPath.lean` states the result at the level of `detect`.
-/
namespace Mime.WalkPath
open Mime Mime.Tree

variable {α : Type}

/-- follow `ps` from `t`: at each level the first child satisfying the predicate -/
def descend : List (Tree α → Bool) → Tree α → Option (Tree α)
  | [], t => some t
  | p :: ps, t => match t.children.find? p with
    | some c => descend ps c
    | none => none

/-- the nodes selected along the path (the start node excluded) -/
def pathNodes : List (Tree α → Bool) → Tree α → List (Tree α)
  | [], _ => []
  | p :: ps, t => match t.children.find? p with
    | some c => c :: pathNodes ps c
    | none => []

/-- the siblings that are consulted before the selected child, at every level -/
def rivals : List (Tree α → Bool) → Tree α → List (Tree α)
  | [], _ => []
  | p :: ps, t => t.children.takeWhile (fun x => !p x) ++
    (match t.children.find? p with
     | some c => rivals ps c
     | none => [])

theorem descend_step {p : Tree α → Bool} {ps : List (Tree α → Bool)} {t c : Tree α}
    (h : t.children.find? p = some c) : descend (p :: ps) t = descend ps c := by
  rw [descend, h]

theorem pathNodes_step {p : Tree α → Bool} {ps : List (Tree α → Bool)} {t c : Tree α}
    (h : t.children.find? p = some c) : pathNodes (p :: ps) t = c :: pathNodes ps c := by
  rw [pathNodes, h]

theorem rivals_step {p : Tree α → Bool} {ps : List (Tree α → Bool)} {t c : Tree α}
    (h : t.children.find? p = some c) :
    rivals (p :: ps) t = t.children.takeWhile (fun x => !p x) ++ rivals ps c := by
  rw [rivals, h]

theorem walkList_first (acc : α → Bool) (p : Tree α → Bool) : ∀ (cs : List (Tree α)) (c : Tree α),
    cs.find? p = some c → acc c.info = true →
    (∃ d ∈ cs.takeWhile (fun x => !p x), acc d.info = true) ∨ walkList acc cs = walk acc c := by
  intro cs
  induction cs with
  | nil => intro c h; cases h
  | cons x xs ih =>
    intro c h hacc
    rw [List.find?_cons] at h
    rw [List.takeWhile_cons, walkList]
    cases hp : p x with
    | true =>
      rw [hp] at h
      cases h
      exact Or.inr (if_pos hacc)
    | false =>
      rw [hp] at h
      cases hx : acc x.info with
      | true => exact Or.inl ⟨x, List.mem_cons_self, hx⟩
      | false =>
        refine (ih c h hacc).imp (fun ⟨d, hd, hda⟩ => ⟨d, List.mem_cons_of_mem _ hd, hda⟩) (fun hw => ?_)
        rw [if_neg Bool.false_ne_true, hw]

/-- **the walk follows an accepted path unless a rival accepts** -/
theorem walk_along (acc : α → Bool) : ∀ (ps : List (Tree α → Bool)) (t target : Tree α),
    descend ps t = some target → (∀ n ∈ pathNodes ps t, acc n.info = true) →
    walk acc t = (t :: pathNodes ps t).dropLast.map (·.info) ++ walk acc target ∨
      (∃ d ∈ rivals ps t, acc d.info = true) := by
  intro ps
  induction ps with
  | nil =>
    intro t target h _
    cases h
    exact Or.inl rfl
  | cons p ps ih =>
    intro t target h hall
    cases hf : t.children.find? p with
    | none => rw [descend, hf] at h; cases h
    | some c =>
      rw [descend_step hf] at h
      rw [pathNodes_step hf] at hall ⊢
      rw [rivals_step hf]
      rcases walkList_first acc p t.children c hf (hall c List.mem_cons_self) with ⟨d, hd, hda⟩ | hw
      · exact Or.inr ⟨d, List.mem_append_left _ hd, hda⟩
      · rcases ih c target h (fun n hn => hall n (List.mem_cons_of_mem _ hn)) with hc | ⟨d, hd, hda⟩
        · left
          rw [walk_unfold acc t, hw, hc]
          rfl
        · exact Or.inr ⟨d, List.mem_append_right _ hd, hda⟩

theorem walk_reaches (acc : α → Bool) (ps : List (Tree α → Bool)) (t target : Tree α)
    (h : descend ps t = some target) (hall : ∀ n ∈ pathNodes ps t, acc n.info = true) :
    target.info ∈ walk acc t ∨ (∃ d ∈ rivals ps t, acc d.info = true) := by
  refine (walk_along acc ps t target h hall).imp_left (fun hw => ?_)
  rw [hw, walk_unfold acc target]
  exact List.mem_append_right _ List.mem_cons_self

theorem walk_along_leaf {acc : α → Bool} (ps : List (Tree α → Bool)) (t target : Tree α)
    (h : descend ps t = some target) (hall : ∀ n ∈ pathNodes ps t, acc n.info = true)
    (hleaf : ∀ c ∈ target.children, acc c.info = false) :
    walk acc t = (t :: pathNodes ps t).dropLast.map (·.info) ++ [target.info] ∨
      (∃ d ∈ rivals ps t, acc d.info = true) := by
  refine (walk_along acc ps t target h hall).imp_left (fun hw => ?_)
  rw [hw, walk_unfold acc target, walkList_eq_nil_of_none acc _ hleaf]

end Mime.WalkPath
