import MimeModel.Spec.Zip
import MimeModel.Lemmas.C19Base
/-
  C19 forward clause derived from the zip layout specification (`MimeModel.Spec.Zip`).

  The walk of zip.go moves a cursor from entry name to entry name.  On an archive laid out as in
  the specification the cursor at the name of an entry is `(archive (e :: es) tail).drop 30`, and
  `zipWalk_layout` / `zipLoop_layout` say what one step does to it.
-/
namespace Mime.ZipLayout
open Mime Mime.Spec.Zip Mime.C19Base Mime.ZipConverse

theorem drop_image_name (e : Entry) (x : Bytes) (hf : e.fixed.length = 26) :
    (e.image ++ x).drop 30 = e.name ++ (e.extra ++ e.data ++ e.desc ++ x) := by
  have : e.image ++ x = (pk34 ++ e.fixed) ++ (e.name ++ (e.extra ++ e.data ++ e.desc ++ x)) := by
    simp only [Entry.image, Entry.body, List.append_assoc]
  rw [this]
  exact List.drop_left' (by simp only [List.length_append, pk34_length, hf])

theorem getD_image (e : Entry) (x : Bytes) (i : Nat) (hf : e.fixed.length = 26) (hi : i < 26) :
    (e.image ++ x).getD (4 + i) 0 = e.fixed.getD i 0 := by
  have : e.image ++ x = pk34 ++ (e.fixed ++ (e.name ++ e.extra ++ e.data ++ e.desc ++ x)) := by
    simp only [Entry.image, Entry.body, List.append_assoc]
  rw [this, List.getD_eq_getElem?_getD, List.getD_eq_getElem?_getD,
    List.getElem?_append_right (by rw [pk34_length]; omega), pk34_length,
    List.getElem?_append_left (by omega)]
  congr 2; omega

/-- the compressed-size field read by `zipContains` at offset 18 is the first entry's -/
theorem u32le_image (e : Entry) (x : Bytes) (hf : e.fixed.length = 26) :
    u32le (e.image ++ x) 18 = e.csizeField := by
  simp only [Entry.csizeField, u32le]
  rw [← getD_image e x 14 hf (by omega), ← getD_image e x 15 hf (by omega),
    ← getD_image e x 16 hf (by omega), ← getD_image e x 17 hf (by omega)]

theorem u32le_lt (b : Bytes) (off : Nat) (h : ∀ x ∈ b, x < 256) : u32le b off < 4294967296 := by
  have g : ∀ i, b.getD i 0 < 256 := by
    intro i
    rw [List.getD_eq_getElem?_getD]
    cases hi : b[i]? with
    | none => simp
    | some v => exact h v (List.mem_of_getElem? hi)
  have h0 := g off; have h1 := g (off + 1); have h2 := g (off + 2); have h3 := g (off + 3)
  unfold u32le; omega

theorem csizeField_lt (e : Entry) (h : e.WF) : e.csizeField < 4294967296 :=
  u32le_lt e.fixed 14 (fun x hx => h.2 x (by simp only [Entry.body, List.mem_append]; simp [hx]))

theorem image_length_wf {e : Entry} (h : e.WF) :
    e.image.length = 30 + e.name.length + e.extra.length + e.data.length + e.desc.length := by
  rw [Entry.image_length, h.1]; omega

theorem archive_cons (e : Entry) (es : List Entry) (tail : Bytes) :
    archive (e :: es) tail = e.image ++ archive es tail := by
  simp only [archive, List.map_cons, List.flatten_cons, List.append_assoc]

theorem archive_append (es fs : List Entry) (tail : Bytes) :
    archive (es ++ fs) tail = (es.map Entry.image).flatten ++ archive fs tail := by
  simp only [archive, List.map_append, List.flatten_append, List.append_assoc]

theorem archive_length_ge (e1 : Entry) (es : List Entry) (tail : Bytes) :
    e1.image.length ≤ (archive (e1 :: es) tail).length := by
  rw [archive_cons, List.length_append]; omega

theorem archive_pk34 (e : Entry) (es : List Entry) (tail : Bytes) :
    archive (e :: es) tail = pk34 ++ (e.body ++ archive es tail) := by
  rw [archive_cons]; simp only [Entry.image, List.append_assoc]

theorem archive_hasPrefix_pk34 (e : Entry) (es : List Entry) (tail : Bytes) :
    hasPrefix (archive (e :: es) tail) pk34 = true := by
  rw [archive_pk34, hasPrefix_iff]; exact List.prefix_append _ _

theorem archive_drop_30 (e : Entry) (es : List Entry) (tail : Bytes) (hwf : e.WF) :
    (archive (e :: es) tail).drop 30 = e.name ++ (e.extra ++ e.data ++ e.desc ++ archive es tail) := by
  rw [archive_cons, drop_image_name e _ hwf.1]

theorem archive_length_30 (e : Entry) (es : List Entry) (tail : Bytes) (hwf : e.WF) :
    30 ≤ (archive (e :: es) tail).length := by
  have h1 := archive_length_ge e es tail
  have h2 := image_length_wf hwf
  omega

theorem archive_name_at_30 (e : Entry) (es : List Entry) (tail : Bytes) (hwf : e.WF) :
    hasPrefix ((archive (e :: es) tail).drop 30) e.name = true := by
  rw [archive_drop_30 e es tail hwf, hasPrefix_iff]
  exact List.prefix_append _ _

theorem archive_drop_next (m : Entry) (es : List Entry) (tail : Bytes) :
    (archive (m :: es) tail).drop (m.image.length + 30) = (archive es tail).drop 30 := by
  rw [archive_cons, ← List.drop_drop, List.drop_left]

theorem indexOf_next_entry (m w : Entry) (ws : List Entry) (tail : Bytes) (so : Nat) (hc : m.Clean)
    (h4 : 4 ≤ so) (hso : so ≤ m.image.length) :
    indexOf pk34 ((archive (m :: w :: ws) tail).drop so) = some (m.image.length - so) := by
  obtain ⟨k, rfl⟩ : ∃ k, so = pk34.length + k := ⟨so - 4, by rw [pk34_length]; omega⟩
  have hl : m.image.length = pk34.length + m.body.length := by simp only [Entry.image, List.length_append]
  rw [archive_pk34, archive_pk34 w, ← List.drop_drop, List.drop_left,
    List.drop_append_of_le_length (by omega), indexOf_append_pk34 _ (indexOf_drop_none k _ hc),
    List.length_drop]
  congr 1; omega

/-- the loop steps from entry to entry: with the cursor at the name of a clean entry of
    realistic length that is followed by another entry, one iteration compares the marker at the
    name of that next entry and goes on from there -/
theorem zipLoop_layout (sig : Bytes) (n : Nat) (m w : Entry) (ws : List Entry) (tail : Bytes)
    (hm : m.WF) (hc : m.Clean) (hr : m.Realistic) (hw : w.WF) :
    zipLoop sig (n + 1) ((archive (m :: w :: ws) tail).drop 30) =
      (hasPrefix ((archive (w :: ws) tail).drop 30) sig || zipLoop sig n ((archive (w :: ws) tail).drop 30)) := by
  have hl := image_length_wf hm
  have hr' : 26 ≤ m.name.length + m.extra.length + m.data.length + m.desc.length := hr
  have hlen : m.image.length + 30 ≤ (archive (m :: w :: ws) tail).length := by
    have := archive_length_30 w ws tail hw
    rw [archive_cons, List.length_append]; omega
  rw [zipLoop_succ, indexOf_next_entry m w ws tail 56 hc (by omega) (by omega)]
  simp only [show 30 + 56 + (m.image.length - 56) = m.image.length + 30 by omega, decide_eq_true hlen,
    Bool.true_and, archive_drop_next]

/-- the first hop lands inside entry 1: the search for the second header starts
    `compressedSize + 49` bytes into the file (zip.go), an addition in 32 bits that must not wrap
    around: a first entry of ≥ 4 GiB whose size field is 2^32 - 49 sends the search back to offset 0 -/
def FirstHop (e1 : Entry) : Prop :=
  e1.csizeField + 49 ≤ 30 + e1.name.length + e1.extra.length + e1.data.length + e1.desc.length ∧
  e1.csizeField + 49 < 4294967296

/-- the first step: if the first hop lands inside the first entry and that entry is clean, the
    second name compared is the second entry's -/
theorem zipWalk_layout (sig : Bytes) (mso : Bool) (e1 w : Entry) (ws : List Entry) (tail : Bytes)
    (h1 : e1.WF) (hc : e1.Clean) (hw : w.WF) (hhop : FirstHop e1) :
    zipWalk (archive (e1 :: w :: ws) tail) sig mso =
      if hasPrefix ((archive (e1 :: w :: ws) tail).drop 30) sig then some true else
      if mso && !(msoSkipFiles.any fun sf => hasPrefix ((archive (e1 :: w :: ws) tail).drop 30) sf)
      then some false else
      some (hasPrefix ((archive (w :: ws) tail).drop 30) sig || zipLoop sig 4 ((archive (w :: ws) tail).drop 30)) := by
  obtain ⟨hfirst, hnowrap⟩ := hhop
  have hl := image_length_wf h1
  have hlen : e1.image.length + 30 ≤ (archive (e1 :: w :: ws) tail).length := by
    have := archive_length_30 w ws tail hw
    rw [archive_cons, List.length_append]; omega
  have hcs : u32le (archive (e1 :: w :: ws) tail) 18 = e1.csizeField := by
    rw [archive_cons]; exact u32le_image e1 _ h1.1
  rw [zipWalk_eq _ sig mso (by omega), hcs, Nat.mod_eq_of_lt hnowrap,
    indexOf_next_entry e1 w ws tail _ hc (by omega) (by omega)]
  simp only [show 30 + (e1.csizeField + 49) + (e1.image.length - (e1.csizeField + 49)) = e1.image.length + 30 by omega,
    decide_eq_true hlen, Bool.true_and, archive_drop_next]

/-- what follows an entry in front of the marker entry starts with a well-formed entry (the step
    lemmas need its complete header) -/
theorem next_entry (mid : List Entry) (em : Entry) (rest : List Entry) (hwf : ∀ e ∈ mid ++ [em], e.WF) :
    ∃ w ws, mid ++ em :: rest = w :: ws ∧ w.WF := by
  cases mid with
  | nil => exact ⟨em, rest, rfl, hwf em (by simp)⟩
  | cons m t => exact ⟨m, t ++ em :: rest, rfl, hwf m (by simp)⟩

/-- the walk through the middle entries: from the cursor at the first of `mid ++ em :: rest`
    (clean, realistic entries, then the marker entry), the marker is found there or within
    `mid.length` iterations — at the name of `em`, or at an earlier one that happens to show it -/
theorem zipLoop_finds (sig tail : Bytes) (em : Entry) (rest : List Entry)
    (hmark : hasPrefix em.name sig = true) :
    ∀ (mid : List Entry) (fuel : Nat), mid.length ≤ fuel → (∀ e ∈ mid ++ [em], e.WF) →
      (∀ e ∈ mid, e.Clean) → (∀ e ∈ mid, e.Realistic) →
      (hasPrefix ((archive (mid ++ em :: rest) tail).drop 30) sig ||
        zipLoop sig fuel ((archive (mid ++ em :: rest) tail).drop 30)) = true := by
  intro mid
  induction mid with
  | nil =>
    intro fuel _ hwf _ _
    rw [List.nil_append, archive_drop_30 em rest tail (hwf em (by simp)), hasPrefix_append _ hmark, Bool.true_or]
  | cons m t ih =>
    intro fuel hf hwf hclean hreal
    obtain ⟨f, rfl⟩ : ∃ f, fuel = f + 1 := ⟨fuel - 1, by rw [List.length_cons] at hf; omega⟩
    have hwft : ∀ e ∈ t ++ [em], e.WF := fun e he => hwf e (List.mem_cons_of_mem _ he)
    obtain ⟨w, ws, hL, hw⟩ := next_entry t em rest hwft
    rw [List.cons_append, hL, zipLoop_layout sig f m w ws tail (hwf m (by simp)) (hclean m (by simp))
      (hreal m (by simp)) hw, ← hL,
      ih f (by rw [List.length_cons] at hf; omega) hwft (fun e he => hclean e (List.mem_cons_of_mem _ he))
        (fun e he => hreal e (List.mem_cons_of_mem _ he)), Bool.or_true]

/-- core form of `layout_forward`, with the weakest no-wrap condition (it is implied by `hfirst`
    as soon as the first entry — a fortiori the archive — is shorter than 4 GiB) -/
theorem layout_forward_core (e1 : Entry) (mid : List Entry) (em : Entry) (rest : List Entry)
    (tail sig : Bytes) (mso : Bool)
    (hwf : ∀ e ∈ e1 :: mid ++ [em], e.WF)
    (hclean : ∀ e ∈ e1 :: mid, e.Clean)
    (hreal : ∀ e ∈ mid, e.Realistic)
    (hmid : mid.length ≤ 4)
    (hhop : FirstHop e1)
    (hmso : mso = true → msoSkipFiles.any (fun sf => hasPrefix e1.name sf) = true)
    (hmark : hasPrefix em.name sig = true) :
    zipContains (archive (e1 :: mid ++ em :: rest) tail) sig mso = some true := by
  have hwf1 : e1.WF := hwf e1 (by simp)
  have hwfm : ∀ e ∈ mid ++ [em], e.WF := fun e he => hwf e (List.mem_cons_of_mem _ he)
  obtain ⟨w, ws, hL, hw⟩ := next_entry mid em rest hwfm
  rw [List.cons_append, zipContains_of_header _ sig mso (archive_length_30 e1 _ tail hwf1)
    (archive_hasPrefix_pk34 e1 _ tail), hL,
    zipWalk_layout sig mso e1 w ws tail hwf1 (hclean e1 (by simp)) hw hhop, ← hL]
  split
  · rfl
  · have hm : (mso && !(msoSkipFiles.any fun sf => hasPrefix ((archive (e1 :: (mid ++ em :: rest)) tail).drop 30) sf)) = false := by
      cases mso with
      | false => rfl
      | true =>
        obtain ⟨sf, hsf, hp⟩ := List.any_eq_true.mp (hmso rfl)
        rw [archive_drop_30 e1 _ tail hwf1, List.any_eq_true.mpr ⟨sf, hsf, hasPrefix_append _ hp⟩]; rfl
    rw [hm, zipLoop_finds sig tail em rest hmark mid 4 hmid hwfm (fun e he => hclean e (List.mem_cons_of_mem _ he)) hreal]
    rfl

theorem layout_forward (e1 : Entry) (mid : List Entry) (em : Entry) (rest : List Entry)
    (tail sig : Bytes) (mso : Bool)
    (hwf : ∀ e ∈ e1 :: mid ++ [em], e.WF)
    (hclean : ∀ e ∈ e1 :: mid, e.Clean)                       -- entries before the marker entry
    (hreal : ∀ e ∈ mid, e.Realistic)                          -- entries 2..j-1
    (hmid : mid.length ≤ 4)                                   -- the marker entry is among entries 2..6
    (hfirst : e1.csizeField + 49 ≤
      30 + e1.name.length + e1.extra.length + e1.data.length + e1.desc.length)
                                                              -- the first hop lands inside entry 1
    (hsmall : (archive (e1 :: mid ++ em :: rest) tail).length < 4294967296)
    (hmso : mso = true → msoSkipFiles.any (fun sf => hasPrefix e1.name sf) = true)
    (hmark : hasPrefix em.name sig = true) :
    zipContains (archive (e1 :: mid ++ em :: rest) tail) sig mso = some true := by
  refine layout_forward_core e1 mid em rest tail sig mso hwf hclean hreal hmid ⟨hfirst, ?_⟩ hmso hmark
  have h1 := archive_length_ge e1 (mid ++ em :: rest) tail
  have h2 := image_length_wf (hwf e1 (by simp))
  rw [List.cons_append] at hsmall
  omega

theorem contentTypes_eq : ofString "[Content_Types].xml" = exContentTypes := by
  rw [ofString_ofList]; decide +kernel

/-- `[Content_Types].xml` is one of the first names the `msoCheck` of zip.go lets pass -/
theorem ct_skip : msoSkipFiles.any (fun sf => hasPrefix (ofString "[Content_Types].xml") sf) = true := by
  unfold msoSkipFiles
  repeat rw [ofString_ofList]
  decide +kernel

/-- the two ways a writer fills the first local header: the size field is the stored size (and
    the archive is below 4 GiB) or it is 0 (streamed, sizes in a data descriptor).  With a first
    name of at least 19 bytes the first hop, `compressedSize + 49`, then lands inside entry 1. -/
theorem first_hop (e1 : Entry) (es : List Entry) (tail : Bytes) (hwf1 : e1.WF) (hlen : 19 ≤ e1.name.length)
    (hcsize : e1.csizeField = e1.data.length ∨ e1.csizeField = 0)
    (hsmall : e1.csizeField ≠ 0 → (archive (e1 :: es) tail).length < 4294967296) : FirstHop e1 := by
  unfold FirstHop
  have h1 := archive_length_ge e1 es tail
  have h2 := image_length_wf hwf1
  rcases hcsize with h | h
  · by_cases h0 : e1.csizeField = 0
    · omega
    · have := hsmall h0; omega
  · omega

/-- a local header's fixed part for a stored entry of `size` (< 256) bytes, name length `nlen` -/
def exFixed (size nlen : Nat) : Bytes :=
  [20, 0, 0, 0, 0, 0, 0, 0, 0x21, 0x5A] ++ [0xDE, 0xAD, 0xBE, 0xEF] ++ [size, 0, 0, 0] ++ [size, 0, 0, 0] ++
    [nlen, 0] ++ [0, 0]

def exDocProps : Bytes := [100, 111, 99, 80, 114, 111, 112, 115, 47, 97, 112, 112, 46, 120, 109, 108]

def ex1 : Entry := ⟨exFixed 5 19, exContentTypes, [], List.replicate 5 120, []⟩
def ex2 : Entry := ⟨exFixed 20 11, exRels, [], List.replicate 20 120, []⟩
def ex3 : Entry := ⟨exFixed 12 16, exDocProps, [], List.replicate 12 120, []⟩
def ex4 : Entry := ⟨exFixed 10 17, exWordDoc, [], List.replicate 10 120, []⟩
/-- stand-in for the central directory -/
def exTail : Bytes := [0x50, 0x4B, 1, 2] ++ List.replicate 42 0 ++ [0x50, 0x4B, 5, 6] ++ List.replicate 18 0

/-- all hypotheses of `layout_forward` hold for `[Content_Types].xml, _rels/.rels,
    docProps/app.xml, word/document.xml` with marker `word/` and the mso check on -/
example : zipContains (archive (ex1 :: [ex2, ex3] ++ ex4 :: []) exTail) exWord true = some true :=
  layout_forward ex1 [ex2, ex3] ex4 [] exTail exWord true
    (by decide +kernel) (by decide +kernel) (by decide +kernel) (by decide) (by decide +kernel)
    (by decide +kernel) (by decide +kernel) (by decide +kernel)

/-- the same verdict by direct evaluation of the model (independent of the theorem) -/
example : zipContains (archive [ex1, ex2, ex3, ex4] exTail) exWord true = some true := by decide +kernel

/-- the hypotheses are not redundant on this example: with the realistic-length qualifier
    violated (10-byte second entry) the walk overshoots and the verdict is negative -/
example : zipContains (archive [ex1, ⟨exFixed 0 10, List.replicate 10 97, [], [], []⟩, ex4] exTail) exWord true
    = some false := by decide +kernel

end Mime.ZipLayout
