import MimeModel.Model.Idx
import MimeModel.Lemmas.Bytes
import MimeModel.Lemmas.Lines
/-
  C01 for the hand-coded byte scanners: the index-level transliterations of `Model/Idx.lean` never
  panic, never run out of the stated fuel, and compute the list models (`fIdx x = .ok (f x)`; `.ok`
  excludes both `.panic` and `.fuel`).  A `range` loop with fuel `len + 1` is the structural recursion
  `foldRange` (`forRange_eq`).  Hypotheses appear only where Go's fixed widths matter: `AllBytes` for
  `textChars[b]` and `int8(c)`, `readLimit = 0 ∨ len < 2^32` for `uint32(len(b))`, `len ≤ 21` and
  `len < 2^55` against `int64` overflow in `tarParseOctal` and `tarChksum`.
-/
namespace Mime.IdxLemmas
open Mime Mime.Idx Mime.Charset Mime.Cust Mime.Gen.Charset
open Mime.LinesLemmas

@[simp] theorem ok_bind {α β : Type} (v : α) (f : α → Out β) : (Out.ok v >>= f) = f v := rfl
@[simp] theorem pure_eq {α : Type} (v : α) : (pure v : Out α) = Out.ok v := rfl

theorem length_beq_zero {α : Type} (l : List α) : (l.length == 0) = l.isEmpty := by cases l <;> rfl

theorem length_bne_zero {α : Type} (l : List α) : (l.length != 0) = !l.isEmpty := by cases l <;> rfl

theorem elemAt_lt {α : Type} {l : List α} {i : Nat} (h : i < l.length) : elemAt l i = .ok l[i] := by
  simp [elemAt, h]

theorem elemAt_of_drop {α : Type} {l : List α} {i : Nat} {c : α} {r : List α} (h : l.drop i = c :: r) :
    elemAt l i = .ok c := by
  have : l[i]? = some c := by rw [← List.head?_drop, h]; rfl
  simp [elemAt, this]

theorem elemAt_zero_cons {α : Type} (c : α) (r : List α) : elemAt (c :: r) 0 = .ok c := rfl

theorem sliceFrom_le {b : Bytes} {n : Nat} (h : n ≤ b.length) : sliceFrom b n = .ok (b.drop n) := by
  simp [sliceFrom, h]

theorem sliceTo_le {b : Bytes} {n : Nat} (h : n ≤ b.length) : sliceTo b n = .ok (b.take n) := by
  simp [sliceTo, h]

theorem slice_le {b : Bytes} {lo hi : Nat} (h1 : lo ≤ hi) (h2 : hi ≤ b.length) :
    Idx.slice b lo hi = .ok ((b.take hi).drop lo) := by
  simp [Idx.slice, h1, h2]

theorem elemAtI_ofNat {α : Type} (l : List α) (i : Nat) : elemAtI l (i : Int) = elemAt l i := by
  simp [elemAtI]; omega

theorem sliceFromI_ofNat (b : Bytes) (n : Nat) : sliceFromI b (n : Int) = sliceFrom b n := by
  simp [sliceFromI]; omega

theorem sliceToI_ofNat (b : Bytes) (n : Nat) : sliceToI b (n : Int) = sliceTo b n := by
  simp [sliceToI]; omega

theorem textChars_length : textChars.length = 256 := by decide +kernel

theorem elemAt_getD {l : List Nat} {i : Nat} (h : i < l.length) : elemAt l i = .ok (l.getD i 0) := by
  simp [elemAt, h, List.getD_eq_getElem?_getD]

theorem textCharsAt_lt {b : Nat} (h : b < 256) : textCharsAt b = .ok (textClass b) :=
  elemAt_getD (by rw [textChars_length]; exact h)

/-- the `range` loop by structural recursion on what is left of the slice -/
def foldRange {α ρ σ : Type} (body : Nat → α → σ → Out (Step ρ σ)) : List α → Nat → σ → Out (Step ρ σ)
  | [], _, s => .ok (.next s)
  | c :: cs, i, s =>
    match body i c s with
    | .ok (.next s') => foldRange body cs (i + 1) s'
    | .ok (.ret r) => .ok (.ret r)
    | .panic => .panic
    | .fuel => .fuel

theorem forRange_eq {α ρ σ : Type} (l : List α) (body : Nat → α → σ → Out (Step ρ σ)) :
    ∀ (fuel i : Nat) (s : σ), i ≤ l.length → l.length + 1 ≤ fuel + i →
      forRange l body fuel i s = foldRange body (l.drop i) i s := by
  intro fuel
  induction fuel with
  | zero => intro i s h1 h2; omega
  | succ fuel ih =>
    intro i s h1 h2
    unfold forRange
    by_cases hi : i < l.length
    · rw [if_pos hi, elemAt_lt hi, List.drop_eq_getElem_cons hi]
      simp only [foldRange]
      cases hb : body i l[i] s with
      | ok st =>
        cases st with
        | ret r => rfl
        | next s' => simp only []; exact ih (i + 1) s' (by omega) (by omega)
      | panic => rfl
      | fuel => rfl
    · rw [if_neg hi]
      have : l.drop i = [] := List.drop_eq_nil_of_le (by omega)
      rw [this]; rfl

theorem forRange_start {α ρ σ : Type} (l : List α) (body : Nat → α → σ → Out (Step ρ σ)) (s : σ) :
    forRange l body (l.length + 1) 0 s = foldRange body l 0 s := by
  rw [forRange_eq l body _ 0 s (by omega) (by omega)]; rfl

/-! ### charset.go: FromBOM, ascii, latin -/

def bomVal : Step Bytes Unit → Bytes
  | .ret enc => enc
  | .next _ => []

theorem fromBOM_fold (content : Bytes) : ∀ (tbl : List (Bytes × Bytes)) (i : Nat),
    ∃ st, foldRange (fun _ (b : Bytes × Bytes) (_ : Unit) =>
        if hasPrefix content b.1 then (.ok (.ret b.2) : Out (Step Bytes Unit)) else .ok (.next ())) tbl i () = .ok st
      ∧ bomVal st = fromBOMIn tbl content := by
  intro tbl
  induction tbl with
  | nil => intro i; exact ⟨_, rfl, rfl⟩
  | cons b rest ih =>
    intro i
    obtain ⟨bom, enc⟩ := b
    simp only [foldRange, fromBOMIn]
    by_cases h : hasPrefix content bom = true
    · simp only [h, if_true]; exact ⟨_, rfl, rfl⟩
    · simp only [h]; exact ih (i + 1)

theorem fromBOMIdx_refines (content : Bytes) : fromBOMIdx content = .ok (fromBOM content) := by
  unfold fromBOMIdx fromBOM
  rw [forRange_start]
  obtain ⟨st, h1, h2⟩ := fromBOM_fold content boms 0
  rw [h1, ← h2]
  cases st <;> rfl

theorem ascii_fold : ∀ (cs : Bytes) (i : Nat),
    foldRange (fun _ b (_ : Unit) =>
      if b ≥ 0x80 then (.ok (.ret false) : Out (Step Bool Unit)) else do
        let t ← textCharsAt b
        if t != cT then .ok (.ret false) else .ok (.next ())) cs i ()
    = .ok (if ascii cs then .next () else .ret false) := by
  intro cs
  induction cs with
  | nil => intro i; rfl
  | cons b rest ih =>
    intro i
    simp only [foldRange]
    by_cases hb : b ≥ 0x80
    · simp [hb, ascii]
    · rw [if_neg hb, textCharsAt_lt (by omega)]
      simp only [ok_bind]
      by_cases ht : textClass b = cT
      · simp only [ht, bne_self_eq_false, Bool.false_eq_true, if_false]
        rw [ih (i + 1)]
        simp [ascii, hb, ht]
      · have : (textClass b != cT) = true := by simpa using ht
        simp [this, ascii, ht]

theorem asciiIdx_refines (content : Bytes) : asciiIdx content = .ok (ascii content) := by
  unfold asciiIdx
  rw [forRange_start, ascii_fold]
  cases ascii content <;> rfl

theorem allBytes_tail {b : Nat} {cs : Bytes} (h : AllBytes (b :: cs)) : AllBytes cs :=
  fun x hx => h x (List.mem_cons_of_mem _ hx)

theorem allBytes_head {b : Nat} {cs : Bytes} (h : AllBytes (b :: cs)) : b < 256 :=
  h b (List.mem_cons_self ..)

theorem bne_and_bne (x a b : Nat) : (x != a && x != b) = !(x == a || x == b) := by
  simp [bne, Bool.not_or]

theorem latin_fold : ∀ (cs : Bytes) (i : Nat) (st : Bool), AllBytes cs →
    foldRange (fun _ b (hasControlBytes : Bool) => do
      let t ← textCharsAt b
      if t != cT && t != cI then (.ok (.ret csNone) : Out (Step Bytes Bool))
      else if b ≥ 0x80 && b ≤ 0x9F then .ok (.next true)
      else .ok (.next hasControlBytes)) cs i st
    = .ok (if cs.all (fun b => textClass b == cT || textClass b == cI)
        then .next (st || cs.any (fun b => 0x80 ≤ b && b ≤ 0x9F)) else .ret csNone) := by
  intro cs
  induction cs with
  | nil => intro i st _; simp [foldRange]
  | cons b rest ih =>
    intro i st h
    simp only [foldRange]
    rw [textCharsAt_lt (allBytes_head h)]
    simp only [ok_bind]
    by_cases ht : (textClass b == cT || textClass b == cI) = true
    · have ht' : (textClass b != cT && textClass b != cI) = false := by
        rw [bne_and_bne, ht]; rfl
      simp only [ht', Bool.false_eq_true, if_false, List.all_cons, ht, Bool.true_and, List.any_cons]
      by_cases hc : (decide (b ≥ 0x80) && decide (b ≤ 0x9F)) = true
      · simp only [hc, if_true]
        rw [ih (i + 1) true (allBytes_tail h)]
        simp
      · have hc' := Bool.eq_false_iff.mpr hc
        simp only [hc', Bool.false_eq_true, if_false]
        rw [ih (i + 1) st (allBytes_tail h)]
        simp
    · have ht' : (textClass b != cT && textClass b != cI) = true := by
        rw [bne_and_bne]; simpa using ht
      simp [ht', ht]

theorem latinIdx_refines (content : Bytes) (h : AllBytes content) : latinIdx content = .ok (latin content) := by
  unfold latinIdx latin
  rw [forRange_start, latin_fold content 0 false h]
  simp only [ok_bind, Bool.false_or]
  generalize (content.all fun b => textClass b == cT || textClass b == cI) = a
  generalize (content.any fun b => decide (0x80 ≤ b) && decide (b ≤ 0x9F)) = c
  cases a <;> cases c <;> rfl

/-! ### charset.go: FromPlain -/

theorem elemAtI_append {α : Type} (pre : List α) (c : α) (suf : List α) {i : Int} (h : i = pre.length) :
    elemAtI (pre ++ c :: suf) i = .ok c := by
  subst h
  rw [elemAtI_ofNat]
  exact elemAt_of_drop (r := suf) (by simp)

theorem sliceFromI_append (pre suf : Bytes) {i : Int} (h : i = pre.length) :
    sliceFromI (pre ++ suf) i = .ok suf := by
  subst h
  rw [sliceFromI_ofNat, sliceFrom_le (by simp)]
  simp

theorem sliceToI_append (pre suf : Bytes) {i : Int} (h : i = pre.length) :
    sliceToI (pre ++ suf) i = .ok pre := by
  subst h
  rw [sliceToI_ofNat, sliceTo_le (by simp)]
  simp

theorem stripLoop_exit (fuel : Nat) {content : Bytes} {i : Int}
    (h : ¬ (i ≥ 0 ∧ i > (content.length : Int) - 4)) : stripLoop (fuel + 1) content i = .ok content := by
  unfold stripLoop
  rw [if_neg h]; rfl

theorem stripLoop_step (fuel : Nat) (pre : Bytes) (b : Nat) (suf : Bytes) (hs : suf.length ≤ 2) :
    stripLoop (fuel + 1) (pre ++ b :: suf) (pre.length : Int) =
      if b < 0x80 then .ok (pre ++ b :: suf)
      else if runeStart b then .ok (if fullRune (b :: suf) then pre ++ b :: suf else pre)
      else stripLoop fuel (pre ++ b :: suf) ((pre.length : Int) - 1) := by
  rw [stripLoop, if_pos (by rw [List.length_append, List.length_cons]; omega),
    elemAtI_append pre b suf rfl, ok_bind]
  refine ite_congr rfl (fun _ => rfl) (fun _ => ite_congr rfl (fun _ => ?_) (fun _ => rfl))
  rw [sliceFromI_append pre (b :: suf) rfl, ok_bind]
  cases fullRune (b :: suf)
  · exact sliceToI_append pre (b :: suf) rfl
  · rfl

/-- `stripPartial` as a loop: `rc` is what is left of the reversed content, `suf` the bytes
    already passed, `n` the number of bytes still to be looked at -/
def stripFrom (content : Bytes) : Nat → Bytes → Bytes → Bytes
  | 0, _, _ => content
  | _ + 1, [], _ => content
  | n + 1, b :: r, suf =>
    if b < 0x80 then content
    else if runeStart b then (if fullRune (b :: suf) then content else r.reverse)
    else stripFrom content n r (b :: suf)

theorem stripPartial_eq (content : Bytes) : stripPartial content = stripFrom content 3 content.reverse [] := by
  unfold stripPartial
  generalize content.reverse = rc
  cases rc with
  | nil => rfl
  | cons b1 r1 =>
    cases r1 with
    | nil => rfl
    | cons b2 r2 => cases r2 <;> rfl

/-- the loop after `3 - n` bytes (`suf`) have been passed: `n + 1` units of fuel are enough -/
theorem stripLoop_from : ∀ (n fuel : Nat) (rc suf : Bytes), n < fuel → suf.length + n = 3 →
    stripLoop fuel (rc.reverse ++ suf) ((rc.length : Int) - 1) = .ok (stripFrom (rc.reverse ++ suf) n rc suf) := by
  intro n
  induction n with
  | zero =>
    intro fuel rc suf hf hs
    obtain ⟨k, rfl⟩ : ∃ k, fuel = k + 1 := ⟨fuel - 1, by omega⟩
    exact stripLoop_exit k (by rw [List.length_append, List.length_reverse]; omega)
  | succ n ih =>
    intro fuel rc suf hf hs
    obtain ⟨k, rfl⟩ : ∃ k, fuel = k + 1 := ⟨fuel - 1, by omega⟩
    cases rc with
    | nil => exact stripLoop_exit k (by rw [List.length_nil]; omega)
    | cons b r =>
      have hi : ((b :: r).length : Int) - 1 = (r.reverse.length : Int) := by
        rw [List.length_cons, List.length_reverse]; omega
      rw [List.reverse_cons, List.append_assoc, List.singleton_append, hi,
        stripLoop_step k r.reverse b suf (by omega), List.length_reverse,
        ih k r (b :: suf) (by omega) (by rw [List.length_cons]; omega), stripFrom]
      split
      · rfl
      · split <;> rfl

/-- four units of fuel are enough for the loop (three bytes are looked at, at most) -/
theorem stripLoop_fuel (fuel : Nat) (hf : 4 ≤ fuel) (content : Bytes) :
    stripLoop fuel content ((content.length : Int) - 1) = .ok (stripPartial content) := by
  have := stripLoop_from 3 fuel content.reverse [] (by omega) rfl
  rw [List.reverse_reverse, List.append_nil, List.length_reverse] at this
  rw [this, stripPartial_eq]

theorem highBit_fold : ∀ (cs : Bytes) (i : Nat) (st : Bool),
    foldRange (fun _ c (hasHighBit : Bool) =>
      if c ≥ 0x80 then (.ok (.ret true) : Out (Step Bool Bool)) else .ok (.next hasHighBit)) cs i st
    = .ok (if cs.any (fun b => b ≥ 0x80) then .ret true else .next st) := by
  intro cs
  induction cs with
  | nil => intro i st; rfl
  | cons b rest ih =>
    intro i st
    simp only [foldRange]
    by_cases hb : b ≥ 0x80
    · simp [hb]
    · rw [if_neg hb]
      simp only []
      rw [ih (i + 1) st]
      simp [hb]

/-! ### text.go: Text -/

theorem text_fold : ∀ (cs : Bytes) (i : Nat),
    foldRange (fun _ b (_ : Unit) =>
      if b ≤ 0x08 || b == 0x0B || (0x0E ≤ b && b ≤ 0x1A) || (0x1C ≤ b && b ≤ 0x1F)
      then (.ok (.ret false) : Out (Step Bool Unit)) else .ok (.next ())) cs i ()
    = .ok (if cs.any binaryByte then .ret false else .next ()) := by
  intro cs
  induction cs with
  | nil => intro i; rfl
  | cons b rest ih =>
    intro i
    simp only [foldRange, List.any_cons]
    by_cases hb : binaryByte b = true
    · have hb' := hb
      unfold binaryByte at hb'
      rw [if_pos hb']
      simp [hb]
    · have hb' := hb
      unfold binaryByte at hb'
      rw [if_neg hb']
      simp only []
      rw [ih (i + 1)]
      simp [hb]

/-! ### charset.go: fromMetaElement, xmlEncoding, trimLWS -/

theorem indexByte_lt (c : Nat) : ∀ (s : Bytes) (k : Nat), indexByte c s = some k → k < s.length := by
  intro s
  induction s with
  | nil => intro k h; cases h
  | cons a as ih =>
    intro k h
    simp only [indexByte] at h
    split at h
    · cases h; simp
    · cases hi : indexByte c as with
      | none => simp [hi] at h
      | some j =>
        simp only [hi, Option.map_some, Option.some.injEq] at h
        subst h
        have := ih j hi
        simp; omega

theorem indexWhere_le (p : Nat → Bool) : ∀ (s : Bytes), (indexWhere p s).getD s.length ≤ s.length := by
  intro s
  induction s with
  | nil => simp [indexWhere]
  | cons a as ih =>
    simp only [indexWhere]
    split
    · simp
    · cases hi : indexWhere p as with
      | none => simp
      | some j => simp [hi] at ih ⊢; omega

theorem take_indexWhere (p : Nat → Bool) : ∀ (s : Bytes),
    s.take ((indexWhere p s).getD s.length) = takeUntil p s := by
  intro s
  induction s with
  | nil => simp [indexWhere, takeUntil]
  | cons a as ih =>
    simp only [indexWhere, takeUntil]
    split
    · simp
    · cases hi : indexWhere p as with
      | none => simp [hi] at ih ⊢; exact ih
      | some j => simp [hi] at ih ⊢; exact ih

theorem fromMetaElementF_nil (fuel : Nat) : fromMetaElementF fuel [] = [] := by
  cases fuel <;> rfl

theorem kwCharset_length : kwCharset.length = 7 := rfl

theorem fromMetaElementIdx_fuel : ∀ (fuel : Nat) (s : Bytes), s.length + 1 ≤ fuel →
    fromMetaElementIdx fuel s = .ok (fromMetaElementF fuel s) := by
  intro fuel
  induction fuel with
  | zero => intro s h; omega
  | succ fuel ih =>
    intro s h
    unfold fromMetaElementIdx fromMetaElementF
    cases s with
    | nil => rfl
    | cons a as =>
      simp only [length_beq_zero, List.isEmpty_cons, Bool.false_eq_true, if_false]
      cases hix : indexOf kwCharset (a :: as) with
      | none => rfl
      | some loc =>
        have hb := indexOf_bound kwCharset _ _ hix
        rw [kwCharset_length] at hb ⊢
        simp only []
        rw [sliceFrom_le hb]
        simp only [ok_bind]
        have hlen : (((a :: as).drop (loc + 7)).dropWhile isMetaWS).length + 7 ≤ (a :: as).length := by
          have := (List.dropWhile_sublist isMetaWS (l := (a :: as).drop (loc + 7))).length_le
          simp only [List.length_drop] at this
          omega
        generalize ((a :: as).drop (loc + 7)).dropWhile isMetaWS = s1 at hlen
        cases s1 with
        | nil =>
          have : (!hasPrefix [] [0x3D]) = true := rfl
          simp only [this, if_true]
          rw [ih [] (by simp at h ⊢; omega), fromMetaElementF_nil]
        | cons c rest =>
          by_cases hc : c = 0x3D
          · subst hc
            have h1 : (!hasPrefix (0x3D :: rest) [0x3D]) = false := by simp [hasPrefix]
            have h2 : ((0x3D : Nat) != 0x3D) = false := rfl
            simp only [h1, h2, Bool.false_eq_true, if_false]
            rw [sliceFrom_le (by simp)]
            simp only [ok_bind, List.drop_one, List.tail_cons]
            generalize rest.dropWhile isMetaWS = s2
            cases s2 with
            | nil => rfl
            | cons q s3 =>
              simp only [length_beq_zero, List.isEmpty_cons, Bool.false_eq_true, if_false, elemAt_zero_cons, ok_bind]
              split
              · rw [sliceFrom_le (by simp)]
                simp only [ok_bind, List.drop_one, List.tail_cons]
                cases hq : indexByte q s3 with
                | none => rfl
                | some k =>
                  simp only []
                  rw [sliceTo_le (Nat.le_of_lt (indexByte_lt q s3 k hq))]
              · rw [sliceTo_le (indexWhere_le _ _), take_indexWhere]
          · have h1 : (!hasPrefix (c :: rest) [0x3D]) = true := by
              simp [hasPrefix, List.isPrefixOf]; omega
            have h2 : (c != 0x3D) = true := by simpa using hc
            simp only [h1, h2, if_true]
            exact ih _ (by simp at h hlen ⊢; omega)

theorem kwEncodingEq_length : kwEncodingEq.length = 9 := rfl

theorem trimLWSLoop_spec (inp : Bytes) : ∀ (fuel i : Nat), i ≤ inp.length → inp.length + 1 ≤ fuel + i →
    ∃ j, trimLWSLoop inp fuel i = .ok j ∧ j ≤ inp.length ∧ inp.drop j = trimLWS (inp.drop i) := by
  intro fuel
  induction fuel with
  | zero => intro i h1 h2; omega
  | succ fuel ih =>
    intro i h1 h2
    unfold trimLWSLoop
    by_cases hi : i < inp.length
    · rw [if_pos hi, elemAt_lt hi, List.drop_eq_getElem_cons hi]
      simp only [ok_bind, trimLWS]
      by_cases hw : isWS inp[i] = true
      · simp only [hw, if_true]
        exact ih (i + 1) (by omega) (by omega)
      · simp only [hw, Bool.false_eq_true, if_false]
        exact ⟨i, rfl, h1, List.drop_eq_getElem_cons hi⟩
    · rw [if_neg hi]
      refine ⟨i, rfl, h1, ?_⟩
      rw [List.drop_eq_nil_of_le (by omega)]; rfl

/-! ### text_csv.go: dropLastLine; text.go: dropCR, scanLine, NdJSON -/

/-- what `dropLastLine` returns given the last line feed after index 0 -/
def dllVal (b : Bytes) : Option Nat → Bytes
  | some j => b.take (j + 1)
  | none => b

theorem dropLastLineLoop_spec (a : Nat) (t : Bytes) : ∀ (i fuel : Nat), i ≤ t.length → i + 1 ≤ fuel →
    dropLastLineLoop (a :: t) fuel (i : Int) = .ok (dllVal (a :: t) (lastIdx 0x0A (t.take i))) := by
  intro i
  induction i with
  | zero =>
    intro fuel _ h2
    obtain ⟨f, rfl⟩ : ∃ f, fuel = f + 1 := ⟨fuel - 1, by omega⟩
    unfold dropLastLineLoop
    rw [if_neg (by simp)]
    rfl
  | succ i ih =>
    intro fuel h1 h2
    obtain ⟨f, rfl⟩ : ∃ f, fuel = f + 1 := ⟨fuel - 1, by omega⟩
    have hi : i < t.length := h1
    unfold dropLastLineLoop
    rw [if_pos (by omega), elemAtI_ofNat, elemAt_lt (by simp; omega)]
    simp only [ok_bind, List.getElem_cons_succ]
    rw [List.take_succ_eq_append_getElem hi, lastIdx_concat, List.length_take_of_le (Nat.le_of_lt hi)]
    by_cases hc : (t[i] == 0x0A) = true
    · simp only [hc, if_true, dllVal]
      rw [sliceToI_ofNat, sliceTo_le (by simp; omega)]
    · simp only [hc, Bool.false_eq_true, if_false]
      rw [show ((i + 1 : Nat) : Int) - 1 = (i : Int) by omega]
      exact ih f (by omega) (by omega)

/-- `readLimit` is a `uint32` and `Detect` hands the signature checks at most `readLimit` bytes
    when it is not 0, so the hypothesis always holds inside the library
    (`C01.dropLastLine_no_panic`); see `dropLastLine_uint32_witness` for what happens without it. -/
theorem dropLastLineIdx_refines (b : Bytes) (lim : Nat) (hlen : lim = 0 ∨ b.length < 4294967296) :
    dropLastLineIdx b lim = .ok (dropLastLine b lim) := by
  unfold dropLastLineIdx dropLastLine
  rcases hlen with rfl | hlen
  · rfl
  rw [Nat.mod_eq_of_lt hlen]
  split
  · rfl
  · cases b with
    | nil => rfl
    | cons a t =>
      have : ((a :: t).length : Int) - 1 = (t.length : Int) := by simp
      rw [this, dropLastLineLoop_spec a t t.length _ (Nat.le_refl _) (by simp), List.take_length]
      cases hl : lastIdx 0x0A t <;> simp only [hl, dllVal]

theorem header_small (x : Bytes) (lim : Nat) (hl : lim < 4294967296) :
    lim = 0 ∨ (header x lim).length < 4294967296 := by
  by_cases h : lim = 0
  · exact Or.inl h
  · exact Or.inr (Nat.lt_of_le_of_lt (header_length_le x lim h) hl)

theorem sliceI_append (pre suf : Bytes) {i : Int} (h : i = pre.length) :
    sliceI (pre ++ suf) 0 i = .ok pre := by
  subst h
  unfold sliceI
  rw [if_neg (by omega)]
  simp only [Int.toNat_zero, Int.toNat_natCast]
  rw [slice_le (by omega) (by simp)]
  simp

theorem dropCRIdx_refines (data : Bytes) : dropCRIdx data = .ok (dropCR data) := by
  obtain ⟨rc, rfl⟩ : ∃ rc, data = rc.reverse := ⟨data.reverse, by simp⟩
  unfold dropCRIdx dropCR
  cases rc with
  | nil => rfl
  | cons c r =>
    simp only [List.reverse_cons]
    rw [if_pos (by simp), elemAtI_append r.reverse c [] (by simp)]
    simp only [ok_bind, List.getLast?_append, List.getLast?_singleton, Option.some_or,
      List.dropLast_concat]
    by_cases hc : (c == 0x0D) = true
    · have : c = 0x0D := by simpa using hc
      subst this
      simp only [beq_self_eq_true, if_true]
      exact sliceI_append r.reverse [0x0D] (by simp)
    · have h2 : (some c == some 0x0D) = false := by simpa using hc
      simp only [hc, h2, Bool.false_eq_true, if_false]
      rfl

theorem scanLineIdx_refines (b : Bytes) : scanLineIdx b = .ok (scanLine b) := by
  unfold scanLineIdx scanLine
  cases cutNL b with
  | mk l r => simp only [dropCRIdx_refines, ok_bind, pure_eq]

theorem ndjsonLoopIdx_fuel : ∀ (fuel : Nat) (raw : Bytes) (lc oa : Nat), raw.length + 1 ≤ fuel →
    ndjsonLoopIdx fuel raw lc oa = .ok (match ndjsonLoop fuel raw lc oa with
      | none => false
      | some (lc, oa) => decide (lc > 1) && decide (oa > 0)) := by
  intro fuel
  induction fuel with
  | zero => intro raw lc oa h; omega
  | succ fuel ih =>
    intro raw lc oa h
    unfold ndjsonLoopIdx ndjsonLoop
    cases raw with
    | nil => rfl
    | cons a as =>
      simp only [length_bne_zero, List.isEmpty_cons, Bool.not_false, if_true, Bool.false_eq_true, if_false]
      rw [scanLineIdx_refines]
      simp only [ok_bind]
      have hlen : (scanLine (a :: as)).2.length ≤ as.length := cutNL_snd_length as a
      generalize scanLine (a :: as) = p at hlen
      obtain ⟨l, rest⟩ := p
      simp only []
      split
      · rfl
      · exact ih rest _ _ (by simp at h hlen ⊢; omega)

theorem ndjsonIdx_refines {raw : Bytes} {lim : Nat} (hlen : lim = 0 ∨ raw.length < 4294967296) :
    ndjsonIdx raw lim = .ok (ndjson raw lim) := by
  unfold ndjsonIdx ndjson
  rw [dropLastLineIdx_refines raw lim hlen]
  simp only [ok_bind]
  rw [ndjsonLoopIdx_fuel _ _ 0 0 (Nat.le_refl _)]
  cases ndjsonLoop ((dropLastLine raw lim).length + 1) (dropLastLine raw lim) 0 0 with
  | none => rfl
  | some p => rfl

/-! ### archive.go: tarParseOctal, tarChksum, Tar -/

theorem i64_id {x : Int} (h1 : -9223372036854775808 ≤ x) (h2 : x < 9223372036854775808) : i64 x = x := by
  unfold i64; omega

/-- the value `tarParseOctal` returns, as the Go `int64` -/
def optInt : Option Nat → Int
  | none => -1
  | some n => (n : Int)

def octFinal : Step (Option Nat) Nat → Int
  | .ret (some r) => i64 r
  | .ret none => -1
  | .next r => i64 r

theorem shl3_or (acc : Nat) {d : Nat} (hd : d < 8) : (acc <<< 3) ||| d = acc * 8 + d := by
  rw [← Nat.shiftLeft_add_eq_or_of_lt (i := 3) (by omega), Nat.shiftLeft_eq]

/-- `n` counts the octal digits read so far; `8 ^ 21 = 2 ^ 63`, so up to 21 digits never wrap the `int64` -/
theorem octal_fold : ∀ (cs : Bytes) (i acc n : Nat), acc < 8 ^ n → n + cs.length ≤ 21 →
    ∃ st, foldRange (fun _ c (ret : Nat) =>
      if c == 0 then (.ok (.ret (some ret)) : Out (Step (Option Nat) Nat))
      else if c < 0x30 || c > 0x37 then .ok (.ret none)
      else .ok (.next (((ret <<< 3) ||| (c - 0x30)) % 18446744073709551616))) cs i acc = .ok st
      ∧ octFinal st = optInt (octalLoop cs acc) := by
  intro cs
  induction cs with
  | nil =>
    intro i acc n h1 h2
    refine ⟨_, rfl, ?_⟩
    have : 8 ^ n ≤ 8 ^ 21 := Nat.pow_le_pow_right (by omega) (by omega)
    simp only [octFinal, octalLoop, optInt]
    exact i64_id (by omega) (by omega)
  | cons c rest ih =>
    intro i acc n h1 h2
    have hp : 8 ^ n ≤ 8 ^ 20 := Nat.pow_le_pow_right (by omega) (by simp at h2; omega)
    simp only [foldRange, octalLoop]
    by_cases hc0 : (c == 0) = true
    · simp only [hc0, if_true]
      refine ⟨_, rfl, ?_⟩
      simp only [octFinal, optInt]
      exact i64_id (by omega) (by omega)
    · simp only [hc0, Bool.false_eq_true, if_false]
      by_cases hc1 : (decide (c < 0x30) || decide (c > 0x37)) = true
      · simp only [hc1, if_true]
        exact ⟨_, rfl, rfl⟩
      · simp only [hc1, Bool.false_eq_true, if_false]
        have hd : c - 0x30 < 8 := by
          simp only [Bool.or_eq_true, decide_eq_true_eq, not_or] at hc1; omega
        have hlt : acc * 8 + (c - 0x30) < 8 ^ (n + 1) := by rw [Nat.pow_succ]; omega
        have hm : (acc * 8 + (c - 0x30)) % 18446744073709551616 = acc * 8 + (c - 0x30) :=
          Nat.mod_eq_of_lt (by rw [Nat.pow_succ] at hlt; omega)
        rw [shl3_or acc hd, hm]
        exact ih (i + 1) _ (n + 1) hlt (by simp at h2 ⊢; omega)

theorem trimTar_length_le (b : Bytes) : (trimTar b).length ≤ b.length := by
  unfold trimTar
  simp only [List.length_reverse]
  have h1 := (List.dropWhile_sublist (fun c => c == 0x20 || c == 0)
    (l := (b.dropWhile (fun c => c == 0x20 || c == 0)).reverse)).length_le
  have h2 := (List.dropWhile_sublist (fun c => c == 0x20 || c == 0) (l := b)).length_le
  simp only [List.length_reverse] at h1
  omega

theorem tarParseOctalIdx_refines {b : Bytes} (h : b.length ≤ 21) :
    tarParseOctalIdx b = .ok (optInt (tarParseOctal b)) := by
  unfold tarParseOctalIdx tarParseOctal
  have hl := trimTar_length_le b
  generalize trimTar b = t at hl
  cases t with
  | nil => rfl
  | cons a as =>
    simp only [length_beq_zero, List.isEmpty_cons, Bool.false_eq_true, if_false]
    rw [forRange_start]
    obtain ⟨st, h1, h2⟩ := octal_fold (a :: as) 0 0 0 (by simp) (by omega)
    rw [h1, ← h2]
    simp only [ok_bind]
    cases st with
    | ret r => cases r <;> rfl
    | next r => rfl

theorem tarByte_lt {i c : Nat} (h : c < 256) : tarByte i c < 256 := by
  unfold tarByte; split <;> omega

theorem int8_bounds {c : Nat} (h : c < 256) : -128 ≤ int8 c ∧ int8 c ≤ 127 := by
  unfold int8; split <;> omega

theorem chksum_fold : ∀ (cs : Bytes) (i : Nat) (u s : Int), AllBytes cs →
    0 ≤ u → u + 255 * (cs.length : Int) < 9223372036854775808 →
    -9223372036854775808 ≤ s - 128 * (cs.length : Int) → s + 127 * (cs.length : Int) < 9223372036854775808 →
    foldRange (fun i c (acc : Int × Int) =>
      (.ok (.next (i64 (acc.1 + (tarByte i c : Nat)), i64 (acc.2 + int8 (tarByte i c)))) :
        Out (Step (Int × Int) (Int × Int)))) cs i (u, s)
    = .ok (.next (u + (tarSumU i cs : Nat), s + tarSumS i cs)) := by
  intro cs
  induction cs with
  | nil => intro i u s _ _ _ _ _; simp [foldRange, tarSumU, tarSumS]
  | cons c rest ih =>
    intro i u s hb h1 h2 h3 h4
    have hc := tarByte_lt (i := i) (allBytes_head hb)
    have h8 := int8_bounds hc
    simp only [List.length_cons, Int.natCast_add, Int.natCast_one] at h2 h3 h4
    simp only [foldRange, tarSumU, tarSumS]
    rw [i64_id (by omega) (by omega), i64_id (by omega) (by omega)]
    rw [ih (i + 1) _ _ (allBytes_tail hb) (by omega) (by omega) (by omega) (by omega)]
    simp only [Int.natCast_add, Int.add_assoc]

theorem tarChksumIdx_refines (b : Bytes) (h : AllBytes b) (hl : b.length < 36028797018963968) :
    tarChksumIdx b = .ok ((tarSumU 0 b : Nat), tarSumS 0 b) := by
  unfold tarChksumIdx
  rw [forRange_start, chksum_fold b 0 0 0 h (by omega) (by omega) (by omega) (by omega)]
  simp [Step.val]

theorem natCast_beq (n m : Nat) : ((n : Int) == (m : Int)) = (n == m) := by
  rw [Bool.eq_iff_iff]; simp only [beq_iff_eq]; omega

theorem allBytes_take {b : Bytes} (n : Nat) (h : AllBytes b) : AllBytes (b.take n) :=
  fun x hx => h x (List.mem_of_mem_take hx)

/-! ### magic.go: trimRWS -/

theorem dropTrailWS_concat (l : Bytes) (x : Nat) :
    dropTrailWS (l ++ [x]) = if isWS x then dropTrailWS l else l ++ [x] := by
  unfold dropTrailWS
  simp only [List.reverse_append, List.reverse_cons, List.reverse_nil, List.nil_append,
    List.singleton_append, List.dropWhile_cons]
  split <;> simp

theorem trimRWSLoop_spec (a : Nat) (t : Bytes) : ∀ (i fuel : Nat), i ≤ t.length → i + 1 ≤ fuel →
    ∃ j : Nat, trimRWSLoop (a :: t) fuel (i : Int) = .ok (j : Int) ∧ j ≤ i ∧
      (a :: t).take (j + 1) = a :: dropTrailWS (t.take i) := by
  intro i
  induction i with
  | zero =>
    intro fuel h1 h2
    obtain ⟨f, rfl⟩ : ∃ f, fuel = f + 1 := ⟨fuel - 1, by omega⟩
    refine ⟨0, ?_, Nat.le_refl _, ?_⟩
    · unfold trimRWSLoop
      rw [if_neg (by simp)]; rfl
    · simp [dropTrailWS]
  | succ i ih =>
    intro fuel h1 h2
    obtain ⟨f, rfl⟩ : ∃ f, fuel = f + 1 := ⟨fuel - 1, by omega⟩
    have hi : i < t.length := by omega
    unfold trimRWSLoop
    rw [if_pos (by omega), elemAtI_ofNat, elemAt_lt (by simp; omega)]
    simp only [ok_bind, List.getElem_cons_succ]
    rw [List.take_succ_eq_append_getElem hi, dropTrailWS_concat]
    by_cases hw : isWS t[i] = true
    · simp only [hw, if_true]
      have : ((i + 1 : Nat) : Int) - 1 = (i : Int) := by omega
      rw [this]
      obtain ⟨j, h3, h4, h5⟩ := ih f (by omega) (by omega)
      exact ⟨j, h3, by omega, h5⟩
    · simp only [hw, Bool.false_eq_true, if_false]
      refine ⟨i + 1, rfl, Nat.le_refl _, ?_⟩
      rw [List.take_succ_cons, List.take_succ_eq_append_getElem hi]

/-! ### where the list models and the Go code part (outside what mimetype can reach) -/

/-- `uint32(len(b))` wraps: on 2^32 line feeds with `readLimit = 1` the Go code returns its
    input, the list model (which compares `len(b)` itself) drops the last line.  `Detect`
    cuts its input to `readLimit < 2^32` bytes first, so the library never gets here. -/
theorem dropLastLine_uint32_witness (n : Nat) (h0 : n % 4294967296 = 0) (h2 : 2 ≤ n) :
    dropLastLineIdx (List.replicate n 0x0A) 1 = .ok (List.replicate n 0x0A) ∧
    (dropLastLine (List.replicate n 0x0A) 1).length < n := by
  constructor
  · unfold dropLastLineIdx
    simp [h0]
  · obtain ⟨m, rfl⟩ : ∃ m, n = m + 2 := ⟨n - 2, by omega⟩
    unfold dropLastLine
    simp only [List.replicate_succ]
    cases hl : lastIdx 0x0A (0x0A :: List.replicate m 0x0A) with
    | none =>
      simp only [lastIdx] at hl
      cases h : lastIdx 0x0A (List.replicate m 0x0A) <;> simp [h] at hl
    | some j =>
      have := lastIdx_lt _ _ _ hl
      simp at this ⊢
      omega

-- "aé" cut inside the two-byte rune: the partial rune is dropped, the rest is ASCII → latin
example : fromPlainIdx [0x61, 0xC3] = .ok csLatin1 := by decide +kernel
example : fromPlainIdx [0x61, 0xC3, 0xA9, 0xE2, 0x82] = .ok csUtf8 := by decide +kernel
example : fromPlainIdx [] = .ok [] := by decide +kernel
example : fromPlainIdx [0xFF, 0xFE, 0x61, 0x00] = .ok [117, 116, 102, 45, 49, 54, 108, 101] := by decide +kernel
-- not a byte: `textChars[b]` is out of range
example : fromPlainIdx [300] = .panic := by decide +kernel
-- of 0x80 … 0x9F only NEL (0x85) is classed `T`: it alone yields windows-1252
example : latinIdx [0x61, 0x85] = .ok csWin1252 := by decide +kernel
example : latinIdx [0x61, 0x93] = .ok [] := by decide +kernel
example : asciiIdx [0x61, 0x85] = .ok false := by decide +kernel
-- "charset charset=x;" → "x"
example : fromMetaElementIdx 19 [99, 104, 97, 114, 115, 101, 116, 32, 99, 104, 97, 114, 115, 101, 116, 61, 120, 59]
    = .ok [120] := by decide +kernel
-- one iteration is not enough for it
example : fromMetaElementIdx 1 [99, 104, 97, 114, 115, 101, 116, 32, 99, 104, 97, 114, 115, 101, 116, 61, 120, 59]
    = .fuel := by decide +kernel
-- "encoding='l1'"
example : xmlEncodingIdx [101, 110, 99, 111, 100, 105, 110, 103, 61, 39, 108, 49, 39] = .ok [108, 49] := by decide +kernel
example : xmlEncodingIdx [101, 110, 99, 111, 100, 105, 110, 103, 61] = .ok [] := by decide +kernel
example : trimLWSIdx [32, 9, 120, 32] = .ok [120, 32] := by decide +kernel
example : trimRWSIdx [32, 32, 32] = .ok [32] := by decide +kernel
example : trimRWSIdx [] = .ok [] := by decide +kernel
example : dropLastLineIdx [97, 10, 98, 10, 99] 5 = .ok [97, 10, 98] := by decide +kernel
example : dropLastLineIdx [10, 97, 98, 99] 4 = .ok [10, 97, 98, 99] := by decide +kernel
example : dropLastLineIdx [] 0 = .ok [] := by decide +kernel
example : scanLineIdx [97, 98, 13, 10, 99, 100] = .ok ([97, 98], [99, 100]) := by decide +kernel
-- "{}\n[1]\n" and the same with the second line cut short
example : ndjsonIdx [123, 125, 10, 91, 49, 93, 10] 0 = .ok true := by decide +kernel
example : ndjsonIdx [123, 125, 10, 91, 49, 10] 0 = .ok false := by decide +kernel
example : textIdx [1, 2] = .ok false := by decide +kernel
example : textIdx [0xEF, 0xBB, 0xBF, 1] = .ok true := by decide +kernel
-- " 0001234 \x00"
example : tarParseOctalIdx [32, 48, 48, 48, 49, 50, 51, 52, 32, 0] = .ok 668 := by decide +kernel
example : tarParseOctalIdx [48, 57] = .ok (-1) := by decide +kernel
-- 22 sevens: 2^66 − 1 does not fit an `int64`; the Go code answers −1 (the model: `some (8^22 − 1)`)
example : tarParseOctalIdx (List.replicate 22 0x37) = .ok (-1) := by decide +kernel
example : tarChksumIdx [1, 2, 255] = .ok (258, 2) := by decide +kernel
example : tarIdx [1, 2, 3] = .ok false := by decide +kernel
example : elemAt [1, 2, 3] 3 = (.panic : Out Nat) := by decide +kernel
example : elemAtI [1, 2, 3] (-1) = (.panic : Out Nat) := by decide +kernel
example : sliceFrom [1, 2, 3] 3 = .ok [] := by decide +kernel
example : sliceFrom [1, 2, 3] 4 = .panic := by decide +kernel
example : Idx.slice [1, 2, 3] 2 1 = .panic := by decide +kernel
example : Idx.slice [1, 2, 3] 1 3 = .ok [2, 3] := by decide +kernel
example : textCharsAt 256 = .panic := by decide +kernel

end Mime.IdxLemmas
