import MimeModel.Lemmas.JsonSpecEq
/-
  Every viable JSON prefix (Spec.J.viable) can be completed to a relaxed document.
  Reference grammar only (Spec/Json.lean); no reference to the scanner model.
-/
namespace Mime.SpecComplete
open Mime Mime.Spec.J

/-- bytes after which a value certainly stops: `]`, `}` and a blank (the blank is what the top level appends:
    behind a whole document only white space may follow) -/
def stopc (c : Nat) : Bool := c == 0x5D || c == 0x7D || c == 0x20

def Closer (t : Bytes) : Prop := ∃ c r, t = c :: r ∧ stopc c = true

/-- appending `x` behind a recognised construct with rest `r` cannot change the outcome -/
def Safe (r x : Bytes) : Prop := r ≠ [] ∨ Closer x

theorem stopc_cases {c : Nat} (h : stopc c = true) : c = 0x5D ∨ c = 0x7D ∨ c = 0x20 := by
  simp [stopc] at h
  omega

theorem closer_rb (t : Bytes) : Closer (0x5D :: t) := ⟨_, _, rfl, by decide⟩
theorem closer_rc (t : Bytes) : Closer (0x7D :: t) := ⟨_, _, rfl, by decide⟩
theorem closer_sp (t : Bytes) : Closer (0x20 :: t) := ⟨_, _, rfl, by decide⟩

theorem safe_of_ne {r x : Bytes} (h : r ≠ []) : Safe r x := Or.inl h
theorem safe_of_closer {r x : Bytes} (h : Closer x) : Safe r x := Or.inr h

theorem safe_nil {x : Bytes} (h : Safe [] x) : Closer x := by
  rcases h with h | h
  · exact absurd rfl h
  · exact h

/-- `y` can be extended so that `F` succeeds exactly in front of whatever follows, if that satisfies `P`
    (`Closer` for values, nothing for strings and literals, which end in a byte of their own) -/
def Completes {α : Type} (P : Bytes → Prop) (F : Bytes → R α) (y : Bytes) : Prop :=
  ∃ s, ∀ t, P t → ∃ v, F (y ++ (s ++ t)) = .ok v t

theorem Completes.congr {α : Type} {P : Bytes → Prop} {F G : Bytes → R α} {y y' : Bytes}
    (hG : Completes P G y') (h : ∀ x, F (y ++ x) = G (y' ++ x)) : Completes P F y :=
  hG.imp fun s hs t ht => by rw [h]; exact hs t ht

theorem Completes.map {α : Type} {P Q : Bytes → Prop} {G : Bytes → R α} {y : Bytes} (g : α → JVal)
    (hG : Completes P G y) (hPQ : ∀ t, Q t → P t) : Completes Q (fun b => wrap g (G b)) y :=
  hG.imp fun s hs t ht => (hs t (hPQ t ht)).elim fun v hv => ⟨g v, by show wrap g (G _) = _; rw [hv]; rfl⟩

theorem Completes.close {α β : Type} {P Q : Bytes → Prop} {G : Bytes → R β} {K : R β → R α} {y : Bytes} (cl : Bytes)
    (hG : Completes P G y) (hcl : ∀ t, P (cl ++ t)) (hK : ∀ v t, ∃ w, K (.ok v (cl ++ t)) = .ok w t) :
    Completes Q (fun b => K (G b)) y := by
  obtain ⟨s, hs⟩ := hG
  refine ⟨s ++ cl, fun t _ => ?_⟩
  obtain ⟨v, hv⟩ := hs (cl ++ t) (hcl t)
  rw [List.append_assoc s cl t]
  show ∃ w, K (G (y ++ (s ++ (cl ++ t)))) = _
  rw [hv]; exact hK v t

theorem skipWs_app_cons (x : Bytes) (c : Nat) (cs : Bytes) :
    ∀ b : Bytes, skipWs b = c :: cs → skipWs (b ++ x) = c :: (cs ++ x) := by
  intro b
  induction b with
  | nil => intro h; simp [skipWs] at h
  | cons a as ih =>
    intro h
    by_cases ha : ws a = true
    · simp only [skipWs, ha, if_true, List.cons_append] at h ⊢
      exact ih h
    · simp only [skipWs, ha, List.cons_append] at h ⊢
      simp at h ⊢
      simp [h.1, h.2]

theorem skipWs_app_nil (x : Bytes) : ∀ b : Bytes, skipWs b = [] → skipWs (b ++ x) = skipWs x := by
  intro b
  induction b with
  | nil => intro _; rfl
  | cons a as ih =>
    intro h
    by_cases ha : ws a = true
    · simp only [skipWs, ha, if_true, List.cons_append] at h ⊢
      exact ih h
    · simp [skipWs, ha] at h

theorem skipWs_nonws (c : Nat) (t : Bytes) (h : ws c = false) : skipWs (c :: t) = c :: t := by
  simp [skipWs, h]

theorem skipWs_ne_of_cons {b : Bytes} {c : Nat} {cs : Bytes} (h : skipWs b = c :: cs) : b ≠ [] := by
  intro hb; subst hb; simp [skipWs] at h

theorem stop_facts {c : Nat} (h : stopc c = true) :
    digit c = false ∧ (c == 0x2E) = false ∧ isExpChar c = false ∧ (c == 0x2D) = false ∧ (c == 0x2B) = false := by
  rcases stopc_cases h with h | h | h <;> subst h <;> decide

theorem digits_safe (x : Bytes) : ∀ b : Bytes, Safe (digits b).2 x →
    digits (b ++ x) = ((digits b).1, (digits b).2 ++ x) := by
  intro b
  induction b with
  | nil =>
    intro h
    obtain ⟨c, r, rfl, hc⟩ := safe_nil h
    simp [digits_cons_non c r (stop_facts hc).1, digits]
  | cons a as ih =>
    intro h
    by_cases ha : digit a = true
    · rw [digits_cons_digit a as ha] at h ⊢
      rw [List.cons_append, digits_cons_digit a _ ha, ih h]
    · have ha' : digit a = false := by simpa using ha
      rw [digits_cons_non a as ha', List.cons_append, digits_cons_non a _ ha']

theorem digits_zero : ∀ b : Bytes, (digits b).1 = 0 → (digits b).2 = b := by
  intro b
  cases b with
  | nil => intro _; rfl
  | cons a as =>
    intro h
    by_cases ha : digit a = true
    · rw [digits_cons_digit a as ha] at h; simp at h
    · have ha' : digit a = false := by simpa using ha
      rw [digits_cons_non a as ha']

theorem safe_imp {r r' x : Bytes} (h : Safe r x) (himp : r' = [] → r = []) : Safe r' x := by
  rcases h with h | h
  · exact Or.inl (fun h' => h (himp h'))
  · exact Or.inr h

theorem fracPart_safe (x : Bytes) {r1 : Bytes} (h : Safe (fracPart r1).2 x) :
    fracPart (r1 ++ x) = ((fracPart r1).1, (fracPart r1).2 ++ x) := by
  rcases r1 with _ | ⟨c, r⟩
  · obtain ⟨d, t, rfl, hd⟩ := safe_nil h
    rw [List.nil_append, fracPart_non d t (stop_facts hd).2.1]; rfl
  · by_cases hc : c = 0x2E
    · subst hc
      rw [fracPart_dot] at h ⊢
      rw [List.cons_append, fracPart_dot, digits_safe x r h]
    · have hc' : (c == 0x2E) = false := by simpa using hc
      rw [fracPart_non c r hc', List.cons_append, fracPart_non c _ hc']

theorem dropMinus_app (b x : Bytes) (h : Safe b x) : dropMinus (b ++ x) = dropMinus b ++ x := by
  rcases b with _ | ⟨c, r⟩
  · obtain ⟨d, t, rfl, hd⟩ := safe_nil h
    rw [List.nil_append, dropMinus_non d t (stop_facts hd).2.2.2.1]; rfl
  · by_cases hc : c = 0x2D
    · subst hc; rfl
    · have hc' : (c == 0x2D) = false := by simpa using hc
      rw [dropMinus_non c r hc', List.cons_append, dropMinus_non c _ hc']

theorem numStage_safe (x b : Bytes) (h : Safe (numStage b).2 x) :
    numStage (b ++ x) = ((numStage b).1, (numStage b).2 ++ x) := by
  have hf : Safe (fracPart (digits (dropMinus b)).2).2 x := h
  have h1 : Safe (digits (dropMinus b)).2 x := safe_imp hf (fun e => by rw [e]; rfl)
  have h0 : Safe b x := safe_imp h1 (fun e => by rw [e]; rfl)
  unfold numStage
  rw [dropMinus_app b x h0, digits_safe x _ h1]
  dsimp only
  rw [fracPart_safe x hf]

theorem digits1_safe (x y r : Bytes) (h : digits1 y = .ok () r) (hs : Safe r x) :
    digits1 (y ++ x) = .ok () (r ++ x) := by
  unfold digits1 at h ⊢
  dsimp only at h ⊢
  by_cases hn : ((digits y).1 == 0) = true
  · rw [if_pos hn] at h; split at h <;> cases h
  · rw [if_neg hn] at h
    cases h
    rw [digits_safe x y hs]
    dsimp only
    rw [if_neg hn]

theorem dropSign_app (t x : Bytes) (h : t ≠ []) : dropSign (t ++ x) = dropSign t ++ x := by
  rcases t with _ | ⟨s, t⟩
  · exact absurd rfl h
  · rw [List.cons_append, dropSign_cons, dropSign_cons]; split <;> rfl

theorem expPart_safe (x r3 r : Bytes) (h : expPart r3 = .ok () r) (hs : Safe r x) :
    expPart (r3 ++ x) = .ok () (r ++ x) := by
  rcases r3 with _ | ⟨e, t⟩
  · cases h
    obtain ⟨d, u, rfl, hd⟩ := safe_nil hs
    show expPart (d :: u) = R.ok () (d :: u)
    rw [expPart_cons, (stop_facts hd).2.2.1]; rfl
  · rw [expPart_cons] at h
    rw [List.cons_append, expPart_cons]
    by_cases he : isExpChar e = true
    · rw [if_pos he] at h ⊢
      have ht : t ≠ [] := by
        intro e; subst e; cases h
      rw [dropSign_app t x ht]
      exact digits1_safe x _ r h hs
    · rw [if_neg he] at h ⊢
      cases h; rfl

theorem numRelaxed_safe (x b r : Bytes) (h : numRelaxed b = .ok () r) (hs : Safe r x) :
    numRelaxed (b ++ x) = .ok () (r ++ x) := by
  rw [numRelaxed_eq] at h ⊢
  by_cases hn : ((numStage b).1 == 0) = true
  · rw [if_pos hn] at h; split at h <;> cases h
  · rw [if_neg hn] at h
    have h3 : Safe (numStage b).2 x := safe_imp hs (fun e => by rw [e] at h; cases h; rfl)
    rw [numStage_safe x b h3]
    dsimp only
    rw [if_neg hn]
    exact expPart_safe x _ r h hs

theorem digits1_more {y : Bytes} (h : digits1 y = .more) : y = [] := by
  unfold digits1 at h
  dsimp only at h
  by_cases hn : ((digits y).1 == 0) = true
  · rw [if_pos hn] at h
    have h2 := digits_zero y (by simpa using hn)
    rw [h2] at h
    cases y with
    | nil => rfl
    | cons a as => simp at h
  · rw [if_neg hn] at h; cases h

theorem dropSign_eq_nil (t : Bytes) (h : dropSign t = []) :
    t = [] ∨ ∃ s, t = [s] ∧ (s == 0x2B || s == 0x2D) = true := by
  rcases t with _ | ⟨s, t⟩
  · exact Or.inl rfl
  · rw [dropSign_cons] at h
    by_cases hs : (s == 0x2B || s == 0x2D) = true
    · rw [if_pos hs] at h; subst h; exact Or.inr ⟨s, rfl, hs⟩
    · rw [if_neg hs] at h; cases h

theorem numStage_zero (b : Bytes) (h1 : (numStage b).1 = 0) (h2 : (numStage b).2 = []) :
    b = [] ∨ b = [0x2D] ∨ b = [0x2E] ∨ b = [0x2D, 0x2E] := by
  unfold numStage at h1 h2
  dsimp only at h1 h2
  have hn1 : (digits (dropMinus b)).1 = 0 := by omega
  have hr1 := digits_zero _ hn1
  rw [hr1] at h1 h2
  have hb1 : dropMinus b = [] ∨ dropMinus b = [0x2E] := by
    generalize dropMinus b = b1 at h1 h2
    rcases b1 with _ | ⟨c, r⟩
    · exact Or.inl rfl
    · by_cases hc : c = 0x2E
      · subst hc
        rw [fracPart_dot] at h1 h2
        have := digits_zero r (by omega)
        rw [h2] at this; subst this; exact Or.inr rfl
      · have hc' : (c == 0x2E) = false := by simpa using hc
        rw [fracPart_non c r hc'] at h2; cases h2
  rcases b with _ | ⟨c, r⟩
  · exact Or.inl rfl
  · by_cases hc : c = 0x2D
    · subst hc
      rw [dropMinus_minus] at hb1
      rcases hb1 with e | e <;> subst e <;> simp
    · have hc' : (c == 0x2D) = false := by simpa using hc
      rw [dropMinus_non c r hc'] at hb1
      rcases hb1 with e | e
      · cases e
      · rw [e]; simp

theorem numRelaxed_complete0 (b : Bytes) (h : numRelaxed b = .more) :
    numRelaxed (b ++ [0x30]) = .ok () [] := by
  rw [numRelaxed_eq] at h
  by_cases hn : ((numStage b).1 == 0) = true
  · rw [if_pos hn] at h
    by_cases he : (numStage b).2.isEmpty = true
    · have h2 : (numStage b).2 = [] := by simpa using he
      rcases numStage_zero b (by simpa using hn) h2 with e | e | e | e <;> subst e <;> rfl
    · rw [if_neg he] at h; cases h
  · rw [if_neg hn] at h
    rcases h3 : (numStage b).2 with _ | ⟨e, t⟩
    · rw [h3] at h; cases h
    · rw [h3, expPart_cons] at h
      by_cases hx : isExpChar e = true
      · rw [if_pos hx] at h
        have hd := digits1_more h
        rw [numRelaxed_eq, numStage_safe [0x30] b (Or.inl (by rw [h3]; simp))]
        dsimp only
        rw [if_neg hn, h3, List.cons_append, expPart_cons, if_pos hx]
        rcases dropSign_eq_nil t hd with e1 | ⟨s, e1, hs⟩
        · subst e1; rfl
        · subst e1
          rw [List.cons_append, dropSign_cons, if_pos hs]; rfl
      · rw [if_neg hx] at h; cases h

theorem numRelaxed_complete (b t : Bytes) (h : numRelaxed b = .more) (ht : Closer t) :
    numRelaxed (b ++ 0x30 :: t) = .ok () t := by
  have := numRelaxed_safe t (b ++ [0x30]) [] (numRelaxed_complete0 b h) (Or.inr ht)
  simpa using this

theorem numRelaxed_zero (t : Bytes) (ht : Closer t) : numRelaxed (0x30 :: t) = .ok () t := by
  have := numRelaxed_safe t [0x30] [] rfl (Or.inr ht)
  simpa using this

theorem lit_word (w t : Bytes) : lit w (w ++ t) = .ok () t := by
  unfold lit
  have : w.isPrefixOf (w ++ t) = true := List.isPrefixOf_iff_prefix.mpr (List.prefix_append w t)
  rw [if_pos this, List.drop_left]

theorem lit_safe (w b r x : Bytes) (h : lit w b = .ok () r) : lit w (b ++ x) = .ok () (r ++ x) := by
  unfold lit at h
  by_cases hp : w.isPrefixOf b = true
  · rw [if_pos hp] at h
    obtain ⟨k, rfl⟩ := List.isPrefixOf_iff_prefix.mp hp
    rw [List.drop_left] at h
    cases h
    rw [List.append_assoc, lit_word]
  · rw [if_neg hp] at h; split at h <;> cases h

theorem lit_complete (w b : Bytes) (h : lit w b = .more) : Completes (fun _ => True) (lit w) b := by
  unfold lit at h
  by_cases hp : w.isPrefixOf b = true
  · rw [if_pos hp] at h; cases h
  · rw [if_neg hp] at h
    by_cases hq : b.isPrefixOf w = true
    · obtain ⟨k, rfl⟩ := List.isPrefixOf_iff_prefix.mp hq
      exact ⟨k, fun t _ => ⟨(), by rw [← List.append_assoc, lit_word]⟩⟩
    · rw [if_neg hq] at h; cases h

theorem hexd_zero : hexd 0x30 = true := by decide

theorem str_complete (cs acc : Bytes) : str false cs acc = .more → Completes (fun _ => True) (str false · acc) cs := by
  fun_induction str false cs acc <;> intro h
  case case1 => exact ⟨[0x22], fun t _ => ⟨_, str_quote _ _ _ rfl⟩⟩
  case case3 c acc hc1 hc2 =>
    exact ⟨[0x6E, 0x22], fun t _ => ⟨_, (str_esc_simple _ c 0x6E _ _ hc1 hc2 (by decide)).trans (str_quote _ _ _ rfl)⟩⟩
  case case4 hc1 hc2 e es he ih => exact (ih h).congr fun y => str_esc_simple _ _ _ _ _ hc1 hc2 he
  case case5 hc1 hc2 e he1 he2 h1 h2 h3 h4 r' hh ih =>
    exact (ih h).congr fun y => str_esc_u4 _ _ _ hc1 hc2 he1 he2 hh
  case case7 c acc hc1 hc2 e he1 he2 l hl hall =>
    -- pad the escape with zeros to four hex digits, then close the string
    have pad : ∀ (h1 h2 h3 h4 : Nat) (t : Bytes), (hexd h1 && hexd h2 && hexd h3 && hexd h4) = true →
        ∃ v, str false (c :: e :: h1 :: h2 :: h3 :: h4 :: 0x22 :: t) acc = .ok v t := fun h1 h2 h3 h4 t hh =>
      ⟨_, (str_esc_u4 _ _ _ hc1 hc2 he1 he2 hh).trans (str_quote _ _ _ rfl)⟩
    rcases l with _ | ⟨a1, _ | ⟨a2, _ | ⟨a3, _ | ⟨a4, l⟩⟩⟩⟩
    · exact ⟨[0x30, 0x30, 0x30, 0x30, 0x22], fun t _ => pad _ _ _ _ t (by decide)⟩
    · exact ⟨[0x30, 0x30, 0x30, 0x22], fun t _ => pad a1 _ _ _ t (by simpa [hexd_zero] using hall)⟩
    · exact ⟨[0x30, 0x30, 0x22], fun t _ => pad a1 a2 _ _ t (by simpa [hexd_zero] using hall)⟩
    · exact ⟨[0x30, 0x22], fun t _ => pad a1 a2 a3 _ t (by simpa [hexd_zero, and_assoc] using hall)⟩
    · exact absurd rfl (fun e => hl _ _ _ _ _ e)
  case case11 c cs acc hc1 hc2 _ ih => exact (ih h).congr fun y => str_plain c (cs ++ y) acc hc1 hc2
  all_goals cases h

def MV (s : Bool) (f : Nat) : Prop := ∀ b v r, value s f b = .ok v r → value s (f + 1) b = .ok v r
def MI (s : Bool) (f : Nat) : Prop :=
  ∀ b acc first v r, items s f b acc first = .ok v r → items s (f + 1) b acc first = .ok v r
def MM (s : Bool) (f : Nat) : Prop :=
  ∀ b acc first v r, members s f b acc first = .ok v r → members s (f + 1) b acc first = .ok v r

theorem valueHead_mono {s : Bool} {f : Nat} (hI : MI s f) (hM : MM s f) {c : Nat} {cs : Bytes} {v : JVal} {r : Bytes}
    (h : valueHead s f c cs = .ok v r) : valueHead s (f + 1) c cs = .ok v r := by
  rcases valueHead_kind c with ⟨_, e⟩ | ⟨_, e⟩ | ⟨_, e⟩ | ⟨g, w, e⟩ | e <;> rw [e] at h ⊢
  · exact h
  · exact hI _ _ _ _ _ h
  · exact hM _ _ _ _ _ h
  · exact h
  · exact h

theorem mono_step {s : Bool} {f : Nat} (hV : MV s f) (hI : MI s f) (hM : MM s f) :
    MV s (f + 1) ∧ MI s (f + 1) ∧ MM s (f + 1) := by
  refine ⟨?_, ?_, ?_⟩
  · intro b v r h
    obtain ⟨c, cs, hb, h⟩ := value_ok h
    rw [value_cons hb]; exact valueHead_mono hI hM h
  · intro b acc first v r h
    obtain ⟨c, cs, hb, ⟨rfl, hf, rfl, rfl⟩ | ⟨hc, h⟩⟩ := items_ok h
    · exact items_close hb (by rw [hf]; rfl)
    · obtain ⟨v1, r1, d, ds, hv, hr, hd⟩ := itemsAfter_ok h
      rw [items_val hb hc, hV _ _ _ hv, itemsAfter_cons hr]
      rcases hd with ⟨rfl, h⟩ | ⟨rfl, rfl, rfl⟩
      · exact hI _ _ _ _ _ h
      · rfl
  · intro b acc first v r h
    obtain ⟨c, cs, hb, ⟨rfl, hf, rfl, rfl⟩ | ⟨hc, rfl, h⟩⟩ := members_ok h
    · exact members_close hb (by rw [hf]; rfl)
    · obtain ⟨k, r1, ds, hk, hr1, h⟩ := membersAfterKey_ok h
      obtain ⟨v1, r2, e, es, hv, hr2, he⟩ := membersAfterVal_ok h
      rw [members_key hb hc, if_neg (by decide), hk, membersAfterKey_cons hr1, if_neg (by decide), hV _ _ _ hv,
        membersAfterVal_cons hr2]
      rcases he with ⟨rfl, h⟩ | ⟨rfl, rfl, rfl⟩
      · exact hM _ _ _ _ _ h
      · rfl

theorem mono_all (s : Bool) : ∀ f, MV s f ∧ MI s f ∧ MM s f := by
  intro f
  induction f with
  | zero =>
    refine ⟨?_, ?_, ?_⟩
    · intro b v r h; rw [value] at h; cases h
    · intro b acc first v r h; rw [items] at h; cases h
    · intro b acc first v r h; rw [members] at h; cases h
  | succ f ih => exact mono_step ih.1 ih.2.1 ih.2.2

theorem value_mono_le (s : Bool) (b : Bytes) (v : JVal) (r : Bytes) (f g : Nat) (hfg : f ≤ g)
    (h : value s f b = .ok v r) : value s g b = .ok v r := by
  induction hfg with
  | refl => exact h
  | step _ ih => exact (mono_all s _).1 _ _ _ ih

def SV (f : Nat) : Prop :=
  ∀ b v r x, value false f b = .ok v r → Safe r x → value false f (b ++ x) = .ok v (r ++ x)
def SI (f : Nat) : Prop :=
  ∀ b acc first v r x, items false f b acc first = .ok v r → Safe r x →
    items false f (b ++ x) acc first = .ok v (r ++ x)
def SM (f : Nat) : Prop :=
  ∀ b acc first v r x, members false f b acc first = .ok v r → Safe r x →
    members false f (b ++ x) acc first = .ok v (r ++ x)

theorem wrap_lit_safe (g : Unit → JVal) {w : Bytes} {c : Nat} {cs : Bytes} (x : Bytes) (v : JVal) (r : Bytes)
    (h : wrap g (lit w (c :: cs)) = .ok v r) : wrap g (lit w (c :: (cs ++ x))) = .ok v (r ++ x) := by
  obtain ⟨a, ha, rfl⟩ := wrap_ok_inv h
  have := lit_safe w (c :: cs) r x ha
  rw [List.cons_append] at this
  rw [this]; rfl

theorem valueHead_safe {f : Nat} (hI : SI f) (hM : SM f) {c : Nat} {cs x : Bytes} {v : JVal} {r : Bytes}
    (h : valueHead false f c cs = .ok v r) (hs : Safe r x) :
    valueHead false f c (cs ++ x) = .ok v (r ++ x) := by
  rcases valueHead_kind c with ⟨_, e⟩ | ⟨_, e⟩ | ⟨_, e⟩ | ⟨g, w, e⟩ | e <;> rw [e] at h ⊢
  · obtain ⟨a, ha, rfl⟩ := wrap_ok_inv h
    rw [str_safe x cs [] a r ha]; rfl
  · exact hI _ _ _ _ _ _ h hs
  · exact hM _ _ _ _ _ _ h hs
  · exact wrap_lit_safe _ _ _ _ h
  · rw [if_neg Bool.false_ne_true] at h ⊢
    obtain ⟨a, ha, rfl⟩ := wrap_ok_inv h
    rw [← List.cons_append, numRelaxed_safe x (c :: cs) r ha hs]; rfl

theorem safe_step {f : Nat} (hV : SV f) (hI : SI f) (hM : SM f) : SV (f + 1) ∧ SI (f + 1) ∧ SM (f + 1) := by
  refine ⟨?_, ?_, ?_⟩
  · intro b v r x h hs
    obtain ⟨c, cs, hb, h⟩ := value_ok h
    rw [value_cons (skipWs_app_cons x c cs b hb)]
    exact valueHead_safe hI hM h hs
  · intro b acc first v r x h hs
    obtain ⟨c, cs, hb, ⟨rfl, hf, rfl, rfl⟩ | ⟨hc, h⟩⟩ := items_ok h
    · exact items_close (skipWs_app_cons x _ _ b hb) (by rw [hf]; rfl)
    · obtain ⟨v1, r1, d, ds, hv, hr, hd⟩ := itemsAfter_ok h
      rw [items_val (skipWs_app_cons x c cs b hb) hc, ← List.cons_append, hV _ _ _ x hv (Or.inl (skipWs_ne_of_cons hr)),
        itemsAfter_cons (skipWs_app_cons x d ds r1 hr)]
      rcases hd with ⟨rfl, h⟩ | ⟨rfl, rfl, rfl⟩
      · exact hI _ _ _ _ _ _ h hs
      · rfl
  · intro b acc first v r x h hs
    obtain ⟨c, cs, hb, ⟨rfl, hf, rfl, rfl⟩ | ⟨hc, rfl, h⟩⟩ := members_ok h
    · exact members_close (skipWs_app_cons x _ _ b hb) (by rw [hf]; rfl)
    · obtain ⟨k, r1, ds, hk, hr1, h⟩ := membersAfterKey_ok h
      obtain ⟨v1, r2, e, es, hv, hr2, he⟩ := membersAfterVal_ok h
      rw [members_key (skipWs_app_cons x _ cs b hb) hc, if_neg (by decide), str_safe x cs [] k r1 hk,
        membersAfterKey_cons (skipWs_app_cons x _ ds r1 hr1), if_neg (by decide),
        hV _ _ _ x hv (Or.inl (skipWs_ne_of_cons hr2)), membersAfterVal_cons (skipWs_app_cons x e es r2 hr2)]
      rcases he with ⟨rfl, h⟩ | ⟨rfl, rfl, rfl⟩
      · exact hM _ _ _ _ _ _ h hs
      · rfl

theorem safe_all : ∀ f, SV f ∧ SI f ∧ SM f := by
  intro f
  induction f with
  | zero =>
    refine ⟨?_, ?_, ?_⟩
    · intro b v r x h; rw [value] at h; cases h
    · intro b acc first v r x h; rw [items] at h; cases h
    · intro b acc first v r x h; rw [members] at h; cases h
  | succ f ih => exact safe_step ih.1 ih.2.1 ih.2.2

def CV (f : Nat) : Prop := ∀ b, value false f b = .more → Completes Closer (value false (f + 1)) b
def CI (f : Nat) : Prop :=
  ∀ b acc first, items false f b acc first = .more → Completes Closer (items false (f + 1) · acc first) b
def CM (f : Nat) : Prop :=
  ∀ b acc first, members false f b acc first = .more → Completes Closer (members false (f + 1) · acc first) b

theorem valueHead_zero (f : Nat) (t : Bytes) (ht : Closer t) : valueHead false f 0x30 t = .ok .num t := by
  rw [valueHead, if_neg (by decide), if_neg (by decide), if_neg (by decide), if_neg (by decide), if_neg (by decide),
    if_neg (by decide), if_neg Bool.false_ne_true, numRelaxed_zero t ht]
  rfl

theorem value_zero (f : Nat) {t : Bytes} (ht : Closer t) : value false (f + 1) (0x30 :: t) = .ok .num t := by
  rw [value_cons (skipWs_nonws 0x30 t (by decide))]; exact valueHead_zero f t ht

theorem value_grow {f : Nat} {y x r : Bytes} {v : JVal} (hv : value false f y = .ok v r) (hs : Safe r x) :
    value false (f + 1) (y ++ x) = .ok v (r ++ x) :=
  (mono_all false f).1 _ _ _ ((safe_all f).1 _ _ _ x hv hs)

theorem valueHead_complete {f : Nat} (hI : CI f) (hM : CM f) (c : Nat) (cs : Bytes)
    (h : valueHead false f c cs = .more) : Completes Closer (valueHead false (f + 1) c) cs := by
  rcases valueHead_kind c with ⟨_, e⟩ | ⟨_, e⟩ | ⟨_, e⟩ | ⟨g, w, e⟩ | e
  · rw [e] at h
    rw [funext (e false (f + 1))]
    exact (str_complete cs [] (wrap_more_inv h)).map _ fun _ _ => trivial
  · rw [e] at h
    rw [funext (e false (f + 1))]
    exact hI _ _ _ h
  · rw [e] at h
    rw [funext (e false (f + 1))]
    exact hM _ _ _ h
  · rw [e] at h
    rw [funext (e false (f + 1))]
    exact Completes.map g ((lit_complete w (c :: cs) (wrap_more_inv h)).congr fun _ => rfl) fun _ _ => trivial
  · rw [e, if_neg Bool.false_ne_true] at h
    rw [funext (e false (f + 1))]
    simp only [Bool.false_eq_true, if_false]
    exact Completes.map _ ⟨[0x30], fun t ht => ⟨(), numRelaxed_complete (c :: cs) t (wrap_more_inv h) ht⟩⟩ fun _ h => h

theorem itemsAfter_close (f : Nat) (acc : List JVal) (v : JVal) (t : Bytes) :
    itemsAfter false f acc (.ok v (0x5D :: t)) = .ok (.arr (v :: acc).reverse) t := by
  rw [itemsAfter_cons (skipWs_nonws 0x5D t (by decide)), if_neg (by decide), if_pos (by decide)]

theorem membersAfterVal_close (f : Nat) (acc : List (Bytes × JVal)) (k : Bytes) (v : JVal) (t : Bytes) :
    membersAfterVal false f acc k (.ok v (0x7D :: t)) = .ok (.obj ((k, v) :: acc).reverse) t := by
  rw [membersAfterVal_cons (skipWs_nonws 0x7D t (by decide)), if_neg (by decide), if_pos (by decide)]

theorem itemsAfter_complete {f : Nat} (hV : CV f) (hI : CI f) (acc : List JVal) (y : Bytes)
    (h : itemsAfter false f acc (value false f y) = .more) :
    Completes Closer (fun y => itemsAfter false (f + 1) acc (value false (f + 1) y)) y := by
  rcases hv : value false f y with ⟨v1, r1⟩ | _ | _
  · rw [hv] at h
    rcases hr : skipWs r1 with _ | ⟨d, ds⟩
    · refine ⟨[0x5D], fun t _ => ⟨.arr (v1 :: acc).reverse, ?_⟩⟩
      show itemsAfter false (f + 1) acc (value false (f + 1) (y ++ 0x5D :: t)) = _
      rw [value_grow hv (Or.inr (closer_rb t)),
        itemsAfter_cons (by rw [skipWs_app_nil _ _ hr]; exact skipWs_nonws 0x5D t (by decide)), if_neg (by decide), if_pos (by decide)]
    · rw [itemsAfter_cons hr] at h
      by_cases hd : (d == 0x2C) = true
      · rw [if_pos hd] at h
        refine (hI _ _ _ h).congr fun x => ?_
        show itemsAfter false (f + 1) acc (value false (f + 1) (y ++ x)) = _
        rw [value_grow hv (Or.inl (skipWs_ne_of_cons hr)), itemsAfter_cons (skipWs_app_cons x d ds r1 hr), if_pos hd]
      · rw [if_neg hd] at h; split at h <;> cases h
  · exact (hV _ hv).close [0x5D] closer_rb fun v t => ⟨_, itemsAfter_close (f + 1) acc v t⟩
  · rw [hv] at h; cases h

theorem membersAfterVal_complete {f : Nat} (hV : CV f) (hM : CM f) {acc : List (Bytes × JVal)} {k y : Bytes}
    (h : membersAfterVal false f acc k (value false f y) = .more) :
    Completes Closer (fun y => membersAfterVal false (f + 1) acc k (value false (f + 1) y)) y := by
  rcases hv : value false f y with ⟨v1, r1⟩ | _ | _
  · rw [hv] at h
    rcases hr : skipWs r1 with _ | ⟨d, ds⟩
    · refine ⟨[0x7D], fun t _ => ⟨.obj ((k, v1) :: acc).reverse, ?_⟩⟩
      show membersAfterVal false (f + 1) acc k (value false (f + 1) (y ++ 0x7D :: t)) = _
      rw [value_grow hv (Or.inr (closer_rc t)),
        membersAfterVal_cons (by rw [skipWs_app_nil _ _ hr]; exact skipWs_nonws 0x7D t (by decide)), if_neg (by decide),
        if_pos (by decide)]
    · rw [membersAfterVal_cons hr] at h
      by_cases hd : (d == 0x2C) = true
      · rw [if_pos hd] at h
        refine (hM _ _ _ h).congr fun x => ?_
        show membersAfterVal false (f + 1) acc k (value false (f + 1) (y ++ x)) = _
        rw [value_grow hv (Or.inl (skipWs_ne_of_cons hr)), membersAfterVal_cons (skipWs_app_cons x d ds r1 hr), if_pos hd]
      · rw [if_neg hd] at h; split at h <;> cases h
  · exact (hV _ hv).close [0x7D] closer_rc fun v t => ⟨_, membersAfterVal_close (f + 1) acc k v t⟩
  · rw [hv] at h; cases h

theorem membersAfterKey_finish (f : Nat) (acc : List (Bytes × JVal)) (k r1 t : Bytes) (hr : skipWs r1 = []) :
    membersAfterKey false (f + 1) acc (.ok k (r1 ++ 0x3A :: 0x30 :: 0x7D :: t)) =
      .ok (.obj ((k, .num) :: acc).reverse) t := by
  rw [membersAfterKey_cons (by rw [skipWs_app_nil _ _ hr]; exact skipWs_nonws 0x3A _ (by decide)),
    if_neg (by decide), value_zero f (closer_rc t), membersAfterVal_close]

theorem membersAfterKey_complete {f : Nat} (hV : CV f) (hM : CM f) (acc : List (Bytes × JVal)) (y : Bytes)
    (h : membersAfterKey false f acc (str false y []) = .more) :
    Completes Closer (fun y => membersAfterKey false (f + 1) acc (str false y [])) y := by
  rcases hk : str false y [] with ⟨k, r1⟩ | _ | _
  · rw [hk] at h
    rcases hr : skipWs r1 with _ | ⟨d, ds⟩
    · refine ⟨[0x3A, 0x30, 0x7D], fun t _ => ⟨.obj ((k, .num) :: acc).reverse, ?_⟩⟩
      show membersAfterKey false (f + 1) acc (str false (y ++ 0x3A :: 0x30 :: 0x7D :: t) []) = _
      rw [str_safe _ y [] k r1 hk, membersAfterKey_finish f acc k r1 t hr]
    · rw [membersAfterKey_cons hr] at h
      by_cases hd : (d != 0x3A) = true
      · rw [if_pos hd] at h; cases h
      · rw [if_neg hd] at h
        refine (membersAfterVal_complete hV hM h).congr fun x => ?_
        show membersAfterKey false (f + 1) acc (str false (y ++ x) []) = _
        rw [str_safe x y [] k r1 hk, membersAfterKey_cons (skipWs_app_cons x d ds r1 hr), if_neg hd]
  · exact (str_complete y [] hk).close [0x3A, 0x30, 0x7D] (fun _ => trivial)
      fun k t => ⟨_, membersAfterKey_finish f acc k [] t rfl⟩
  · rw [hk] at h; cases h

theorem complete_step {f : Nat} (hV : CV f) (hI : CI f) (hM : CM f) : CV (f + 1) ∧ CI (f + 1) ∧ CM (f + 1) := by
  refine ⟨?_, ?_, ?_⟩
  · intro b h
    rcases hb : skipWs b with _ | ⟨c, cs⟩
    · refine ⟨[0x30], fun t ht => ⟨.num, ?_⟩⟩
      show value false (f + 1 + 1) (b ++ 0x30 :: t) = _
      rw [value_cons (by rw [skipWs_app_nil _ _ hb]; exact skipWs_nonws 0x30 t (by decide))]
      exact valueHead_zero _ t ht
    · rw [value_cons hb] at h
      exact (valueHead_complete hI hM c cs h).congr fun x => value_cons (skipWs_app_cons x c cs b hb)
  · intro b acc first h
    rcases hb : skipWs b with _ | ⟨c, cs⟩
    · refine ⟨[0x5D], fun t _ => ⟨.arr acc.reverse, ?_⟩⟩
      show items false (f + 1 + 1) (b ++ 0x5D :: t) acc first = _
      rw [items_close (by rw [skipWs_app_nil _ _ hb]; exact skipWs_nonws 0x5D t (by decide)) (by simp)]
    · by_cases hc : (c == 0x5D && (first || !false)) = true
      · rw [items_close hb hc] at h; cases h
      · rw [items_val hb hc] at h
        exact (itemsAfter_complete hV hI acc (c :: cs) h).congr fun x => items_val (skipWs_app_cons x c cs b hb) hc
  · intro b acc first h
    rcases hb : skipWs b with _ | ⟨c, cs⟩
    · refine ⟨[0x7D], fun t _ => ⟨.obj acc.reverse, ?_⟩⟩
      show members false (f + 1 + 1) (b ++ 0x7D :: t) acc first = _
      rw [members_close (by rw [skipWs_app_nil _ _ hb]; exact skipWs_nonws 0x7D t (by decide)) (by simp)]
    · by_cases hc : (c == 0x7D && (first || !false)) = true
      · rw [members_close hb hc] at h; cases h
      · rw [members_key hb hc] at h
        by_cases hq : (c != 0x22) = true
        · rw [if_pos hq] at h; cases h
        · rw [if_neg hq] at h
          exact (membersAfterKey_complete hV hM acc cs h).congr fun x => by
            rw [members_key (skipWs_app_cons x c cs b hb) hc, if_neg hq]

theorem complete_all : ∀ f, CV f ∧ CI f ∧ CM f := by
  intro f
  induction f with
  | zero =>
    refine ⟨?_, ?_, ?_⟩
    · intro b h; rw [value] at h; cases h
    · intro b acc first h; rw [items] at h; cases h
    · intro b acc first h; rw [members] at h; cases h
  | succ f ih => exact complete_step ih.1 ih.2.1 ih.2.2

theorem relaxedDoc_of_value (b : Bytes) (c : Nat) (cs : Bytes) (v : JVal) (r : Bytes)
    (hb : skipWs b = c :: cs) (hc : ¬ (c != 0x7B && c != 0x5B) = true)
    (hv : value false (fuelFor b) b = .ok v r) (hr : (skipWs r).isEmpty = true) :
    relaxedDoc b = true := by
  unfold relaxedDoc doc firstNonWs
  rw [hb]
  dsimp only [List.head?]
  rw [if_neg hc, hv]
  dsimp only
  rw [if_pos hr]; rfl

theorem viable_completable (b : Bytes) (h : Mime.Spec.J.viable b = true) :
    ∃ s : Bytes, Mime.Spec.J.relaxedDoc (b ++ s) = true := by
  unfold viable firstNonWs at h
  rcases hb : skipWs b with _ | ⟨c, cs⟩
  · rw [hb] at h; cases h
  · rw [hb] at h
    dsimp only [List.head?] at h
    by_cases hc : (c != 0x7B && c != 0x5B) = true
    · rw [if_pos hc] at h; cases h
    · rw [if_neg hc] at h
      rcases hv : value false (fuelFor b) b with ⟨v, r⟩ | _ | _
      · rw [hv] at h
        refine ⟨[], ?_⟩
        rw [List.append_nil]
        exact relaxedDoc_of_value b c cs v r hb hc hv h
      · obtain ⟨s, hs⟩ := (complete_all (fuelFor b)).1 b hv
        obtain ⟨v, hv2⟩ := hs [0x20] (closer_sp [])
        refine ⟨s ++ [0x20], ?_⟩
        have hf : fuelFor b + 1 ≤ fuelFor (b ++ (s ++ [0x20])) := by
          unfold fuelFor; simp only [List.length_append, List.length_cons, List.length_nil]; omega
        have hv3 := value_mono_le false _ _ _ _ _ hf hv2
        exact relaxedDoc_of_value _ c (cs ++ (s ++ [0x20])) v [0x20]
          (skipWs_app_cons _ c cs b hb) hc hv3 (by decide)
      · rw [hv] at h; cases h

/-! ### non-vacuity -/

example : Mime.Spec.J.viable [0x5B, 0x7B, 0x22, 0x61] = true := by decide
example : Mime.Spec.J.relaxedDoc ([0x5B, 0x7B, 0x22, 0x61] ++ [0x22, 0x3A, 0x30, 0x7D, 0x5D]) = true := by decide
-- the suffix the construction yields ends in a blank
example : Mime.Spec.J.relaxedDoc ([0x5B, 0x7B, 0x22, 0x61] ++ [0x22, 0x3A, 0x30, 0x7D, 0x5D, 0x20]) = true := by decide
-- `[1,` : trailing comma, closed by `]`
example : Mime.Spec.J.viable [0x5B, 0x31, 0x2C] = true := by decide
example : Mime.Spec.J.relaxedDoc ([0x5B, 0x31, 0x2C] ++ [0x5D]) = true := by decide
-- `{"k":-` : a cut number gets `0`, then `}`
example : Mime.Spec.J.viable [0x7B, 0x22, 0x6B, 0x22, 0x3A, 0x2D] = true := by decide
example : Mime.Spec.J.relaxedDoc ([0x7B, 0x22, 0x6B, 0x22, 0x3A, 0x2D] ++ [0x30, 0x7D]) = true := by decide
-- `["\u1` : pad the escape, close the string, close the array
example : Mime.Spec.J.viable [0x5B, 0x22, 0x5C, 0x75, 0x31] = true := by decide
example : Mime.Spec.J.relaxedDoc ([0x5B, 0x22, 0x5C, 0x75, 0x31] ++ [0x30, 0x30, 0x30, 0x22, 0x5D]) = true := by decide
-- `[tr` : finish the literal
example : Mime.Spec.J.viable [0x5B, 0x74, 0x72] = true := by decide
example : Mime.Spec.J.relaxedDoc ([0x5B, 0x74, 0x72] ++ [0x75, 0x65, 0x5D]) = true := by decide
-- not everything is viable
example : Mime.Spec.J.viable [0x5B, 0x5D, 0x5D] = false := by decide
example : Mime.Spec.J.viable [0x31] = false := by decide

end Mime.SpecComplete
