import MimeModel.Basic
/-
  What the byte-string operations of `Basic.lean` do: `bytes.Index`, `bytes.HasPrefix`,
  `slice`, `trimLWS`.  No format here, only lists.
-/
namespace Mime

theorem ite_cases {α} {c : Prop} [Decidable c] {t e r : α} (ht : c → t = r) (he : ¬ c → e = r) :
    (if c then t else e) = r := by
  split
  · exact ht ‹_›
  · exact he ‹_›

theorem of_reverse_cons {α} (x : List α) (b : α) (r : List α) (h : x.reverse = b :: r) : x = r.reverse ++ [b] := by
  rw [← List.reverse_reverse x, h, List.reverse_cons]

theorem dropWhile_append_none {α} (p : α → Bool) (l m : List α) (h : ∀ x ∈ l, p x = false) (hne : l ≠ []) :
    (l ++ m).dropWhile p = l ++ m := by
  cases l with
  | nil => exact absurd rfl hne
  | cons a as => exact List.dropWhile_cons_of_neg (by rw [h a (List.mem_cons_self ..)]; exact Bool.false_ne_true)


theorem hasPrefix_append_left (p a b : Bytes) : hasPrefix (p ++ a) (p ++ b) = hasPrefix a b := by
  rw [Bool.eq_iff_iff, hasPrefix_iff, hasPrefix_iff]
  exact List.prefix_append_right_inj p

theorem hasPrefix_trans {x a b : Bytes} (h1 : hasPrefix x a = true) (h2 : hasPrefix a b = true) :
    hasPrefix x b = true := by
  rw [hasPrefix_iff] at *
  exact List.IsPrefix.trans h2 h1

theorem indexOf_cons (sep : Bytes) (a : Nat) (as : Bytes) :
    indexOf sep (a :: as) = if sep.isPrefixOf (a :: as) then some 0 else (indexOf sep as).map (· + 1) := by
  rw [indexOf]
  cases indexOf sep as <;> rfl

theorem indexOf_cons_none {sep : Bytes} {a : Nat} {as : Bytes} (h : indexOf sep (a :: as) = none) :
    sep.isPrefixOf (a :: as) = false ∧ indexOf sep as = none := by
  rw [indexOf_cons] at h
  split at h
  · cases h
  · exact ⟨Bool.eq_false_iff.mpr ‹_›, Option.map_eq_none_iff.mp h⟩

theorem indexOf_nil (sep : Bytes) (k : Nat) (h : indexOf sep [] = some k) : sep = [] ∧ k = 0 := by
  rw [indexOf] at h
  split at h
  · exact ⟨List.isEmpty_iff.1 ‹_›, (Option.some.inj h).symm⟩
  · cases h

theorem indexOf_some (sep : Bytes) : ∀ (b : Bytes) (k : Nat), indexOf sep b = some k →
    k ≤ b.length ∧ sep <+: b.drop k := by
  intro b
  induction b with
  | nil =>
    intro k h
    obtain ⟨rfl, rfl⟩ := indexOf_nil sep k h
    exact ⟨Nat.le_refl _, List.nil_prefix⟩
  | cons a as ih =>
    intro k h
    rw [indexOf_cons] at h
    split at h
    · cases h
      exact ⟨Nat.zero_le _, List.isPrefixOf_iff_prefix.mp ‹_›⟩
    · obtain ⟨j, hj, rfl⟩ := Option.map_eq_some_iff.mp h
      exact ⟨Nat.succ_le_succ (ih j hj).1, (ih j hj).2⟩

theorem indexOf_spec (sep : Bytes) {b : Bytes} (k : Nat) (h : indexOf sep b = some k) :
    hasPrefix (b.drop k) sep = true :=
  hasPrefix_iff.mpr (indexOf_some sep b k h).2

theorem indexOf_bound (sep b : Bytes) (k : Nat) (h : indexOf sep b = some k) : k + sep.length ≤ b.length := by
  obtain ⟨hk, hp⟩ := indexOf_some sep b k h
  have := hp.length_le
  rw [List.length_drop] at this
  omega

theorem indexOf_split (sep b : Bytes) (k : Nat) (h : indexOf sep b = some k) :
    b = b.take k ++ sep ++ b.drop (k + sep.length) := by
  obtain ⟨_, t, ht⟩ := indexOf_some sep b k h
  rw [← List.drop_drop, ← ht, List.drop_left, List.append_assoc, ht, List.take_append_drop]

theorem indexOf_append_some (sep : Bytes) : ∀ (b t : Bytes) (k : Nat), indexOf sep b = some k →
    indexOf sep (b ++ t) = some k := by
  intro b
  induction b with
  | nil =>
    intro t k h
    obtain ⟨rfl, rfl⟩ := indexOf_nil sep k h
    cases t <;> rfl
  | cons a as ih =>
    intro t k h
    have hpre : a :: as <+: a :: (as ++ t) := List.prefix_append (a :: as) t
    rw [indexOf_cons] at h
    rw [List.cons_append, indexOf_cons]
    split at h
    · rename_i hp
      rw [List.isPrefixOf_iff_prefix] at hp
      rw [← h, if_pos (List.isPrefixOf_iff_prefix.2 (hp.trans hpre))]
    · rename_i hnp
      obtain ⟨j, hj, rfl⟩ := Option.map_eq_some_iff.1 h
      have hb := indexOf_bound sep as j hj
      -- an occurrence at the front of `a :: as ++ t` would fit into `a :: as`
      rw [if_neg, ih t j hj]; rfl
      intro hc
      rw [List.isPrefixOf_iff_prefix] at hc hnp
      exact hnp (List.prefix_of_prefix_length_le hc hpre (by simp only [List.length_cons]; omega))

theorem indexOf_isSome_append (sep : Bytes) (b s : Bytes) (h : (indexOf sep b).isSome = true) :
    (indexOf sep (b ++ s)).isSome = true := by
  cases hi : indexOf sep b with
  | none => rw [hi] at h; cases h
  | some k => rw [indexOf_append_some sep b s k hi]; rfl

theorem containsSub_append (b s sep : Bytes) (h : containsSub b sep = true) :
    containsSub (b ++ s) sep = true := by
  unfold containsSub at *; exact indexOf_isSome_append sep b s h

theorem indexOf_drop_none {sep : Bytes} : ∀ (k : Nat) (s : Bytes), indexOf sep s = none →
    indexOf sep (s.drop k) = none := by
  intro k
  induction k with
  | zero => intro s h; simpa using h
  | succ k ih =>
    intro s h
    cases s with
    | nil => simpa using h
    | cons a as => simpa using ih as (indexOf_cons_none h).2

theorem indexOf_skip (h0 : Nat) (sepT pre s : Bytes) (hpre : ∀ c ∈ pre, c ≠ h0) :
    indexOf (h0 :: sepT) (pre ++ s) = (indexOf (h0 :: sepT) s).map (· + pre.length) := by
  induction pre with
  | nil => cases h : indexOf (h0 :: sepT) s <;> simp [h]
  | cons c cs ih =>
    have hc : (h0 == c) = false := by
      have := hpre c (List.mem_cons_self ..)
      simpa using fun e => this e.symm
    rw [List.cons_append, indexOf_cons, if_neg (by simp [List.isPrefixOf, hc]),
      ih (fun y hy => hpre y (List.mem_cons_of_mem _ hy))]
    cases indexOf (h0 :: sepT) s <;> simp [Nat.add_assoc]

theorem indexOf_self_append {sep : Bytes} (x : Bytes) (hne : sep ≠ []) : indexOf sep (sep ++ x) = some 0 := by
  cases sep with
  | nil => exact absurd rfl hne
  | cons a as =>
    rw [List.cons_append, indexOf_cons, ← List.cons_append,
      if_pos (List.isPrefixOf_iff_prefix.mpr (List.prefix_append _ _))]

theorem slice_append_left (p s : Bytes) (lo hi : Nat) (h : hi ≤ p.length) :
    slice (p ++ s) lo hi = slice p lo hi := by
  simp only [slice]
  rw [List.take_append_of_le_length h]

theorem trimLWS_lead (lead : Bytes) (x : Nat) (r : Bytes) (hl : ∀ c ∈ lead, isWS c = true)
    (hx : isWS x = false) : trimLWS (lead ++ x :: r) = x :: r := by
  induction lead with
  | nil => simp [trimLWS, hx]
  | cons c cs ih =>
    have hc := hl c (List.mem_cons_self ..)
    simp only [List.cons_append, trimLWS, hc, ↓reduceIte]
    exact ih (fun y hy => hl y (List.mem_cons_of_mem _ hy))

theorem getD_append_left (p s : Bytes) (i : Nat) (h : i < p.length) :
    (p ++ s).getD i 0 = p.getD i 0 := by
  simp [List.getD, List.getElem?_append_left h]

theorem u16_append (p s : Bytes) (o : Nat) (h : o + 2 ≤ p.length) :
    u16be (p ++ s) o = u16be p o ∧ u16le (p ++ s) o = u16le p o := by
  simp only [u16be, u16le]
  rw [getD_append_left p s o (by omega), getD_append_left p s (o+1) (by omega)]
  exact ⟨rfl, rfl⟩

theorem u32_append (p s : Bytes) (o : Nat) (h : o + 4 ≤ p.length) :
    u32be (p ++ s) o = u32be p o ∧ u32le (p ++ s) o = u32le p o := by
  simp only [u32be, u32le]
  rw [getD_append_left p s o (by omega), getD_append_left p s (o+1) (by omega),
    getD_append_left p s (o+2) (by omega), getD_append_left p s (o+3) (by omega)]
  exact ⟨rfl, rfl⟩

/-- the window `raw[lo:min(cap,len)]` only grows when the input is extended -/
theorem slice_window (p s : Bytes) (lo cap : Nat) (ho : lo ≤ min cap p.length) :
    ∃ t, slice (p ++ s) lo (min cap (p ++ s).length) = slice p lo (min cap p.length) ++ t := by
  simp only [slice]
  have hab : min cap (p ++ s).length = min cap p.length + (min cap (p ++ s).length - min cap p.length) := by
    simp; omega
  rw [hab, List.take_add, List.take_append_of_le_length (by omega)]
  rw [List.drop_append_of_le_length (by simp only [List.length_take]; omega)]
  exact ⟨_, rfl⟩

theorem slice_set_outside (l : Bytes) (k v lo hi : Nat) (h : k < lo ∨ hi ≤ k) :
    slice (l.set k v) lo hi = slice l lo hi := by
  unfold slice
  apply List.ext_getElem?
  intro n
  simp only [List.getElem?_drop, List.getElem?_take]
  split
  · rw [List.getElem?_set_ne (by omega)]
  · rfl

end Mime
