import MimeModel.Props.C03
/-
  What the *leaf* of the first-match walk tells about its surroundings, for every tree and every
  verdict function: the sub-formats of the leaf all rejected, and — unless the leaf is the root —
  the leaf accepted and all its higher-priority siblings rejected.

  Nodes are seen through their payloads, so the surroundings are given as two tables computed from
  the tree: `kids` (payload of a node, payloads of its children) and `older` (payload of a non-root
  node, payloads of the siblings consulted before it).  For a concrete tree, facts about these
  tables are decidable ("whatever is called har has a GeoJSON node among its older siblings").
-/
namespace Mime.Tree
variable {α : Type}

mutual
/-- for every node of the tree: its payload and the payloads of its children, in order -/
def kids : Tree α → List (α × List α)
  | .node a cs => (a, cs.map info) :: kidsList cs
def kidsList : List (Tree α) → List (α × List α)
  | [] => []
  | c :: cs => kids c ++ kidsList cs
end

mutual
/-- for every node of the tree except the root: its payload and the payloads of the siblings that
    come before it (those `match` consults first: at one level, the payloads of what
    `WalkPath.rivals` collects and of what `C03.Path.descend` calls `pre`) -/
def older : Tree α → List (α × List α)
  | .node _ cs => olderList [] cs
def olderList (pre : List α) : List (Tree α) → List (α × List α)
  | [] => []
  | c :: cs => (c.info, pre) :: (older c ++ olderList (pre ++ [c.info]) cs)
end

theorem kids_head (t : Tree α) : (t.info, t.children.map info) ∈ kids t := by
  cases t; simp [kids, info, children]

theorem kidsList_mem (c : Tree α) {x : α × List α} (hx : x ∈ kids c) :
    ∀ cs : List (Tree α), c ∈ cs → x ∈ kidsList cs := by
  intro cs
  induction cs with
  | nil => intro h; cases h
  | cons d ds ih =>
    intro h
    simp only [kidsList, List.mem_append]
    cases h with
    | head => exact Or.inl hx
    | tail _ h' => exact Or.inr (ih h')

theorem olderList_mem_sub (c : Tree α) {x : α × List α} (hx : x ∈ older c) :
    ∀ (cs : List (Tree α)) (p : List α), c ∈ cs → x ∈ olderList p cs := by
  intro cs
  induction cs with
  | nil => intro p h; cases h
  | cons d ds ih =>
    intro p h
    simp only [olderList, List.mem_cons, List.mem_append]
    cases h with
    | head => exact Or.inr (Or.inl hx)
    | tail _ h' => exact Or.inr (Or.inr (ih _ h'))

theorem olderList_mem_self (c : Tree α) (post : List (Tree α)) :
    ∀ (pre : List (Tree α)) (p : List α), (c.info, p ++ pre.map info) ∈ olderList p (pre ++ c :: post) := by
  intro pre
  induction pre with
  | nil => intro p; simp [olderList]
  | cons d ds ih =>
    intro p
    simp only [List.cons_append, olderList, List.mem_cons, List.mem_append, List.map_cons]
    right; right
    have := ih (p ++ [d.info])
    simpa using this

theorem path_leaf {acc : α → Bool} (t : Tree α) {p : List α} (h : C03.Path acc t p) :
    ∃ l, p.getLast? = some l ∧
      (∃ cs, (l, cs) ∈ kids t ∧ ∀ c ∈ cs, acc c = false) ∧
      (l = t.info ∨ ∃ pre, (l, pre) ∈ older t ∧ (∀ d ∈ pre, acc d = false) ∧ acc l = true) := by
  induction h with
  | stop a cs hnone =>
    refine ⟨a, by simp, ⟨cs.map info, by simp [kids], ?_⟩, Or.inl rfl⟩
    intro c hc
    obtain ⟨n, hn, rfl⟩ := List.mem_map.1 hc
    exact hnone n hn
  | descend a pre c post p hp hc hpath ih =>
    obtain ⟨l, hl, ⟨cs, hk, hrej⟩, hcase⟩ := ih
    have hcm : c ∈ pre ++ c :: post := by simp
    refine ⟨l, ?_, ⟨cs, ?_, hrej⟩, Or.inr ?_⟩
    · cases p with
      | nil => cases hpath
      | cons x xs => simpa [List.getLast?_cons_cons] using hl
    · simp only [kids, List.mem_cons]
      exact Or.inr (kidsList_mem c hk _ hcm)
    · rcases hcase with rfl | ⟨pre', ho, hr, ha⟩
      · refine ⟨pre.map info, ?_, ?_, hc⟩
        · have := olderList_mem_self c post pre []
          simpa [older] using this
        · intro d hd
          obtain ⟨n, hn, rfl⟩ := List.mem_map.1 hd
          exact hp n hn
      · exact ⟨pre', by simpa [older] using olderList_mem_sub c ho _ [] hcm, hr, ha⟩

theorem detect_leaf (ext : Ext) (T : Tree Info) (x : Bytes) (lim : Nat) (leaf : Info)
    (h : (detect ext T x lim).chain.head? = some leaf) :
    (∃ cs, (leaf, cs) ∈ kids T ∧ ∀ c ∈ cs, accepts ext (header x lim) lim c = false) ∧
    (leaf = T.info ∨ ∃ pre, (leaf, pre) ∈ older T ∧
      (∀ d ∈ pre, accepts ext (header x lim) lim d = false) ∧ accepts ext (header x lim) lim leaf = true) := by
  obtain ⟨l, hl, h1, h2⟩ := path_leaf T (C03.walk_spec (accepts ext (header x lim) lim) T)
  have : leaf = l := by
    have h' : (T.walk (accepts ext (header x lim) lim)).reverse.head? = some leaf := h
    rw [List.head?_reverse, hl] at h'
    exact (Option.some.inj h').symm
  subst this
  exact ⟨h1, h2⟩

example : kids (.node 1 [.node 3 [], .node 4 [.node 5 [], .node 6 []], .node 8 []]) =
    [(1, [3, 4, 8]), (3, []), (4, [5, 6]), (5, []), (6, []), (8, [])] := rfl
example : older (.node 1 [.node 3 [], .node 4 [.node 5 [], .node 6 []], .node 8 []]) =
    [(3, []), (4, [3]), (5, []), (6, [5]), (8, [3, 4])] := rfl

end Mime.Tree
