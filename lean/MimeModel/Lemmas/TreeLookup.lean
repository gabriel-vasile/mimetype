import MimeModel.Model.Tree
/-
  What `lookup p` returns, for any tree: a path that ends in a node of the tree satisfying `p`,
  and `none` only when no node satisfies `p`.
-/
namespace Mime.Tree
variable {α : Type}

mutual
theorem lookup_some (p : α → Bool) : ∀ (t : Tree α) (l : List α), lookup p t = some l →
    ∃ b, l.getLast? = some b ∧ p b = true ∧ b ∈ flatten t
  | .node a ts, l, hl => by
    simp only [lookup] at hl
    split at hl
    · rename_i hp
      cases hl
      exact ⟨a, rfl, hp, List.mem_cons_self ..⟩
    · obtain ⟨l', hl', rfl⟩ := Option.map_eq_some_iff.mp hl
      obtain ⟨b, hb, hp, hm⟩ := lookupList_some p ts l' hl'
      refine ⟨b, ?_, hp, List.mem_cons_of_mem _ hm⟩
      cases l' with
      | nil => cases hb
      | cons x xs => rw [List.getLast?_cons_cons]; exact hb
theorem lookupList_some (p : α → Bool) : ∀ (ts : List (Tree α)) (l : List α), lookupList p ts = some l →
    ∃ b, l.getLast? = some b ∧ p b = true ∧ b ∈ flattenList ts
  | [], l, hl => by cases hl
  | t :: ts, l, hl => by
    simp only [lookupList] at hl
    simp only [flattenList, List.mem_append]
    split at hl
    · rename_i r hr
      cases hl
      obtain ⟨b, hb, hp, hm⟩ := lookup_some p t l hr
      exact ⟨b, hb, hp, Or.inl hm⟩
    · obtain ⟨b, hb, hp, hm⟩ := lookupList_some p ts l hl
      exact ⟨b, hb, hp, Or.inr hm⟩
end

mutual
theorem lookup_none (p : α → Bool) : ∀ (t : Tree α), lookup p t = none → ∀ b ∈ flatten t, p b = false
  | .node a ts, hl, b, hb => by
    simp only [lookup] at hl
    split at hl
    · cases hl
    · rename_i hp
      rcases List.mem_cons.mp hb with rfl | hb
      · exact Bool.not_eq_true _ ▸ hp
      · exact lookupList_none p ts (Option.map_eq_none_iff.mp hl) b hb
theorem lookupList_none (p : α → Bool) : ∀ (ts : List (Tree α)), lookupList p ts = none →
    ∀ b ∈ flattenList ts, p b = false
  | [], _, b, hb => by cases hb
  | t :: ts, hl, b, hb => by
    simp only [lookupList] at hl
    split at hl
    · cases hl
    · rename_i hr
      rcases List.mem_append.mp hb with hb | hb
      · exact lookup_none p t hr b hb
      · exact lookupList_none p ts hl b hb
end

end Mime.Tree
