import MimeModel.Props.C19_Detect
import MimeModel.Lemmas.ZipConverse
import MimeModel.Lemmas.ZipOdf
import MimeModel.Model.Closed
import MimeModel.Lemmas.DetectPath
/-
  C19, the OpenDocument / EPUB clause, from the zip layout, through `Detect` (limit 0):

    "For archives produced by a standard zip writer and examined in full: … one whose first entry
     is the stored 'mimetype' file naming an OpenDocument or EPUB type is reported as that type.
     … every such verdict has application/zip as its parent."
-/
namespace Mime.C19Odf
open Mime.C19
open Mime Mime.Cust Mime.Tree Mime.WalkPath Mime.Spec.Zip Mime.ZipLayout Mime.ZipConverse Mime.ZipOdf

/-- `offset([]byte("mimetype" + mime), 30)` of zip.go, as the extractor renders it -/
def odfDet (mime : Bytes) : Det := .expr (.and (.lenGe 31) (.prefixAt 30 (mtB ++ mime)))

def tplChild (d t : String) : Tree Info := ((zipChild d).children.find? (isNamed t)).getD Gen.builtin

def odfNodes : List (Tree Info) :=
  [zipChild "epub", zipChild "odt", tplChild "odt" "ott", zipChild "ods", tplChild "ods" "ots",
   zipChild "odp", tplChild "odp" "otp", zipChild "odg", tplChild "odg" "otg",
   zipChild "odf", zipChild "odc", zipChild "sxc"]

theorem odf_dets : ∀ t ∈ odfNodes, t.info.det =
    .expr (.and (.lenGe 31) (.prefixAt 30 (ofString "mimetype" ++ t.info.mime))) := by
  rw [mtB_eq]
  have h : odfNodes.all (fun t => t.info.det == odfDet t.info.mime) = true := by decide +kernel
  intro t ht
  simpa [odfDet] using List.all_eq_true.mp h t ht

theorem odf_mimes : odfNodes.map (·.info.mime) =
    [ofString "application/epub+zip",
     ofString "application/vnd.oasis.opendocument.text",
     ofString "application/vnd.oasis.opendocument.text-template",
     ofString "application/vnd.oasis.opendocument.spreadsheet",
     ofString "application/vnd.oasis.opendocument.spreadsheet-template",
     ofString "application/vnd.oasis.opendocument.presentation",
     ofString "application/vnd.oasis.opendocument.presentation-template",
     ofString "application/vnd.oasis.opendocument.graphics",
     ofString "application/vnd.oasis.opendocument.graphics-template",
     ofString "application/vnd.oasis.opendocument.formula",
     ofString "application/vnd.oasis.opendocument.chart",
     ofString "application/vnd.sun.xml.calc"] := by
  repeat rw [ofString_ofList]
  decide +kernel

theorem odf_mimes_head :
    (zipChild "epub").info.mime = ofString "application/epub+zip" ∧
    (zipChild "odt").info.mime = ofString "application/vnd.oasis.opendocument.text" ∧
    (tplChild "odt" "ott").info.mime = ofString "application/vnd.oasis.opendocument.text-template" := by
  obtain ⟨h1, h⟩ := List.cons.inj odf_mimes
  obtain ⟨h2, h⟩ := List.cons.inj h
  exact ⟨h1, h2, (List.cons.inj h).1⟩

theorem accepts_congr (ext : Ext) (raw : Bytes) (lim : Nat) (i j : Info) (h : i.det = j.det) :
    accepts ext raw lim i = accepts ext raw lim j := by
  unfold accepts; rw [h]

theorem accepts_prefix0 (ext : Ext) (raw : Bytes) (lim : Nat) (i : Info) (s : Bytes)
    (hd : i.det = .expr (.prefixAt 0 s)) : accepts ext raw lim i = hasPrefix raw s := by
  unfold accepts Cust.detEval
  rw [hd]
  cases h : hasPrefix raw s <;> simp [Det.evalWith, BExp.eval, h]

theorem accepts_at30 (ext : Ext) (raw : Bytes) (lim : Nat) (i : Info) (k : Nat) (s : Bytes)
    (hd : i.det = .expr (.and (.lenGe k) (.prefixAt 30 s))) (hl : 30 ≤ raw.length) :
    accepts ext raw lim i = (decide (k ≤ raw.length) && hasPrefix (raw.drop 30) s) := by
  unfold accepts Cust.detEval
  rw [hd]
  by_cases hk : k ≤ raw.length <;> simp [Det.evalWith, BExp.eval, hl, hk]

theorem zip_det : zipNode.info.det = Gen.d_Zip := by decide +kernel

theorem apk_det : (zipChild "apk").info.det = Gen.d_APK := by decide +kernel

theorem zip_accepts' (ext : Ext) (raw : Bytes) (lim : Nat) (hpk : hasPrefix raw pk34 = true) :
    accepts ext raw lim zipNode.info = true := by
  obtain ⟨r, rfl⟩ := hasPrefix_iff.mp hpk
  exact zip_accepts ext r lim

/-- the node whose type the stored `mimetype` file names accepts the archive
    (limit 0: the header is the whole input) -/
theorem odf_accepts (ext : Ext) (e : Entry) (es : List Entry) (tail : Bytes) (t : Tree Info)
    (ht : t ∈ odfNodes) (h : StoredMimetype e t.info.mime) :
    accepts ext (archive (e :: es) tail) 0 t.info = true := by
  have hd : t.info.det = odfDet t.info.mime := by
    have := odf_dets t ht; rw [mtB_eq] at this; exact this
  obtain ⟨hp, hl⟩ := mimetype_at_30 h es tail
  rw [mtB_eq] at hp
  rw [accepts_at30 ext _ 0 _ _ _ hd (by omega), hp, decide_eq_true hl]
  rfl

def ooxmlMarkers : List Bytes := [[120, 108, 47], [119, 111, 114, 100, 47], [112, 112, 116, 47]]

theorem ooxmlMarkers_eq : ooxmlMarkers = [ofString "xl/", ofString "word/", ofString "ppt/"] := by
  repeat rw [ofString_ofList]
  decide +kernel

theorem ooxml_rejects (e : Entry) (es : List Entry) (tail sig : Bytes) (hwf : e.WF)
    (hname : e.name = ofString "mimetype") (hsig : sig ∈ ooxmlMarkers) :
    zipContains (archive (e :: es) tail) sig true = some false := by
  refine mso_rejects_first_entry e es tail sig hwf ?_ ?_
  · rw [hname, mtB_eq]
    have : ooxmlMarkers.all (fun s => incomp mtB s) = true := by decide +kernel
    exact List.all_eq_true.mp this sig hsig
  · rw [hname, mtB_eq]; exact mimetype_skip

theorem ooxml_not_accepts (ext : Ext) (e : Entry) (es : List Entry) (tail : Bytes) (hwf : e.WF)
    (hname : e.name = ofString "mimetype") (n : String) (hn : n ∈ ["xlsx", "docx", "pptx"]) :
    accepts ext (archive (e :: es) tail) 0 (zipChild n).info = false := by
  have hd : ∃ sig ∈ ooxmlMarkers, (zipChild n).info.det = .expr (.prim (.zipContains sig true)) := by
    obtain ⟨hdocx, _, hxlsx, _, hpptx, _⟩ := child_facts
    simp only [List.mem_cons, List.not_mem_nil, or_false] at hn
    rcases hn with rfl | rfl | rfl
    · exact ⟨_, by simp [ooxmlMarkers], hxlsx⟩
    · exact ⟨_, by simp [ooxmlMarkers], hdocx⟩
    · exact ⟨_, by simp [ooxmlMarkers], hpptx⟩
  obtain ⟨sig, hs, hd⟩ := hd
  rw [accepts_zipContains ext _ 0 _ sig true hd, ooxml_rejects e es tail sig hwf hname hs]
  rfl

/-- detectors that reject every buffer starting with `PK\x03\x04` that shows `mimetype ++ ty` at
    offset 30 — recognised by shape: a prefix check at 0 for something else than the signature,
    an OOXML `zipContains` for a marker that is not comparable with `mimetype`, an offset-30
    check for a string that is not comparable with `mimetype ++ ty` -/
def rej (ty : Bytes) : Det → Bool
  | .expr (.prefixAt 0 s) => incomp pk34 s
  | .expr (.prim (.zipContains sig true)) => incomp mtB sig
  | .expr (.and (.lenGe _) (.prefixAt 30 s)) => incomp (mtB ++ ty) s
  | _ => false

theorem rej_sound (ext : Ext) (raw ty : Bytes) (lim : Nat) (i : Info)
    (hpk : hasPrefix raw pk34 = true) (hl : 30 ≤ raw.length)
    (hp : hasPrefix (raw.drop 30) (mtB ++ ty) = true) (h : rej ty i.det = true) :
    accepts ext raw lim i = false := by
  unfold rej at h
  split at h
  · rename_i s hd
    rw [accepts_prefix0 ext raw lim i s hd, incomp_false h hpk]
  · rename_i sig hd
    have hm : hasPrefix (raw.drop 30) mtB = true :=
      hasPrefix_trans hp (hasPrefix_iff.mpr (List.prefix_append _ _))
    rw [accepts_zipContains ext raw lim i sig true hd,
      zipContains_mso_first_name raw sig mtB hl hpk hm h mimetype_skip]
    rfl
  · rename_i k s hd
    rw [accepts_at30 ext raw lim i k s hd hl, incomp_false h hp, Bool.and_false]
  · cases h

/-- detectors that accept every such buffer: the `Zip` check, and an offset-30 check for a
    beginning of `mimetype ++ ty` -/
def acc (ty : Bytes) (d : Det) : Bool :=
  d == Gen.d_Zip ||
  (match d with
   | .expr (.and (.lenGe 31) (.prefixAt 30 s)) => hasPrefix (mtB ++ ty) s
   | _ => false)

theorem acc_sound (ext : Ext) {raw : Bytes} (ty : Bytes) (lim : Nat) (i : Info)
    (hpk : hasPrefix raw pk34 = true) (hl : 31 ≤ raw.length)
    (hp : hasPrefix (raw.drop 30) (mtB ++ ty) = true) (h : acc ty i.det = true) :
    accepts ext raw lim i = true := by
  unfold acc at h
  rw [Bool.or_eq_true] at h
  rcases h with h | h
  · rw [accepts_congr ext raw lim i zipNode.info ((beq_iff_eq.mp h).trans zip_det.symm)]
    exact zip_accepts' ext raw lim hpk
  · split at h
    · rename_i s hd
      rw [accepts_at30 ext raw lim i 31 s hd (by omega), hasPrefix_trans hp h, decide_eq_true hl]
      rfl
    · cases h

theorem detect_path (ext : Ext) (T : Tree Info) (raw : Bytes) (ps : List (Tree Info → Bool)) (target : Tree Info)
    (hdesc : descend ps T = some target)
    (hpath : ∀ n ∈ pathNodes ps T, accepts ext raw 0 n.info = true)
    (hkids : ∀ c ∈ target.children, accepts ext raw 0 c.info = false)
    (hriv : ∀ d ∈ rivals ps T, accepts ext raw 0 d.info = false) :
    (detect ext T raw 0).chain = target.info :: ((T :: pathNodes ps T).dropLast.map (·.info)).reverse := by
  rcases DetectPath.detect_along ext T raw 0 ps target hdesc hpath hkids with h | ⟨d, hd, ha⟩
  · exact h.1
  · rw [show header raw 0 = raw from rfl, hriv d hd] at ha
    cases ha

/-- the walk on an archive whose first entry is the stored `mimetype` file: along a path of
    the tree all of whose nodes accept by shape (`acc`) and all of whose rivals reject by shape
    (`rej`), to a node none of whose children accepts, the result is that path -/
theorem mimetype_path (ext : Ext) (e : Entry) (es : List Entry) (tail : Bytes) {ty : Bytes}
    (h : StoredMimetype e ty)
    (ps : List (Tree Info → Bool)) (target : Tree Info) (hdesc : descend ps Gen.builtin = some target)
    (hpath : ∀ n ∈ pathNodes ps Gen.builtin, acc ty n.info.det = true)
    (hkids : ∀ c ∈ target.children, accepts ext (archive (e :: es) tail) 0 c.info = false)
    (hriv : ∀ d ∈ rivals ps Gen.builtin, rej ty d.info.det = true) :
    (detect ext Gen.builtin (archive (e :: es) tail) 0).chain =
      target.info :: ((Gen.builtin :: pathNodes ps Gen.builtin).dropLast.map (·.info)).reverse := by
  obtain ⟨hp, hl⟩ := mimetype_at_30 h es tail
  rw [mtB_eq] at hp
  have hpk := archive_hasPrefix_pk34 e es tail
  exact detect_path ext Gen.builtin _ ps target hdesc
    (fun n hn => acc_sound ext ty 0 n.info hpk hl hp (hpath n hn)) hkids
    (fun d hd => rej_sound ext _ ty 0 d.info hpk (by omega) hp (hriv d hd))

/-- the regenerated lists below name the rivals that do not reject by shape; an empty list of
    names says that each rival rejects -/
theorem rej_of_names_nil {ty : Bytes} {l : List (Tree Info)}
    (h : (l.filter (fun d => !rej ty d.info.det)).map (·.info.name) = []) :
    ∀ d ∈ l, rej ty d.info.det = true := by
  intro d hd
  have := List.filter_eq_nil_iff.mp (List.map_eq_nil_iff.mp h) d hd
  simpa using this

theorem descend_zipPath (n : String) (hf : (zipNode.children.find? (isNamed n)).isSome = true) :
    descend (zipPath n) Gen.builtin = some (zipChild n) ∧
    pathNodes (zipPath n) Gen.builtin = [zipNode, zipChild n] := by
  simp [zipPath, descend, pathNodes, zip_found, child_found n hf]

theorem epub_rival_names :
    (rivals (zipPath "epub") Gen.builtin).map (·.info.name) = ["xpm", "sevenZ", "xlsx", "docx", "pptx"] ∧
    (rivals (zipPath "epub") Gen.builtin).all (fun d => rej (zipChild "epub").info.mime d.info.det) = true := by
  constructor <;> decide +kernel

theorem epub_detected (ext : Ext) (e : Entry) (es : List Entry) (tail : Bytes)
    (h : StoredMimetype e (ofString "application/epub+zip")) :
    (detect ext Gen.builtin (archive (e :: es) tail) 0).chain =
      [(zipChild "epub").info, zipNode.info, Gen.builtin.info] := by
  rw [← odf_mimes_head.1] at h
  obtain ⟨hdesc, hnodes⟩ := descend_zipPath "epub" (by decide +kernel)
  rw [mimetype_path ext e es tail h (zipPath "epub") (zipChild "epub") hdesc (by rw [hnodes]; decide)
    (by rw [show (zipChild "epub").children = [] by decide +kernel]; simp)
    (List.all_eq_true.mp epub_rival_names.2), hnodes]
  rfl

/-- the zip children with an offset-30 signature that come after epub; tree.go consults them
    before apk and jar -/
def odfDocs : List String := ["odt", "ods", "odp", "odg", "odf", "odc", "sxc"]

/-- the regenerated facts used for a document `n`: it is a child of zip, zip and `n` accept by
    shape an archive whose `mimetype` file names `n`'s type, and the children of `n` (the
    template) have the offset-30 signature for their own type -/
def docOK (n : String) : Bool :=
  (zipNode.children.find? (isNamed n)).isSome &&
  (pathNodes (zipPath n) Gen.builtin).all (fun x => acc (zipChild n).info.mime x.info.det) &&
  (zipChild n).children.all (fun c => c.info.det == odfDet c.info.mime)

theorem docs_ok : odfDocs.all docOK = true := by decide +kernel

theorem zip_children_order : zipNode.children.map (·.info.name) =
    ["xlsx", "docx", "pptx", "epub", "odt", "ods", "odp", "odg", "odf", "odc", "sxc", "apk", "jar"] := by
  decide +kernel

/-- none of the detectors consulted before odt … sxc fails to reject by shape; the last of them,
    sxc, is preceded by everything but apk and jar -/
theorem odf_rival_names :
    (∀ n ∈ odfDocs, ((rivals (zipPath n) Gen.builtin).filter
      (fun d => !rej (zipChild n).info.mime d.info.det)).map (·.info.name) = []) ∧
    (rivals (zipPath "odt") Gen.builtin).map (·.info.name) =
      ["xpm", "sevenZ", "xlsx", "docx", "pptx", "epub"] ∧
    (rivals (zipPath "sxc") Gen.builtin).map (·.info.name) =
      ["xpm", "sevenZ", "xlsx", "docx", "pptx", "epub", "odt", "ods", "odp", "odg", "odf", "odc"] := by
  refine ⟨by decide +kernel, by decide +kernel, by decide +kernel⟩

theorem odf_detected (ext : Ext) (n : String) (hn : n ∈ odfDocs) (e : Entry) (es : List Entry)
    (tail : Bytes) (h : StoredMimetype e (zipChild n).info.mime)
    (hkids : ∀ c ∈ (zipChild n).children,
      hasPrefix ((archive (e :: es) tail).drop 30) (ofString "mimetype" ++ c.info.mime) = false) :
    (detect ext Gen.builtin (archive (e :: es) tail) 0).chain =
      [(zipChild n).info, zipNode.info, Gen.builtin.info] := by
  have hok := List.all_eq_true.mp docs_ok n hn
  simp only [docOK, Bool.and_eq_true] at hok
  obtain ⟨⟨hf, hpath⟩, hcd⟩ := hok
  obtain ⟨hdesc, hnodes⟩ := descend_zipPath n hf
  have hl := archive_length_38 h es tail
  have hkids' : ∀ c ∈ (zipChild n).children, accepts ext (archive (e :: es) tail) 0 c.info = false := by
    intro c hc
    have hcd' : c.info.det = odfDet c.info.mime := by
      simpa using List.all_eq_true.mp hcd c hc
    have hk := hkids c hc
    rw [mtB_eq] at hk
    rw [accepts_at30 ext _ 0 _ _ _ hcd' (by omega), hk, Bool.and_false]
  rw [mimetype_path ext e es tail h (zipPath n) (zipChild n) hdesc (List.all_eq_true.mp hpath) hkids'
    (rej_of_names_nil (odf_rival_names.1 n hn)), hnodes]
  rfl

/-- (document, template) -/
def odfTemplates : List (String × String) := [("odt", "ott"), ("ods", "ots"), ("odp", "otp"), ("odg", "otg")]

def tplPath (d t : String) : List (Tree Info → Bool) := [isNamed "zip", isNamed d, isNamed t]

/-- the regenerated facts used for a template `t` of `d`: `d` is a child of zip, `t` a child of `d`
    and a leaf, and zip, `d` and `t` accept by shape an archive whose `mimetype` file names `t`'s
    type (the document's signature is a beginning of the template's) -/
def tplOK (dt : String × String) : Bool :=
  (zipNode.children.find? (isNamed dt.1)).isSome &&
  ((zipChild dt.1).children.find? (isNamed dt.2)).isSome &&
  (pathNodes (tplPath dt.1 dt.2) Gen.builtin).all (fun x => acc (tplChild dt.1 dt.2).info.mime x.info.det) &&
  (tplChild dt.1 dt.2).children.isEmpty

theorem tpls_ok : odfTemplates.all tplOK = true := by decide +kernel

theorem tpl_rival_names : ∀ dt ∈ odfTemplates,
    ((rivals (tplPath dt.1 dt.2) Gen.builtin).filter
      (fun x => !rej (tplChild dt.1 dt.2).info.mime x.info.det)).map (·.info.name) = [] := by
  decide +kernel

theorem template_reported (ext : Ext) (d t : String) (hdt : (d, t) ∈ odfTemplates) (e : Entry)
    (es : List Entry) (tail : Bytes) (h : StoredMimetype e (tplChild d t).info.mime) :
    (detect ext Gen.builtin (archive (e :: es) tail) 0).chain =
      [(tplChild d t).info, (zipChild d).info, zipNode.info, Gen.builtin.info] := by
  have hok := List.all_eq_true.mp tpls_ok (d, t) hdt
  simp only [tplOK, Bool.and_eq_true, List.isEmpty_iff] at hok
  obtain ⟨⟨⟨hfd, hft⟩, hpath⟩, hleaf⟩ := hok
  have hdesc : descend (tplPath d t) Gen.builtin = some (tplChild d t) ∧
      pathNodes (tplPath d t) Gen.builtin = [zipNode, zipChild d, tplChild d t] := by
    have ht : (zipChild d).children.find? (isNamed t) = some (tplChild d t) := DetectPath.found _ hft
    simp [tplPath, descend, pathNodes, zip_found, child_found d hfd, ht]
  obtain ⟨hdesc, hnodes⟩ := hdesc
  have hkids : ∀ c ∈ (tplChild d t).children, accepts ext (archive (e :: es) tail) 0 c.info = false := by
    rw [hleaf]; simp
  rw [mimetype_path ext e es tail h (tplPath d t) (tplChild d t) hdesc (List.all_eq_true.mp hpath) hkids
    (rej_of_names_nil (tpl_rival_names (d, t) hdt)), hnodes]
  rfl

/- tree.go consults the OpenDocument formats before apk and jar, so the `Detect`-level theorems of
   this file do not need the two lemmas on apk and jar below; they are facts of their own: an
   OpenDocument archive that carries no APK/JAR marker name is not an APK or JAR for `zipContains`
   either. -/

/-- the entry names the APK check (five) and the JAR check (the last) look for -/
def apkJarMarkers : List Bytes :=
  [[65, 110, 100, 114, 111, 105, 100, 77, 97, 110, 105, 102, 101, 115, 116, 46, 120, 109, 108],
   [77, 69, 84, 65, 45, 73, 78, 70, 47, 99, 111, 109, 47, 97, 110, 100, 114, 111, 105, 100, 47, 98, 117, 105, 108, 100, 47, 103, 114, 97, 100, 108, 101, 47, 97, 112, 112, 45, 109, 101, 116, 97, 100, 97, 116, 97, 46, 112, 114, 111, 112, 101, 114, 116, 105, 101, 115],
   [99, 108, 97, 115, 115, 101, 115, 46, 100, 101, 120],
   [114, 101, 115, 111, 117, 114, 99, 101, 115, 46, 97, 114, 115, 99],
   [114, 101, 115, 47, 100, 114, 97, 119, 97, 98, 108, 101],
   [77, 69, 84, 65, 45, 73, 78, 70, 47, 77, 65, 78, 73, 70, 69, 83, 84, 46, 77, 70]]

theorem apkJarMarkers_eq : apkJarMarkers =
    [ofString "AndroidManifest.xml", ofString "META-INF/com/android/build/gradle/app-metadata.properties",
     ofString "classes.dex", ofString "resources.arsc", ofString "res/drawable",
     ofString "META-INF/MANIFEST.MF"] := by
  repeat rw [ofString_ofList]
  decide +kernel

theorem apk_jar_not_accept (ext : Ext) (raw : Bytes) (lim : Nat)
    (h : ∀ s ∈ apkJarMarkers, zipContains raw s false = some false) :
    accepts ext raw lim (zipChild "apk").info = false ∧ accepts ext raw lim (zipChild "jar").info = false := by
  have hj : (zipChild "jar").info.det = Gen.d_Jar := by decide +kernel
  simp only [apkJarMarkers, List.forall_mem_cons, List.not_mem_nil, false_imp_iff, implies_true, and_true] at h
  obtain ⟨h1, h2, h3, h4, h5, h6⟩ := h
  constructor
  · unfold accepts Cust.detEval
    rw [apk_det]
    simp [Gen.d_APK, Det.evalWith, BExp.eval, Prim.eval, h1, h2, h3, h4, h5]
  · unfold accepts Cust.detEval
    rw [hj]
    simp [Gen.d_Jar, Det.evalWith, BExp.eval, Prim.eval, h6]

/-- apk and jar from the layout: in a clean archive (entry bodies and tail free of embedded
    local-header signatures) whose first entry is named `mimetype` and none of whose other entry
    names is comparable with an APK/JAR marker, no marker is found -/
theorem apk_jar_markers_absent (e : Entry) (es : List Entry) (tail : Bytes)
    (hname : e.name = ofString "mimetype")
    (hwf : ∀ x ∈ e :: es, x.WF) (hclean : ∀ x ∈ e :: es, x.Clean) (htail : CleanTail tail)
    (hnames : ∀ x ∈ es, ∀ s ∈ apkJarMarkers, incomp x.name s = true) :
    ∀ s ∈ apkJarMarkers, zipContains (archive (e :: es) tail) s false = some false := by
  intro s hs
  refine no_marker_plain_zip' (e :: es) tail s false hwf hclean htail ?_
  intro x hx
  have hi : incomp x.name s = true := by
    rcases List.mem_cons.mp hx with rfl | hx
    · rw [hname, mtB_eq]
      have : apkJarMarkers.all (fun s => incomp mtB s) = true := by decide +kernel
      exact List.all_eq_true.mp this s hs
    · exact hnames x hx s hs
  simpa [incomp] using hi

/-- the templates' types are their documents' types followed by `-template` -/
theorem tpl_dash : ∀ n ∈ odfDocs, ∀ c ∈ (zipChild n).children,
    hasPrefix c.info.mime ((zipChild n).info.mime ++ [45]) = true := by decide +kernel

/-- the template from the layout: when the stored `mimetype` file *is* the type (no further
    bytes), has no data descriptor and another entry follows, the file does not go on to spell
    the template's type: after the type comes `P` of the next local header, not `-` -/
theorem stored_exact_kids (n : String) (hn : n ∈ odfDocs) (e : Entry) (es : List Entry) (tail : Bytes)
    (h : StoredMimetype e (zipChild n).info.mime) (hdata : e.data = (zipChild n).info.mime)
    (hdesc : e.desc = []) (hes : es ≠ []) :
    ∀ c ∈ (zipChild n).children,
      hasPrefix ((archive (e :: es) tail).drop 30) (ofString "mimetype" ++ c.info.mime) = false := by
  intro c hc
  obtain ⟨e2, es', rfl⟩ : ∃ e2 es', es = e2 :: es' := by
    cases es with
    | nil => exact absurd rfl hes
    | cons a b => exact ⟨a, b, rfl⟩
  rw [drop30 h, mtB_eq, hasPrefix_append_left, hdata, hdesc, List.nil_append, archive_pk34]
  cases hp : hasPrefix _ c.info.mime with
  | false => rfl
  | true =>
    exfalso
    have h2 := hasPrefix_trans hp (tpl_dash n hn c hc)
    rw [hasPrefix_append_left] at h2
    simp [hasPrefix, pk34, List.isPrefixOf] at h2

theorem odf_reported (ext : Ext) (n : String) (hn : n ∈ odfDocs) (e : Entry) (es : List Entry)
    (tail : Bytes) (h : StoredMimetype e (zipChild n).info.mime)
    (hdata : e.data = (zipChild n).info.mime) (hdesc : e.desc = []) (hes : es ≠ []) :
    (detect ext Gen.builtin (archive (e :: es) tail) 0).chain =
      [(zipChild n).info, zipNode.info, Gen.builtin.info] :=
  odf_detected ext n hn e es tail h (stored_exact_kids n hn e es tail h hdata hdesc hes)

theorem zip_parent : zipNode.info.mime = ofString "application/zip" ∧
    Gen.builtin.info.mime = ofString "application/octet-stream" := by
  repeat rw [ofString_ofList]
  decide +kernel

theorem template_parents : odfTemplates.map (fun dt => ((tplChild dt.1 dt.2).info.name, (zipChild dt.1).info.name)) =
    [("ott", "odt"), ("ots", "ods"), ("otp", "odp"), ("otg", "odg")] := by decide +kernel

/-- stored `mimetype` file of an EPUB: 20 bytes of data, 8 bytes of name -/
def exEpubMime : Entry :=
  ⟨exFixed 20 8, mtB, [], [97, 112, 112, 108, 105, 99, 97, 116, 105, 111, 110, 47, 101, 112, 117, 98, 43, 122, 105, 112], []⟩
/-- `META-INF/container.xml`, 20 bytes of data -/
def exContainer : Entry :=
  ⟨exFixed 20 22, [77, 69, 84, 65, 45, 73, 78, 70, 47, 99, 111, 110, 116, 97, 105, 110, 101, 114, 46, 120, 109, 108], [],
   List.replicate 20 120, []⟩
/-- stored `mimetype` file of an OpenDocument text (39 bytes) and of a text template (48 bytes) -/
def exOdtMime : Entry := ⟨exFixed 39 8, mtB, [], (zipChild "odt").info.mime, []⟩
def exOttMime : Entry := ⟨exFixed 48 8, mtB, [], (tplChild "odt" "ott").info.mime, []⟩
/-- `content.xml` -/
def exContent : Entry :=
  ⟨exFixed 20 11, [99, 111, 110, 116, 101, 110, 116, 46, 120, 109, 108], [], List.replicate 20 120, []⟩

example : exContainer.name = ofString "META-INF/container.xml" ∧ exContent.name = ofString "content.xml" := by
  repeat rw [ofString_ofList]
  decide +kernel

theorem exEpubMime_stored : StoredMimetype exEpubMime (ofString "application/epub+zip") := by
  rw [← odf_mimes_head.1]; decide +kernel

/-- the hypothesis of `epub_detected` holds for `mimetype, META-INF/container.xml` + tail … -/
example : StoredMimetype exEpubMime (ofString "application/epub+zip") := exEpubMime_stored

example (ext : Ext) : (detect ext Gen.builtin (archive [exEpubMime, exContainer] exTail) 0).chain =
    [(zipChild "epub").info, zipNode.info, Gen.builtin.info] :=
  epub_detected ext exEpubMime [exContainer] exTail exEpubMime_stored

/-- … and direct evaluation of the closed model (independent of the theorems) gives
    application/epub+zip, application/zip, application/octet-stream -/
example : (Closed.detect (archive [exEpubMime, exContainer] exTail) 0).chain.map (·.mime) =
    [ofString "application/epub+zip", ofString "application/zip", ofString "application/octet-stream"] := by
  rw [← odf_mimes_head.1, ← zip_parent.1, ← zip_parent.2]
  decide +kernel

example : accepts Closed.ext (archive [exEpubMime, exContainer] exTail) 0 (zipChild "epub").info = true ∧
    zipContains (archive [exEpubMime, exContainer] exTail) [119, 111, 114, 100, 47] true = some false := by
  decide +kernel

/-- all hypotheses of `odf_reported` hold for `mimetype, content.xml` + tail (odt) … -/
example (ext : Ext) : (detect ext Gen.builtin (archive [exOdtMime, exContent] exTail) 0).chain =
    [(zipChild "odt").info, zipNode.info, Gen.builtin.info] :=
  odf_reported ext "odt" (by decide +kernel) exOdtMime [exContent] exTail (by decide +kernel) (by decide +kernel)
    (by decide +kernel) (by decide +kernel)

/-- … and of `template_reported` (ott below odt) … -/
example (ext : Ext) : (detect ext Gen.builtin (archive [exOttMime, exContent] exTail) 0).chain =
    [(tplChild "odt" "ott").info, (zipChild "odt").info, zipNode.info, Gen.builtin.info] :=
  template_reported ext "odt" "ott" (by decide +kernel) exOttMime [exContent] exTail (by decide +kernel)

/-- … which direct evaluation of the closed model confirms -/
example : (Closed.detect (archive [exOdtMime, exContent] exTail) 0).chain.map (·.mime) =
      [ofString "application/vnd.oasis.opendocument.text", ofString "application/zip",
       ofString "application/octet-stream"] ∧
    (Closed.detect (archive [exOttMime, exContent] exTail) 0).chain.map (·.mime) =
      [ofString "application/vnd.oasis.opendocument.text-template",
       ofString "application/vnd.oasis.opendocument.text", ofString "application/zip",
       ofString "application/octet-stream"] := by
  rw [← odf_mimes_head.2.1, ← odf_mimes_head.2.2, ← zip_parent.1, ← zip_parent.2]
  decide +kernel

/-- an entry named `META-INF/MANIFEST.MF` -/
def exManifest : Entry := ⟨exFixed 20 20, C19Base.kManifest, [], List.replicate 20 120, []⟩

/-- the order of the tree decides (known_findings.txt, C19: with jar consulted before odt
    the verdict would be application/jar): `mimetype` (odt), `content.xml`, then an entry named
    `META-INF/MANIFEST.MF` is reported as OpenDocument text below application/zip — by the theorem … -/
example (ext : Ext) : (detect ext Gen.builtin (archive [exOdtMime, exContent, exManifest] exTail) 0).chain =
    [(zipChild "odt").info, zipNode.info, Gen.builtin.info] :=
  odf_reported ext "odt" (by decide +kernel) exOdtMime [exContent, exManifest] exTail (by decide +kernel)
    (by decide +kernel) (by decide +kernel) (by decide +kernel)

/-- … and by direct evaluation of the closed model; the Jar check itself still finds the manifest
    in that archive (it is the order of the tree that decides), and with the manifest as second
    entry too the verdict is odt -/
example : (Closed.detect (archive [exOdtMime, exContent, exManifest] exTail) 0).chain.map (·.mime) =
      [ofString "application/vnd.oasis.opendocument.text", ofString "application/zip",
       ofString "application/octet-stream"] ∧
    zipContains (archive [exOdtMime, exContent, exManifest] exTail) C19Base.kManifest false = some true ∧
    accepts Closed.ext (archive [exOdtMime, exContent, exManifest] exTail) 0 (zipChild "jar").info = true ∧
    (Closed.detect (archive [exOdtMime, exManifest] exTail) 0).chain.map (·.mime) =
      [ofString "application/vnd.oasis.opendocument.text", ofString "application/zip",
       ofString "application/octet-stream"] := by
  rw [← odf_mimes_head.2.1, ← zip_parent.1, ← zip_parent.2]
  decide +kernel

/-- a jar is still a jar: first entry `META-INF/MANIFEST.MF`, then `content.xml`: reported as
    application/jar below application/zip (no OpenDocument node accepts: no `mimetype` at
    offset 30) -/
example : (Closed.detect (archive [exManifest, exContent] exTail) 0).chain.map (·.mime) =
      [ofString "application/jar", ofString "application/zip", ofString "application/octet-stream"] ∧
    odfNodes.all (fun t => !accepts Closed.ext (archive [exManifest, exContent] exTail) 0 t.info) = true := by
  rw [← zip_parent.1, ← zip_parent.2]
  decide +kernel

end Mime.C19Odf
