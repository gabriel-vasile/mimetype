import MimeModel.Props.C12_Detect
import MimeModel.Lemmas.DetectSound
import MimeModel.Lemmas.DetectText
import MimeModel.Lemmas.XmlTok
/-
  C12, HTML clause, on the result of `Detect`: what the `HTML` check looks at (the header behind an optional
  UTF-8 BOM and white space) and which openings it accepts (`HtmlOpen`), the walk root → text/plain →
  text/html, the prologue grammar with `<script>` and raw-text elements (`PrologueR`), the `http-equiv`
  pragma among inert attributes, and white space around the `=` of an attribute (`EqWs`).
-/
namespace Mime.DetectHtml
open Mime Mime.Charset Mime.HtmlTok Mime.HtmlTokLemmas Mime.HtmlUnescapeLemmas Mime.HtmlEnt
open Mime.Tree Mime.WalkPath Mime.Cust Mime.C12

/-- the part of the header the `markup` checks are applied to: behind a UTF-8 BOM (and only that
    BOM) and leading white space -/
def markupView (raw : Bytes) : Bytes :=
  if hasPrefix raw utf8BOM then trimLWS (raw.drop 3) else trimLWS raw

theorem accepts_markup (ext : Ext) (i : Info) (sigs : List Bytes) (hdet : i.det = .markup sigs) (raw : Bytes) (lim : Nat) :
    accepts ext raw lim i =
      ((if (markupView raw).isEmpty then some false else anyG (fun s => markupCheck s (markupView raw)) sigs) == some true) := by
  unfold accepts Cust.detEval markupView
  rw [hdet]
  rfl

theorem hasPrefix_bom_lead (lead : Bytes) (r : Bytes) (hlead : ∀ c ∈ lead, isWS c = true) :
    hasPrefix (lead ++ 0x3C :: r) utf8BOM = false := by
  cases lead with
  | nil => simp [hasPrefix, utf8BOM, List.isPrefixOf]
  | cons c cs =>
    have hc := hlead c (List.mem_cons_self ..)
    have : c ≠ 0xEF := by
      intro e; subst e; simp [isWS] at hc
    have e : ((0xEF : Nat) == c) = false := by simpa using fun e => this e.symm
    simp [hasPrefix, utf8BOM, List.isPrefixOf, e]

theorem markupView_lead (bom : Bool) (lead r : Bytes) (hlead : ∀ c ∈ lead, isWS c = true) :
    markupView ((if bom then utf8BOM else []) ++ (lead ++ 0x3C :: r)) = 0x3C :: r := by
  unfold markupView
  cases bom with
  | false =>
    rw [if_neg Bool.false_ne_true, List.nil_append, hasPrefix_bom_lead lead r hlead, if_neg Bool.false_ne_true]
    exact trimLWS_lead lead 0x3C r hlead (by decide)
  | true =>
    have h : hasPrefix (utf8BOM ++ (lead ++ 0x3C :: r)) utf8BOM = true := by
      simp [hasPrefix, utf8BOM, List.isPrefixOf]
    rw [if_pos rfl, h, if_pos rfl]
    exact trimLWS_lead lead 0x3C r hlead (by decide)

def htmlSigs : List Bytes := match Gen.d_HTML with
  | .markup s => s
  | _ => []

theorem d_HTML_eq : Gen.d_HTML = .markup htmlSigs := rfl

/-- the `<html …>` start tags the `HTML` check recognises: the byte behind the name is `>` or a
    SPACE (not a TAB, not a line break: `markupCheck` wants `' '` or `'>'` behind the signature) -/
def HtmlTagOk (hws : Bytes) (has : List AttrSrc) : Prop :=
  (∀ x ∈ hws, isWS x = true) ∧ (hws = [] → has = []) ∧ attrsWf has ∧ (∀ x, hws.head? = some x → x = 0x20)

theorem htmlTagOk_nil : HtmlTagOk [] [] := by
  refine ⟨?_, fun _ => rfl, trivial, ?_⟩
  · intro x hx; cases hx
  · intro x hx; cases hx

theorem tagText_html_shape (htmlNm hws : Bytes) (has : List AttrSrc) (body : Bytes) (h : HtmlTagOk hws has) :
    ∃ c tail, (c = 0x3E ∨ c = 0x20) ∧ tagText htmlNm hws has ++ body = 0x3C :: htmlNm ++ c :: tail := by
  obtain ⟨_, h0, _, hh⟩ := h
  cases hws with
  | nil =>
    rw [h0 rfl]
    exact ⟨0x3E, body, Or.inl rfl, by simp [tagText, attrsText]⟩
  | cons x w =>
    have := hh x rfl
    subst this
    exact ⟨0x20, w ++ attrsText has ++ [0x3E] ++ body, Or.inr rfl, by simp [tagText]⟩

theorem anyG_false {α} (f : α → Option Bool) (l : List α) (h : ∀ a ∈ l, f a = some false) : anyG f l = some false := by
  induction l with
  | nil => rfl
  | cons x xs ih =>
    simp only [anyG, h x (List.mem_cons_self ..)]
    exact ih (fun a ha => h a (List.mem_cons_of_mem _ ha))

theorem markupCheck_head_ne (bs r : Bytes) (c : Nat) (hc : c ≠ 0x3C) :
    markupCheck (0x3C :: bs) (c :: r) = some false := by
  unfold markupCheck
  split
  · rfl
  · have e : ((0x3C : Nat) != c) = true := by simpa using fun e => hc e.symm
    simp [ciMatch, e]

theorem html_sigs_lt : ∀ s ∈ htmlSigs, s.head? = some 0x3C := by decide

/-- the `HTML` check rejects every header whose first byte is not white space, `<` or 0xEF —
    in particular every header that starts with a UTF-16 / UTF-32 byte-order mark -/
theorem html_rejects_head (ext : Ext) (i : Info) (hdet : i.det = Gen.d_HTML) (c : Nat) (r : Bytes) (lim : Nat)
    (hws : isWS c = false) (hlt : c ≠ 0x3C) (hef : c ≠ 0xEF) :
    accepts ext (c :: r) lim i = false := by
  have e : ((0xEF : Nat) == c) = false := by simpa using fun e => hef e.symm
  have hv : markupView (c :: r) = c :: r := by simp [markupView, hasPrefix, utf8BOM, List.isPrefixOf, e, trimLWS, hws]
  rw [accepts_markup ext i htmlSigs (hdet.trans d_HTML_eq), hv, anyG_false]
  · rfl
  · intro s hs
    have := html_sigs_lt s hs
    cases s with
    | nil => simp at this
    | cons b bs =>
      simp only [List.head?_cons, Option.some.injEq] at this
      subst this
      exact markupCheck_head_ne bs r c hlt

/-- if the text/plain check and the `HTML` check accept the examined header, the leaf
    is the `text/html` node and the charset parameter is `FromHTML` of the header (the tokenizer
    model in full) — unless a rival (a root format in front of text/plain; `html` is the first child
    of text/plain) accepts -/
theorem html_detected_header (doc : Bytes) (lim : Nat)
    (htext : Cust.text (header doc lim) = true)
    (hacc : accepts Closed.ext (header doc lim) lim htmlNode.info = true) :
    ((Mime.detect Closed.ext Gen.builtin doc lim).chain.head? = some htmlNode.info ∧
      (Mime.detect Closed.ext Gen.builtin doc lim).charset = fromHTMLBytesFull (header doc lim)) ∨
    (∃ d ∈ rivals htmlPath Gen.builtin, accepts Closed.ext (header doc lim) lim d.info = true) := by
  obtain ⟨_, hleaf, hmime, _⟩ := html_node_facts
  rcases DetectPath.detect_along_childless Closed.ext Gen.builtin doc lim htmlPath htmlNode
      (DetectText.descend_text html_found) (DetectText.accepted_text Closed.ext _ lim html_found htext hacc)
      hleaf with ⟨h1, h2⟩ | h
  · refine Or.inl ⟨by rw [h1]; rfl, ?_⟩
    rw [h2, hmime, DetectSound.charsetFor_html]
    rfl
  · exact Or.inr h

theorem rawNames_ne_meta : ∀ tag ∈ rawNames, tag ≠ kMeta := by decide

/-- `Prologue` (text without `<`, comments, doctype / markup declarations, ordinary start tags other
    than `meta`, end tags) extended by complete `<script …>…</script …>` elements (text without
    `</script` and `<!--`) and complete raw-text / RCDATA elements — title, textarea, style, xmp,
    iframe, noembed, noframes, noscript (text without `</name`) — in any letter case -/
inductive PrologueR : Bytes → Prop
  | nil : PrologueR []
  | plain (Q P : Bytes) : Prologue Q → PrologueR P → PrologueR (Q ++ P)
  | script (nm ws0 : Bytes) (as : List AttrSrc) (body cnm cws P : Bytes) :
      lowerASCII nm = kScript → (∀ x ∈ ws0, isWS x = true) → (ws0 = [] → as = []) → attrsWf as →
      scriptBodyOk body = true → lowerASCII cnm = kScript → (∀ x ∈ cws, isWS x = true) → PrologueR P →
      PrologueR (tagText nm ws0 as ++ body ++ endTagText cnm cws ++ P)
  | rawtext (tag nm ws0 : Bytes) (as : List AttrSrc) (body cnm cws P : Bytes) :
      tag ∈ rawNames → lowerASCII nm = tag → (∀ x ∈ ws0, isWS x = true) → (ws0 = [] → as = []) → attrsWf as →
      rawBodyOk tag body = true → lowerASCII cnm = tag → (∀ x ∈ cws, isWS x = true) → PrologueR P →
      PrologueR (tagText nm ws0 as ++ body ++ endTagText cnm cws ++ P)

theorem PrologueR.skips {P : Bytes} (h : PrologueR P) : Skips P := by
  induction h with
  | nil => exact Skips.nil
  | plain Q P hQ _ ih => exact hQ.skips.append ih
  | script nm ws0 as body cnm cws P h1 h2 h3 h4 h5 h6 h7 _ ih =>
    exact Skips.append ⟨[{ name := kScript, attrs := parsed as }],
      fun _ ht => List.eq_of_mem_singleton ht ▸ (by decide : kScript ≠ kMeta),
      fun rest => script_hides_meta nm ws0 as body cnm cws rest h1 h2 h3 h4 h5 h6 h7⟩ ih
  | rawtext tag nm ws0 as body cnm cws P h0 h1 h2 h3 h4 h5 h6 h7 _ ih =>
    exact Skips.append ⟨[{ name := tag, attrs := parsed as }],
      fun _ ht => List.eq_of_mem_singleton ht ▸ rawNames_ne_meta tag h0,
      fun rest => rawtext_hides_meta tag nm ws0 as body cnm cws rest h0 h1 h2 h3 h4 h5 h6 h7⟩ ih

theorem PrologueR.of_prologue {P : Bytes} (h : Prologue P) : PrologueR P := by
  have := PrologueR.plain P [] h .nil
  rwa [List.append_nil] at this

/-- the two source orders of the pragma: `a1` is the `http-equiv` attribute, `a2` the `content`
    attribute; `pre`, `mid`, `post` are inert attributes -/
def pragmaAttrs {α : Type} (order : Bool) (a1 a2 : α) (pre mid post : List α) : List α :=
  if order then pre ++ a1 :: (mid ++ a2 :: post) else pre ++ a2 :: (mid ++ a1 :: post)

theorem map_pragmaAttrs {α β : Type} (f : α → β) (order : Bool) (a1 a2 : α) (pre mid post : List α) :
    (pragmaAttrs order a1 a2 pre mid post).map f =
      pragmaAttrs order (f a1) (f a2) (pre.map f) (mid.map f) (post.map f) := by
  cases order <;> simp [pragmaAttrs]

/-- `http-equiv` = Content-Type (any letter case) and a
    `content` whose extracted label is non-empty decide, in either order, with inert attributes in
    front of, between and behind them -/
theorem meta_pragma_anywhere (order : Bool) {v1 v2 : Bytes} {pre mid post : List (Bytes × Bytes)} (ts : List Tag)
    (hct : lowerASCII v1 = kContentType) (hl : fromMetaElement (lowerASCII v2) ≠ [])
    (hpre : ∀ p ∈ pre, InertK p.1) (hmid : ∀ p ∈ mid, InertK p.1) (hpost : ∀ p ∈ post, InertK p.1) :
    fromHTMLToks ({ name := kMeta, attrs := pragmaAttrs order (kHttpEquiv, v1) (kContent, v2) pre mid post } :: ts) =
      finalLabel (fromMetaElement (lowerASCII v2)) := by
  have hl' : (fromMetaElement (lowerASCII v2) != []) = true := by simpa using hl
  have e1 : (kContent == kHttpEquiv) = false := by decide
  have nE : ¬ InertK kHttpEquiv := fun h => h.2.2 rfl
  have nC : ¬ InertK kContent := fun h => h.1 rfl
  cases order with
  | true =>
    simp only [pragmaAttrs, fromHTMLToks, bne_self_eq_false, Bool.false_eq_true, ↓reduceIte]
    obtain ⟨s1, hs1, q1⟩ := metaAttrs_skip_inert pre [] hpre
    have c1 : s1.contains kHttpEquiv = false := hs1 _ nE
    rw [q1]
    simp only [metaAttrs, c1, Bool.false_eq_true, ↓reduceIte, beq_self_eq_true, hct]
    obtain ⟨s2, hs2, q2⟩ := metaAttrs_skip_inert mid (kHttpEquiv :: s1) hmid
    have c2 : s2.contains kContent = false := by
      rw [hs2 _ nC, List.contains_cons, hs1 _ nC]
      rfl
    rw [q2]
    simp only [metaAttrs, c2, Bool.false_eq_true, ↓reduceIte, beq_self_eq_true, e1, hl']
    rw [metaAttrs_inert post _ _ _ _ hpost]
    simp [finalLabel]
  | false =>
    simp only [pragmaAttrs, fromHTMLToks, bne_self_eq_false, Bool.false_eq_true, ↓reduceIte]
    obtain ⟨s1, hs1, q1⟩ := metaAttrs_skip_inert pre [] hpre
    have c1 : s1.contains kContent = false := hs1 _ nC
    rw [q1]
    simp only [metaAttrs, c1, Bool.false_eq_true, ↓reduceIte, beq_self_eq_true, e1, hl']
    obtain ⟨s2, hs2, q2⟩ := metaAttrs_skip_inert mid (kContent :: s1) hmid
    have c2 : s2.contains kHttpEquiv = false := by
      rw [hs2 _ nE, List.contains_cons, hs1 _ nE]
      rfl
    rw [q2]
    simp only [metaAttrs, c2, Bool.false_eq_true, ↓reduceIte, beq_self_eq_true, hct]
    rw [metaAttrs_inert post _ _ _ _ hpost]
    simp [finalLabel]

/-- `<meta pre… http-equiv=V1 mid… content=V2 post…>` (or `content` first): with
    the DECODED values `v1 = attrVal V1`, `v2 = attrVal V2`: if `v1` is `content-type` in any letter
    case and `fromMetaElement` extracts a non-empty label from the lower-cased `v2`, that label is
    the answer of the prescan (utf-8 for utf-16 labels) -/
theorem pragma_toks (order : Bool) (a1 a2 : AttrSrc) (pre mid post : List AttrSrc)
    (hk1 : lowerASCII a1.key = kHttpEquiv) (hk2 : lowerASCII a2.key = kContent)
    (hv1 : lowerASCII (attrVal a1.val) = kContentType)
    (hv2 : fromMetaElement (lowerASCII (attrVal a2.val)) ≠ [])
    (hpre : ∀ a ∈ pre, inertKey a.key) (hmid : ∀ a ∈ mid, inertKey a.key) (hpost : ∀ a ∈ post, inertKey a.key)
    (more : List Tag) :
    fromHTMLToks (finishTagFull { name := kMeta, attrs := parsed (pragmaAttrs order a1 a2 pre mid post) } :: more) =
      finalLabel (fromMetaElement (lowerASCII (attrVal a2.val))) := by
  simp only [finishTagFull, parsed, map_pragmaAttrs, hk1, hk2]
  exact meta_pragma_anywhere order more hv1 hv2 (inert_finishedFull pre hpre) (inert_finishedFull mid hmid)
    (inert_finishedFull post hpost)

/-- the white space in front of and behind the `=` of an attribute -/
structure EqWs where
  before : Bytes
  after : Bytes

def EqWs.none : EqWs := ⟨[], []⟩

def EqWs.ok (e : EqWs) : Prop := (∀ c ∈ e.before, isWS c = true) ∧ (∀ c ∈ e.after, isWS c = true)

/-- `key ws = ws value sep` -/
def attrTextW (a : AttrSrc) (e : EqWs) : Bytes := a.key ++ e.before ++ 0x3D :: (e.after ++ a.valText ++ a.sep)

def attrsTextW : List (AttrSrc × EqWs) → Bytes
  | [] => []
  | p :: l => attrTextW p.1 p.2 ++ attrsTextW l

def tagTextW (nm ws0 : Bytes) (l : List (AttrSrc × EqWs)) : Bytes := 0x3C :: nm ++ ws0 ++ attrsTextW l ++ [0x3E]

def plainAttrs (l : List (AttrSrc × EqWs)) : List AttrSrc := l.map Prod.fst

theorem run_attrsW (l : List (AttrSrc × EqWs)) (hwf : attrsWf (plainAttrs l)) (hw : ∀ p ∈ l, p.2.ok)
    (t : TagAcc) (rest : Bytes) :
    run (.beforeAttr t) (attrsTextW l ++ 0x3E :: rest) =
      run' (emit { t with attrs := t.attrs ++ parsed (plainAttrs l) }) rest := by
  induction l generalizing t with
  | nil => exact run_attrs [] hwf t rest
  | cons p l ih =>
    obtain ⟨ha, hlast, hwf'⟩ := hwf
    obtain ⟨he1, he2⟩ := hw p (List.mem_cons_self ..)
    simp only [attrsTextW, attrTextW, List.append_assoc, List.cons_append]
    refine (run_attrW p.1 ha p.2.before p.2.after he1 he2 t fun h1 h2 =>
      ⟨rest, by rw [List.map_eq_nil_iff.mp (hlast h1 h2)]; rfl⟩).trans ?_
    rw [ih hwf' (fun q hq => hw q (List.mem_cons_of_mem _ hq))]
    simp [save, parsed, plainAttrs]

/-- `<meta ws key ws = ws value …>`: white space around `=` changes nothing -/
theorem metaSrc_tagTextW (nm ws0 : Bytes) (l : List (AttrSrc × EqWs))
    (hnm : lowerASCII nm = kMeta) (hws : ∀ x ∈ ws0, isWS x = true) (hws0 : ws0 = [] → l = [])
    (hwf : attrsWf (plainAttrs l)) (hw : ∀ p ∈ l, p.2.ok) : MetaSrc (tagTextW nm ws0 l) (plainAttrs l) := by
  intro rest
  rw [rawTags, tagTextW, List.append_assoc, List.singleton_append]
  exact run_openTag kMeta nm ws0 rest hnm (ne_nil_of_lower hnm (by decide))
    (letters_of_lower nm kMeta hnm kMeta_lower) hws (fun h => by rw [hws0 h]; rfl) (run_attrsW l hwf hw · rest)

theorem plainAttrs_append_cons (pre post : List (AttrSrc × EqWs)) (p : AttrSrc × EqWs) :
    plainAttrs (pre ++ p :: post) = plainAttrs pre ++ p.1 :: plainAttrs post := by
  simp [plainAttrs]

theorem plainAttrs_pragma (order : Bool) (p1 p2 : AttrSrc × EqWs) (pre mid post : List (AttrSrc × EqWs)) :
    plainAttrs (pragmaAttrs order p1 p2 pre mid post) =
      pragmaAttrs order p1.1 p2.1 (plainAttrs pre) (plainAttrs mid) (plainAttrs post) :=
  map_pragmaAttrs Prod.fst order p1 p2 pre mid post

theorem plainAttrs_none (as : List AttrSrc) : plainAttrs (as.map (fun a => (a, EqWs.none))) = as := by
  simp [plainAttrs, Function.comp_def]

theorem eqWs_none_ok (as : List AttrSrc) : ∀ p ∈ as.map (fun a => (a, EqWs.none)), p.2.ok := by
  intro p hp
  obtain ⟨a, _, rfl⟩ := List.mem_map.mp hp
  constructor <;> (intro c hc; exact absurd hc (by simp [EqWs.none]))

theorem inert_plainAttrs (l : List (AttrSrc × EqWs)) (h : ∀ p ∈ l, inertKey p.1.key) :
    ∀ a ∈ plainAttrs l, inertKey a.key := by
  intro a ha
  obtain ⟨p, hp, rfl⟩ := List.mem_map.mp ha
  exact h p hp

theorem tagTextW_plain (nm ws0 : Bytes) (as : List AttrSrc) :
    tagTextW nm ws0 (as.map (fun a => (a, EqWs.none))) = tagText nm ws0 as := by
  have : attrsTextW (as.map (fun a => (a, EqWs.none))) = attrsText as := by
    induction as with
    | nil => rfl
    | cons a as ih =>
      simp only [List.map_cons, attrsTextW, attrsText, ih]
      simp [attrTextW, AttrSrc.text, EqWs.none]
  simp [tagTextW, tagText, this]

theorem fromBOM_lead_lt (lead r : Bytes) (hlead : ∀ c ∈ lead, isWS c = true) : fromBOM (lead ++ 0x3C :: r) = csNone := by
  cases lead with
  | nil => exact fromBOM_lt r
  | cons c cs =>
    have hc := hlead c (List.mem_cons_self ..)
    refine fromBOM_head c _ ?_
    simp only [isWS, Bool.or_eq_true, beq_iff_eq] at hc
    omega

theorem fromBOM_utf8 (r : Bytes) : fromBOM (utf8BOM ++ r) = csUtf8 := by
  simp [fromBOM, Gen.Charset.boms, fromBOMIn, hasPrefix, utf8BOM, List.isPrefixOf, csUtf8]

instance (a : AttrSrc) : Decidable a.wf := by
  unfold AttrSrc.wf
  cases a.form <;> exact inferInstance

instance decAttrsWf : (as : List AttrSrc) → Decidable (attrsWf as)
  | [] => isTrue trivial
  | a :: as =>
    have := decAttrsWf as
    have : Decidable (as = []) := decidable_of_iff (as.isEmpty = true) List.isEmpty_iff
    inferInstanceAs (Decidable (a.wf ∧ (a.form = .bare → a.sep = [] → as = []) ∧ attrsWf as))

instance (k : Bytes) : Decidable (inertKey k) :=
  inferInstanceAs (Decidable (lowerASCII k ≠ kContent ∧ lowerASCII k ≠ kwCharset ∧ lowerASCII k ≠ kHttpEquiv))

instance (e : EqWs) : Decidable e.ok :=
  inferInstanceAs (Decidable ((∀ c ∈ e.before, isWS c = true) ∧ (∀ c ∈ e.after, isWS c = true)))

instance (hws : Bytes) (has : List AttrSrc) : Decidable (HtmlTagOk hws has) :=
  match has with
  | [] => inferInstanceAs (Decidable ((∀ x ∈ hws, isWS x = true) ∧ (hws = [] → ([] : List AttrSrc) = []) ∧ attrsWf [] ∧
      (∀ x, hws.head? = some x → x = 0x20)))
  | a :: as =>
    have : Decidable (a :: as = []) := isFalse (by simp)
    inferInstanceAs (Decidable ((∀ x ∈ hws, isWS x = true) ∧ (hws = [] → a :: as = []) ∧ attrsWf (a :: as) ∧
      (∀ x, hws.head? = some x → x = 0x20)))

theorem htmlNode_det : htmlNode.info.det = .markup htmlSigs := by
  obtain ⟨_, _, _, _, hdet⟩ := html_node
  exact hdet.trans d_HTML_eq

/-- a header that (behind an optional UTF-8 BOM and white space) consists of a letter-case variant of a
    signature of the table followed by `>` or SPACE is accepted by the `HTML` check -/
theorem html_accepts_sig (ext : Ext) (bom : Bool) (lead sig x : Bytes) (c : Nat) (tail : Bytes) (lim : Nat)
    (hlead : ∀ c ∈ lead, isWS c = true) (hmem : sig ∈ htmlSigs) (hsig : noLowerB sig = true)
    (hx : lowerASCII x = lowerASCII sig) (hhead : x.head? = some 0x3C) (hc : c = 0x3E ∨ c = 0x20) :
    accepts ext ((if bom then utf8BOM else []) ++ (lead ++ (x ++ c :: tail))) lim htmlNode.info = true := by
  cases x with
  | nil => simp at hhead
  | cons x0 xs =>
    simp only [List.head?_cons, Option.some.injEq] at hhead
    subst hhead
    have hm := markupCheck_lower sig (0x3C :: xs) c tail hsig hx hc
    rw [List.cons_append] at hm
    rw [accepts_markup ext _ htmlSigs htmlNode_det, List.cons_append, markupView_lead bom lead _ hlead,
      anyG_true _ htmlSigs (fun a _ => C01.markupCheck_total a _) sig hmem hm]
    rfl

/-- the element names among the signatures whose start tag is an ordinary one (no raw text) -/
def openNames : List Bytes :=
  [[104, 116, 109, 108], [104, 101, 97, 100], [98, 111, 100, 121], [100, 105, 118], [102, 111, 110, 116],
   [116, 97, 98, 108, 101], [97], [98], [98, 114], [112]]   -- html head body div font table a b br p

theorem openNames_ok : ∀ n ∈ openNames,
    (∃ sig ∈ htmlSigs, noLowerB sig = true ∧ lowerASCII sig = 0x3C :: n) ∧
    n ≠ kMeta ∧ afterStart n = .data ∧ n ≠ [] ∧ (∀ c ∈ n, 0x61 ≤ c ∧ c ≤ 0x7A) := by decide +kernel

def kDoctypeHtml : Bytes := [100, 111, 99, 116, 121, 112, 101, 32, 104, 116, 109, 108]   -- "doctype html"
def sigDoctype : Bytes := [60, 33, 68, 79, 67, 84, 89, 80, 69, 32, 72, 84, 77, 76]        -- "<!DOCTYPE HTML"

theorem sigDoctype_ok : sigDoctype ∈ htmlSigs ∧ noLowerB sigDoctype = true ∧
    lowerASCII sigDoctype = 0x3C :: 0x21 :: kDoctypeHtml := by decide +kernel

/-- what an HTML document starts with so that the `HTML` check says yes — leading
    white space, then
    * a start tag `<name>` or `<name` SPACE attributes `>` of html, head, body, div, font, table, a, b,
      br or p (any letter case), or
    * `<!DOCTYPE html>` / `<!DOCTYPE html` SPACE anything-without-`>` `>` (any letter case).
    (The remaining signatures — script, iframe, style, title, h1 — start raw text or have a digit in
    the name and are left out.) -/
inductive HtmlOpen : Bytes → Prop
  | tag (lead nm hsp : Bytes) (has : List AttrSrc) :
      (∀ c ∈ lead, isWS c = true) → lowerASCII nm ∈ openNames → HtmlTagOk hsp has →
      HtmlOpen (lead ++ tagText nm hsp has)
  | doctype (lead dt more : Bytes) :
      (∀ c ∈ lead, isWS c = true) → lowerASCII dt = kDoctypeHtml →
      (∀ x, more.head? = some x → x = 0x20) → (∀ c ∈ more, c ≠ 0x3E) →
      HtmlOpen (lead ++ declText (dt ++ more))

theorem skips_lead (lead : Bytes) (hlead : ∀ c ∈ lead, isWS c = true) : Skips lead := by
  refine skips_text lead ?_
  intro c hc e
  have := hlead c hc
  subst e
  simp [isWS] at this

theorem not_mem_of_lower (dt : Bytes) {kw : Bytes} (c : Nat) (h : lowerASCII dt = kw)
    (hc : (if (0x41 ≤ c && c ≤ 0x5A) = true then c + 0x20 else c) ∉ kw) : c ∉ dt :=
  fun hm => hc (h ▸ List.mem_map.mpr ⟨c, hm, rfl⟩)

theorem HtmlOpen.skips {O : Bytes} (h : HtmlOpen O) : Skips O := by
  cases h with
  | tag lead nm hsp has hlead hnm htag =>
    obtain ⟨h1, h2, h3, _⟩ := htag
    obtain ⟨_, hm, ha, hne, hlow⟩ := openNames_ok _ hnm
    exact (skips_lead lead hlead).append
      (skips_startTag nm hsp has (ne_nil_of_lower rfl hne) (letters_of_lower nm _ rfl hlow) hm ha h1 h2 h3)
  | doctype lead dt more hlead hdt hmore hgt =>
    refine (skips_lead lead hlead).append (skips_decl (dt ++ more) ?_ ?_)
    · exact fun c hc => (List.mem_append.mp hc).elim
        (fun h e => not_mem_of_lower dt 0x3E hdt (by decide) (e ▸ h)) (hgt c)
    · cases dt with
      | nil => exact absurd hdt (by decide)
      | cons d ds =>
        have hd : d ≠ 0x2D := fun e => not_mem_of_lower _ 0x2D hdt (by decide) (e ▸ List.mem_cons_self ..)
        have e : ((0x2D : Nat) == d) = false := by simpa using fun e => hd e.symm
        simp [hasPrefix, List.isPrefixOf, e]

/-- an opening, seen by the `HTML` check: white space, a letter-case variant of a signature, `>` or SPACE -/
theorem HtmlOpen.view {O : Bytes} (h : HtmlOpen O) (body : Bytes) :
    ∃ lead sig x c tail, (∀ c ∈ lead, isWS c = true) ∧ sig ∈ htmlSigs ∧ noLowerB sig = true ∧
      lowerASCII x = lowerASCII sig ∧ x.head? = some 0x3C ∧ (c = 0x3E ∨ c = 0x20) ∧
      O ++ body = lead ++ (x ++ c :: tail) := by
  cases h with
  | tag lead nm hsp has hlead hnm htag =>
    obtain ⟨⟨sig, hmem, hsig, hlow⟩, _⟩ := openNames_ok _ hnm
    obtain ⟨c, tail, hc, hshape⟩ := tagText_html_shape nm hsp has body htag
    refine ⟨lead, sig, 0x3C :: nm, c, tail, hlead, hmem, hsig, ?_, rfl, hc, ?_⟩
    · rw [hlow]; simp [lowerASCII]
    · rw [List.append_assoc, hshape]
  | doctype lead dt more hlead hdt hmore hgt =>
    obtain ⟨hmem, hsig, hlow⟩ := sigDoctype_ok
    have hx : lowerASCII (0x3C :: 0x21 :: dt) = lowerASCII sigDoctype := by
      rw [hlow, ← hdt]; simp [lowerASCII]
    obtain ⟨c, tail, hc, hshape⟩ : ∃ c tail, (c = 0x3E ∨ c = 0x20) ∧
        declText (dt ++ more) ++ body = 0x3C :: 0x21 :: dt ++ c :: tail := by
      cases more with
      | nil => exact ⟨0x3E, body, .inl rfl, by simp [declText]⟩
      | cons m ms => exact ⟨0x20, ms ++ [0x3E] ++ body, .inr rfl, by simp [declText, hmore m rfl]⟩
    exact ⟨lead, sigDoctype, 0x3C :: 0x21 :: dt, c, tail, hlead, hmem, hsig, hx, rfl, hc, by rw [List.append_assoc, hshape]⟩

theorem HtmlOpen.accepts {O : Bytes} (h : HtmlOpen O) (ext : Ext) (bom : Bool) (body : Bytes) (lim : Nat) :
    accepts ext ((if bom then utf8BOM else []) ++ (O ++ body)) lim htmlNode.info = true := by
  obtain ⟨lead, sig, x, c, tail, hlead, hmem, hsig, hx, hhead, hc, hshape⟩ := h.view body
  rw [hshape]
  exact html_accepts_sig ext bom lead sig x c tail lim hlead hmem hsig hx hhead hc

theorem html_accepts_lead (ext : Ext) (bom : Bool) (lead htmlNm hws : Bytes) (has : List AttrSrc) (body : Bytes) (lim : Nat)
    (hlead : ∀ c ∈ lead, isWS c = true) (hh : lowerASCII htmlNm = kHtml) (htag : HtmlTagOk hws has) :
    accepts ext ((if bom then utf8BOM else []) ++ (lead ++ (tagText htmlNm hws has ++ body))) lim htmlNode.info = true := by
  have := (HtmlOpen.tag lead htmlNm hws has hlead (by rw [hh]; decide) htag).accepts ext bom body lim
  rwa [List.append_assoc] at this

theorem HtmlOpen.noBOM {O : Bytes} (h : HtmlOpen O) (body : Bytes) : fromBOM (O ++ body) = csNone := by
  obtain ⟨lead, sig, x, c, tail, hlead, _, _, _, hhead, _, hshape⟩ := h.view body
  rw [hshape]
  cases x with
  | nil => simp at hhead
  | cons x0 xs =>
    simp only [List.head?_cons, Option.some.injEq] at hhead
    subst hhead
    exact fromBOM_lead_lt lead _ hlead

theorem htmlOpen_html (htmlNm : Bytes) (hh : lowerASCII htmlNm = kHtml) : HtmlOpen (tagText htmlNm [] []) := by
  have := HtmlOpen.tag [] htmlNm [] [] (by intro c hc; cases hc) (by rw [hh]; decide) htmlTagOk_nil
  simpa using this

instance decMemBytes (n : Bytes) (l : List Bytes) : Decidable (n ∈ l) := inferInstance

end Mime.DetectHtml
