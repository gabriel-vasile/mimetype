import MimeModel.Model.MediaType
/-
  `mime.ParseMediaType` on ARBITRARY byte strings (go1.23.5: src/mime/mediatype.go,
  src/strings/strings.go, src/unicode/utf8/utf8.go, src/unicode/graphic.go, letter.go).

  `Mime.MT.parse` is exact for ASCII input only.  What differs for other input is

    mediatype = strings.TrimSpace(strings.ToLower(base))            -- Unicode on both counts
    v = strings.TrimLeftFunc(v, unicode.IsSpace)                    -- in the parameter loop
    strings.TrimSpace(rest) == ";"                                  -- trailing semicolons

  Everything else in the parser is byte-wise (`consumeToken` stops at the first byte >= 0x80 because
  every such byte starts a rune >= 0x80 or U+FFFD, neither of which is a token character; the
  attribute name handed to `strings.ToLower` is therefore pure ASCII; `consumeValue` indexes bytes).

  Two models are given:

  * `typeOfU` / `errU` (the OFFICIAL one, used by the theorems): a Go string that is about to be
    decoded is represented by the rune sequence `for _, c := range s` yields (`runes`; an invalid
    byte yields U+FFFD and advances by one byte).  `ToLower` maps that sequence rune by rune
    (`strings.Map` writes U+FFFD for invalid bytes, so its result is valid UTF-8 and IS its rune
    sequence), `TrimSpace` strips `unicode.IsSpace` runes at both ends, and the token check looks at
    runes.  When the check passes every rune is < 0x7F, so the rune sequence is the byte string.

  * `typeOfB` / `errB`: a literal byte-level transcription (UTF-8 *encoding* of the mapped runes,
    `TrimSpace` with its ASCII fast paths, `TrimRightFunc` with `utf8.DecodeLastRuneInString`
    walking backwards).  It exists to validate the representation argument above: both models are
    run against the real package (tools/mediatype_unicode_validation_test.go.txt) and must agree
    with it on every input.  Proved links between the two: `decode1_encode`, `decode1_of_encode`
    (Lemmas/RuneCodec.lean: decoding and encoding are inverse on scalar values), `runes_lowerB`
    (`runes (lowerB s) = (runes s).map lowerRune`), and the equality of the two models on every byte
    string, the backward-walking `TrimRightFunc` included (Lemmas/MediaTypeUB.lean).

  DELIBERATE ABSTRACTION (the only one): `lowerRune` is `unicode.ToLower` on ASCII, U+212A and
  U+0130 and the IDENTITY elsewhere.  Exhaustively checked against go1.23.5's tables (TestFacts in
  the validation file): U+0130 -> 'i' and U+212A -> 'k' are the only runes >= 0x80 whose lower case
  is < 0x80; no ASCII rune leaves ASCII; `unicode.IsSpace(ToLower(r)) = unicode.IsSpace(r)`, white
  space is fixed by ToLower, and valid runes stay valid.  A rune >= 0x80 in the trimmed media type
  fails `checkMediaTypeDisposition` whatever its value, so the first return value and the error
  do not depend on the identity of those runes.
-/
namespace Mime.MTU
open Mime Mime.MT

/-! ### UTF-8 -/

/-- continuation byte `10xxxxxx` (`!utf8.RuneStart`) -/
def isCont (b : Nat) : Bool := 0x80 ≤ b && b ≤ 0xBF

/-- accept ranges of the second byte (utf8.go `acceptRanges`) -/
def lo3 (b0 : Nat) : Nat := if b0 == 0xE0 then 0xA0 else 0x80
def hi3 (b0 : Nat) : Nat := if b0 == 0xED then 0x9F else 0xBF
def lo4 (b0 : Nat) : Nat := if b0 == 0xF0 then 0x90 else 0x80
def hi4 (b0 : Nat) : Nat := if b0 == 0xF4 then 0x8F else 0xBF

/-- `utf8.DecodeRuneInString (b0 :: t)`: the rune and what follows it.  Anything that is not a
    shortest-form encoding of a scalar value gives `(U+FFFD, t)` (RuneError, width 1). -/
def decode1 (b0 : Nat) (t : Bytes) : Nat × Bytes :=
  if b0 < 0x80 then (b0, t)
  else if 0xC2 ≤ b0 && b0 ≤ 0xDF then
    match t with
    | b1 :: t1 => if isCont b1 then ((b0 - 0xC0) * 64 + (b1 - 0x80), t1) else (0xFFFD, t)
    | [] => (0xFFFD, t)
  else if 0xE0 ≤ b0 && b0 ≤ 0xEF then
    match t with
    | b1 :: b2 :: t2 =>
      if lo3 b0 ≤ b1 && b1 ≤ hi3 b0 && isCont b2 then
        (((b0 - 0xE0) * 64 + (b1 - 0x80)) * 64 + (b2 - 0x80), t2)
      else (0xFFFD, t)
    | _ => (0xFFFD, t)
  else if 0xF0 ≤ b0 && b0 ≤ 0xF4 then
    match t with
    | b1 :: b2 :: b3 :: t3 =>
      if lo4 b0 ≤ b1 && b1 ≤ hi4 b0 && isCont b2 && isCont b3 then
        ((((b0 - 0xF0) * 64 + (b1 - 0x80)) * 64 + (b2 - 0x80)) * 64 + (b3 - 0x80), t3)
      else (0xFFFD, t)
    | _ => (0xFFFD, t)
  else (0xFFFD, t)

/-- `for _, c := range s` (fuel = length) -/
def runesF : Nat → Bytes → List Nat
  | 0, _ => []
  | _, [] => []
  | f + 1, b0 :: t => (decode1 b0 t).1 :: runesF f (decode1 b0 t).2

def runes (s : Bytes) : List Nat := runesF s.length s

/-- `unicode.IsSpace` -/
def isSpaceRune (r : Nat) : Bool :=
  r == 0x20 || (0x09 ≤ r && r ≤ 0x0D) || r == 0x85 || r == 0xA0 || r == 0x1680 ||
  (0x2000 ≤ r && r ≤ 0x200A) || r == 0x2028 || r == 0x2029 || r == 0x202F || r == 0x205F || r == 0x3000

/-- `unicode.ToLower` on ASCII, U+212A KELVIN SIGN and U+0130; identity elsewhere (see the header) -/
def lowerRune (r : Nat) : Nat :=
  if 0x41 ≤ r && r ≤ 0x5A then r + 0x20
  else if r == 0x212A then 0x6B
  else if r == 0x130 then 0x69
  else r

/-- `strings.TrimSpace` on a rune sequence -/
def trimR (rs : List Nat) : List Nat := ((rs.dropWhile isSpaceRune).reverse.dropWhile isSpaceRune).reverse

/-- `strings.TrimLeftFunc(s, unicode.IsSpace)` on raw bytes (fuel = length) -/
def trimLeftF : Nat → Bytes → Bytes
  | 0, s => s
  | _, [] => []
  | f + 1, b0 :: t => if isSpaceRune (decode1 b0 t).1 then trimLeftF f (decode1 b0 t).2 else b0 :: t

def trimLeftU (s : Bytes) : Bytes := trimLeftF s.length s

/-! ### the parameter loop -/

/-- `consumeMediaParam` (`v` already left-trimmed or not: it trims again, as in Go) -/
def consumeParamU (v : Bytes) : Option (Bytes × Bytes × Bytes) :=
  match trimLeftU v with
  | 0x3B :: r =>
    let (p, r1) := consumeToken (trimLeftU r)
    if p.isEmpty then none else
    match trimLeftU r1 with
    | 0x3D :: r2 =>
      match consumeValue (trimLeftU r2) with
      | some (val, r3) => some (lower p, val, r3)
      | none => none
    | _ => none
  | _ => none

/-- the loop of `ParseMediaType`; `semiOnly rest` models `strings.TrimSpace(rest) == ";"` -/
def parseParamsU (semiOnly : Bytes → Bool) : Nat → Bytes → List (Bytes × Bytes) → PErr
  | 0, _, _ => .none
  | fuel + 1, v, acc =>
    let v1 := trimLeftU v
    if v1.isEmpty then .none else
    match consumeParamU v1 with
    | none => if semiOnly v1 then .none else .invalidParam
    | some (k, val, rest) =>
      if acc.any (fun q => q.1 == k && q.2 != val) then .duplicate
      else parseParamsU semiOnly fuel rest ((k, val) :: acc)

/-- `strings.TrimSpace(rest) == ";"` on the rune sequence of `rest` -/
def semiOnlyU (rest : Bytes) : Bool := trimR (runes rest) == [0x3B]

/-- `(mediatype, error class)` of `mime.ParseMediaType(string(v))` -/
def parseU (v : Bytes) : Bytes × PErr :=
  let (base, rest) := cutSemi v
  let mt := trimR ((runes base).map lowerRune)
  if !checkType mt then ([], .noType) else
  match parseParamsU semiOnlyU (v.length + 1) rest [] with
  | .invalidParam => (mt, .invalidParam)
  | .duplicate => ([], .duplicate)
  | _ => (mt, .none)

/-- the first return value of `mime.ParseMediaType(string(v))`, for every byte string `v` -/
def typeOfU (v : Bytes) : Bytes := (parseU v).1

/-- the error: `.none` = nil, `.invalidParam` = `mime.ErrInvalidMediaParameter`,
    `.noType` = one of the four `checkMediaTypeDisposition` errors, `.duplicate` -/
def errU (v : Bytes) : PErr := (parseU v).2

/-! ### literal byte-level transcription (validation only) -/

/-- `utf8.AppendRune` -/
def encodeRune (r : Nat) : Bytes :=
  if r < 0x80 then [r]
  else if r < 0x800 then [0xC0 + r / 64, 0x80 + r % 64]
  else if (0xD800 ≤ r && r ≤ 0xDFFF) || r > 0x10FFFF then [0xEF, 0xBF, 0xBD]
  else if r < 0x10000 then [0xE0 + r / 4096, 0x80 + r / 64 % 64, 0x80 + r % 64]
  else [0xF0 + r / 262144, 0x80 + r / 4096 % 64, 0x80 + r / 64 % 64, 0x80 + r % 64]

/-- `strings.ToLower` (up to the identity of cased runes >= 0x80 other than U+212A / U+0130) -/
def lowerB (s : Bytes) : Bytes := (runes s).flatMap (fun r => encodeRune (lowerRune r))

/-- `utf8.DecodeLastRuneInString` on the REVERSED string `r0 :: more`: rune and the reversed rest -/
def decodeLast (r0 : Nat) (more : Bytes) : Nat × Bytes :=
  let fin (d : Nat × Bytes) (restOk : Bytes) : Nat × Bytes :=
    if d.2.isEmpty then (d.1, restOk) else (0xFFFD, more)
  if r0 < 0x80 then (r0, more) else
  match more with
  | [] => (0xFFFD, more)
  | m0 :: t0 =>
    if !isCont m0 then fin (decode1 m0 [r0]) t0
    else match t0 with
      | [] => (0xFFFD, more)
      | m1 :: t1 =>
        if !isCont m1 then fin (decode1 m1 [m0, r0]) t1
        else match t1 with
          | [] => (0xFFFD, more)
          | m2 :: t2 =>
            if !isCont m2 then fin (decode1 m2 [m1, m0, r0]) t2 else (0xFFFD, more)

/-- `lastIndexFunc(s, unicode.IsSpace, false)` on the reversed string; `none` = -1 -/
def lastIdxF : Nat → Bytes → Option Nat
  | 0, _ => none
  | _, [] => none
  | f + 1, r0 :: more =>
    if isSpaceRune (decodeLast r0 more).1 then lastIdxF f (decodeLast r0 more).2
    else some (decodeLast r0 more).2.length

/-- `strings.TrimRightFunc(s, unicode.IsSpace)` -/
def trimRightB (s : Bytes) : Bytes :=
  match lastIdxF s.length s.reverse with
  | none => []
  | some i =>
    match s.drop i with
    | b0 :: t => if b0 ≥ 0x80 then s.take (i + (t.length + 1 - (decode1 b0 t).2.length)) else s.take (i + 1)
    | [] => s.take (i + 1)

/-- second loop of `strings.TrimSpace` on the reversed `s[start:]` -/
def tsRight : Bytes → Bytes
  | [] => []
  | c :: cs => if c ≥ 0x80 then trimRightB (c :: cs).reverse else if isSp c then tsRight cs else (c :: cs).reverse

/-- `strings.TrimSpace` with its ASCII fast paths -/
def trimSpaceB : Bytes → Bytes
  | [] => []
  | c :: cs =>
    if c ≥ 0x80 then trimRightB (trimLeftU (c :: cs))
    else if isSp c then trimSpaceB cs
    else tsRight (c :: cs).reverse

def semiOnlyB (rest : Bytes) : Bool := trimSpaceB rest == [0x3B]

def parseB (v : Bytes) : Bytes × PErr :=
  let (base, rest) := cutSemi v
  let mt := trimSpaceB (lowerB base)
  if !checkType mt then ([], .noType) else
  match parseParamsU semiOnlyB (v.length + 1) rest [] with
  | .invalidParam => (mt, .invalidParam)
  | .duplicate => ([], .duplicate)
  | _ => (mt, .none)

def typeOfB (v : Bytes) : Bytes := (parseB v).1
def errB (v : Bytes) : PErr := (parseB v).2

end Mime.MTU
